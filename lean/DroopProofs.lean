import DroopProofs.StepRel
import DroopProofs.WigmLoop
import DroopProofs.OptionsLaws
import DroopProofs.OracleBridge
import DroopProofs.LawfulMore
import DroopProofs.FixedLaws
import DroopProofs.GuardedLaws
import DroopProofs.Counting
import DroopProofs.Monotone
import DroopProofs.MeekDist
import DroopProofs.MeekIter
import DroopProofs.InvScot
import DroopProofs.InvCfer
import DroopProofs.InvMpls
import DroopProofs.MeekRun
import DroopProofs.MeekRound
import DroopProofs.MeekComm
import DroopProofs.RunCommon
import DroopProofs.RunRel
import DroopProofs.RunInv
import DroopProofs.RunScot
import DroopProofs.RunCfer
import DroopProofs.RunWigm
import DroopProofs.Lower
import DroopProofs.LowerRun
import DroopProofs.RunMpls
import DroopProofs.RunZero
import DroopProofs.SureLosers
import DroopProofs.ParseTally
import DroopProofs.MeekSign
import DroopProofs.LowerBridge
import DroopProofs.CaseInit
import DroopProofs.Sticky
import DroopProofs.Majority
import DroopProofs.MajorityRun
import DroopProofs.FrameRun
import DroopProofs.Coalition
import DroopProofs.CoalitionRun
import DroopProofs.CoalitionScot
import DroopProofs.CoalitionWigm
import DroopProofs.DropW
import DroopProofs.StepComm
import DroopProofs.DropWWigm
import DroopProofs.DropWCfer
import DroopProofs.DropWScot
import DroopProofs.DropWMpls
import DroopProofs.PrfDist
import DroopProofs.PermB
import DroopProofs.PermBWigm
import DroopProofs.PermBMore
import DroopProofs.SplitB
import DroopProofs.PermBMeek
import DroopProofs.PrfStages
import DroopProofs.PermBPrf
import DroopProofs.QpqStages
import DroopProofs.PermBQpq
import DroopProofs.MeekMon
import DroopProofs.CaseInitMeek
import DroopProofs.NameIrrel
import DroopProofs.PrfMon
import DroopProofs.QpqTerm
import DroopProofs.MeekFirst
import DroopProofs.PrfFirst
import DroopProofs.QpqMon
import DroopProofs.QpqSeats
import DroopProofs.QpqLow
import DroopProofs.QpqSum
import DroopProofs.QpqFig
import DroopProofs.QpqFirst
import DroopProofs.QpqComm
import DroopProofs.DropWQpq
import DroopProofs.DropWMeek
import DroopProofs.DropWPrf
import DroopProofs.SplitQ
import DroopProofs.SplitMeek
import DroopProofs.QpqExt
import DroopProofs.AppendOnlyAll
