import DroopProofs.PermBMeek

/-! # The first distribution of a Meek-family count is the first-preference count

While every ranked candidate keeps everything (keep factor one) a ballot hands its whole value to its first choice and stops:
under fixed-point arithmetic `genBallotStep = fcStep`, for meek, warren and meek-prf alike, so the first distribution is the first
count of the Gregory rules, whose per-candidate tallies are known.  The middle of the file follows ids, statuses and keep factors
(`ksig`) from the start of a count to its first distribution, for any arithmetic. -/
namespace Droop

theorem foldl_genRankStep_stop {α : Type} (A : Arith α) (keep : α → α → α × α) (mult : α) (rank : List Nat)
    (a : St α × α × α × Bool) (h : a.2.2.2 = true) : rank.foldl (genRankStep A keep mult) a = a := by
  induction rank with
  | nil => rfl
  | cons c cs ih =>
    simp only [List.foldl_cons]
    have : genRankStep A keep mult a c = a := by unfold genRankStep; rw [if_pos h]
    rw [this]; exact ih

/-- a ballot whose first choice keeps everything — under a rule that then keeps the whole weight and passes nothing on —
    hands it its whole value and stops: the Gregory first-count step, for a ballot that has not moved -/
theorem genBallotStep_eq_fcStep (p : Nat) (keep : Int → Int → Int × Int) (hkeep : keep (pow10 p) (pow10 p) = (pow10 p, 0))
    (s : St Int) (b : Ballot Int) (c1 : Nat) (rest : List Nat)
    (hr : b.rank = c1 :: rest) (hi : b.idx = 0) (hw : b.w = pow10 p) (hk : kfOf s c1 = some (pow10 p)) :
    genBallotStep (fixedArith p) keep s b = fcStep (fixedArith p) s b := by
  have hS0 : pow10 p ≠ 0 := ne_of_gt (pow10_pos p)
  have hA := fixed_lawful p
  unfold genBallotStep
  rw [hr, List.foldl_cons]
  have hstep : genRankStep (fixedArith p) keep ((fixedArith p).ofInt b.mult) (s, (fixedArith p).one, (fixedArith p).ofInt b.mult, false) c1
      = (s.addVote (fixedArith p) c1 (pow10 p * (b.mult : Int)), 0, 0, true) := by
    unfold genRankStep
    simp only [Bool.false_eq_true, if_false, hk]
    have hz : (fixedArith p).isZero (pow10 p) = false := by
      show (pow10 p == 0) = false
      simpa using hS0
    simp only [hz, Bool.false_eq_true, if_false]
    have hone : (fixedArith p).one = pow10 p := rfl
    rw [hone, hkeep]
    have hmv : (fixedArith p).mulV (pow10 p) ((fixedArith p).ofInt b.mult) = pow10 p * (b.mult : Int) := hA.mulV_ofInt _ _
    simp only [hmv]
    have hsub : (fixedArith p).sub ((fixedArith p).ofInt b.mult) (pow10 p * (b.mult : Int)) = 0 := by
      show (b.mult : Int) * pow10 p - pow10 p * (b.mult : Int) = 0; ring
    have hle : (fixedArith p).le 0 (fixedArith p).zero = true := by rw [fixed_le]; exact decide_eq_true (le_refl _)
    rw [hsub, hle]
  rw [hstep, foldl_genRankStep_stop (fixedArith p) keep _ rest _ rfl]
  unfold fcStep
  have htop : b.top = some c1 := by unfold Ballot.top; rw [hr, hi]; rfl
  have hb : bvote (fixedArith p) b = pow10 p * (b.mult : Int) := by
    unfold bvote; rw [hw]; exact hA.mulV_ofInt _ _
  rw [htop]
  simp only
  rw [hb]
  show ({ s.addVote (fixedArith p) c1 (pow10 p * (b.mult : Int)) with
          residual := (s.addVote (fixedArith p) c1 (pow10 p * (b.mult : Int))).residual + 0 } : St Int) = _
  simp only [add_zero]

/-- meek and warren: a keep factor of one keeps the whole weight -/
theorem keepWeight_one (p : Nat) (w : Bool) : keepWeight (fixedArith p) w (pow10 p) (pow10 p) = (pow10 p, 0) := by
  have hS := pow10_pos p
  unfold keepWeight
  by_cases hw : w = true
  · rw [if_pos hw]
    have hlt : (fixedArith p).lt (pow10 p) (pow10 p) = false := by rw [fixed_lt]; exact decide_eq_false (lt_irrefl _)
    rw [hlt]
    simp only [Bool.false_eq_true, if_false]
    show (pow10 p, pow10 p - pow10 p) = _
    simp
  · rw [if_neg hw, fixed_mul_down, fixed_mul_down]
    show (pdiv (pow10 p * pow10 p) (pow10 p), pdiv (pow10 p * (pow10 p - pow10 p)) (pow10 p)) = _
    rw [pdiv_mul_cancel _ _ hS]
    simp [pdiv]

theorem distBallotStep_eq_fcStep (p : Nat) (w : Bool) (s : St Int) (b : Ballot Int) (c1 : Nat) (rest : List Nat)
    (hr : b.rank = c1 :: rest) (hi : b.idx = 0) (hw : b.w = pow10 p) (hk : kfOf s c1 = some (pow10 p)) :
    distBallotStep (fixedArith p) w s b = fcStep (fixedArith p) s b := by
  rw [distBallotStep_gen]
  exact genBallotStep_eq_fcStep p _ (keepWeight_one p w) s b c1 rest hr hi hw hk

/-- every ballot is in its initial position and ranks only candidates that keep everything -/
def AllKeepOne (p : Nat) (s : St Int) (bs : List (Ballot Int)) : Prop :=
  ∀ b ∈ bs, b.idx = 0 ∧ b.w = pow10 p ∧ b.rank ≠ [] ∧ ∀ cid ∈ b.rank, kfOf s cid = some (pow10 p)

theorem kfOf_fcStep (p : Nat) (s : St Int) (b : Ballot Int) (c : Nat) : kfOf (fcStep (fixedArith p) s b) c = kfOf s c := by
  unfold fcStep
  split
  · exact kfOf_addVote (fixedArith p) _ _ _ _
  · rfl

theorem foldl_gen_eq_fc (p : Nat) (keep : Int → Int → Int × Int) (hkeep : keep (pow10 p) (pow10 p) = (pow10 p, 0))
    (bs : List (Ballot Int)) (s : St Int) (h : AllKeepOne p s bs) :
    bs.foldl (genBallotStep (fixedArith p) keep) s = bs.foldl (fcStep (fixedArith p)) s := by
  induction bs generalizing s with
  | nil => rfl
  | cons b bs ih =>
    simp only [List.foldl_cons]
    obtain ⟨hi, hw, hne, hk⟩ := h b (by simp)
    cases hr : b.rank with
    | nil => exact absurd hr hne
    | cons c1 rest =>
      rw [genBallotStep_eq_fcStep p keep hkeep s b c1 rest hr hi hw (hk c1 (by rw [hr]; simp))]
      apply ih
      intro b' hb'
      obtain ⟨a1, a2, a3, a4⟩ := h b' (by simp [hb'])
      exact ⟨a1, a2, a3, fun cid hc => by rw [kfOf_fcStep]; exact a4 cid hc⟩

theorem foldl_dist_eq_fc (p : Nat) (w : Bool) (bs : List (Ballot Int)) (s : St Int) (h : AllKeepOne p s bs) :
    bs.foldl (distBallotStep (fixedArith p) w) s = bs.foldl (fcStep (fixedArith p)) s := by
  rw [distBallotStep_gen]
  exact foldl_gen_eq_fc p _ (keepWeight_one p w) bs s h

section
variable {α : Type} [CommRing α] [LinearOrder α] [IsStrictOrderedRing α]

/-- ids, statuses and keep factors, in order -/
def ksig (s : St α) : List (Nat × CState × Option α) := s.cands.map (fun c => (c.cid, c.st, c.kf))

theorem kfOf_eq_ksig (s : St α) (cid : Nat) :
    kfOf s cid = ((ksig s).find? (fun e => e.1 == cid)).bind (fun e => e.2.2) := by
  unfold kfOf St.cand? ksig
  rw [List.find?_map]
  have : ((fun e : Nat × CState × Option α => e.1 == cid) ∘ fun c : Cand α => (c.cid, c.st, c.kf)) = fun c : Cand α => c.cid == cid := rfl
  rw [this]
  cases List.find? (fun c : Cand α => c.cid == cid) s.cands <;> rfl

theorem kfOf_of_ksig {s t : St α} (h : ksig t = ksig s) (cid : Nat) : kfOf t cid = kfOf s cid := by
  rw [kfOf_eq_ksig, kfOf_eq_ksig, h]

theorem ksig_mapKeep (s : St α) (f : Cand α → Cand α) (hf : ∀ c, (f c).cid = c.cid ∧ (f c).st = c.st ∧ (f c).kf = c.kf) :
    ksig ({ s with cands := s.cands.map f } : St α) = ksig s := by
  unfold ksig
  rw [List.map_map]
  apply List.map_congr_left
  intro c _
  simp only [Function.comp]
  rw [(hf c).1, (hf c).2.1, (hf c).2.2]

theorem ksig_addVote (A : Arith α) (s : St α) (c : Nat) (v : α) : ksig (s.addVote A c v) = ksig s := by
  unfold St.addVote St.upd
  exact ksig_mapKeep s _ (fun x => by split <;> exact ⟨rfl, rfl, rfl⟩)

theorem ksig_foldl_mfcStep (A : Arith α) (bs : List (Ballot α)) (s : St α) : ksig (bs.foldl (mfcStep A) s) = ksig s := by
  induction bs generalizing s with
  | nil => rfl
  | cons b bs ih =>
    simp only [List.foldl_cons]
    rw [ih]
    unfold mfcStep
    split
    · exact ksig_addVote A _ _ _
    · rfl

theorem ksig_logAct (A : Arith α) (s : St α) (tag verb : String) (subj : List Nat) : ksig (s.logAct A tag verb subj) = ksig s := by
  unfold ksig; rw [logAct_cands]

theorem ksig_startDist (A : Arith α) (s : St α) : ksig (startDist A s) = ksig s := by
  unfold startDist zeroActiveVotes St.setResidual
  exact ksig_mapKeep s _ (fun x => by split <;> exact ⟨rfl, rfl, rfl⟩)

/-- the state the first distribution of a Meek / Warren count starts from -/
def meekX (A : Arith α) (s0 : St α) : St α := startDist A ((meekInit A s0).newRound A)

theorem ksig_meekX (A : Arith α) (s0 : St α) (hq : s0.ballotsEq = []) :
    ksig (meekX A s0) = s0.cands.map (fun c => (c.cid, c.st, if c.st == CState.hopeful then some A.one else c.kf)) := by
  unfold meekX
  rw [ksig_startDist]
  unfold St.newRound
  rw [ksig_logAct]
  show ksig (meekInit A s0) = _
  unfold meekInit
  rw [ksig_logAct]
  have e := meekFirstCount_eq A
    (((s0.setVotes (A.ofInt s0.nballots)).setQuota (meekQuota A (s0.setVotes (A.ofInt s0.nballots)))).initKf A.one) hq
  rw [e, ksig_foldl_mfcStep]
  unfold ksig St.initKf
  simp only [List.map_map]
  apply List.map_congr_left
  intro c _
  simp only [Function.comp]
  show ((if (c.st == CState.hopeful) = true then ({ c with kf := some A.one } : Cand α) else c).cid,
        (if (c.st == CState.hopeful) = true then ({ c with kf := some A.one } : Cand α) else c).st,
        (if (c.st == CState.hopeful) = true then ({ c with kf := some A.one } : Cand α) else c).kf) = _
  split <;> rfl

/-- a hopeful candidate keeps everything when the first distribution starts -/
theorem kfOf_meekX (A : Arith α) (s0 : St α) (hq : s0.ballotsEq = []) (hwf : s0.WF) (x : Cand α) (hx : x ∈ s0.cands)
    (hh : x.st = .hopeful) : kfOf (meekX A s0) x.cid = some A.one := by
  rw [kfOf_eq_ksig, ksig_meekX A s0 hq, List.find?_map]
  have hp : ((fun e : Nat × CState × Option α => e.1 == x.cid) ∘
      fun c : Cand α => (c.cid, c.st, if c.st == CState.hopeful then some A.one else c.kf)) = fun c : Cand α => c.cid == x.cid := rfl
  rw [hp]
  have hf : s0.cands.find? (fun c => c.cid == x.cid) = some x := cand?_of_mem hwf hx
  rw [hf]
  simp [hh]

theorem meekX_ballots (A : Arith α) (s0 : St α) (h0 : MInit A s0) :
    (meekX A s0).ballots = s0.ballots := by
  unfold meekX
  show ((meekInit A s0).newRound A).ballots = _
  unfold St.newRound
  rw [logAct_ballots]
  show (meekInit A s0).ballots = _
  unfold meekInit
  rw [logAct_ballots]
  have e := meekFirstCount_eq A
    (((s0.setVotes (A.ofInt s0.nballots)).setQuota (meekQuota A (s0.setVotes (A.ofInt s0.nballots)))).initKf A.one) h0.noEq
  rw [e]
  rw [TallyBlind.ballots.foldl_mfcStep A]
  rfl

end

theorem foldl_mfcStep_skel (p : Nat) (bs : List (Ballot Int)) (t : St Int) : (bs.foldl (mfcStep (fixedArith p)) t).skel = t.skel := by
  exact TransferBlind.skel.toTallyBlind.foldl_mfcStep (fixedArith p) bs t

/-- the state before the first count of the Meek rules -/
def meekY (p : Nat) (s0 : St Int) : St Int :=
  ((s0.setVotes ((fixedArith p).ofInt s0.nballots)).setQuota (meekQuota (fixedArith p) (s0.setVotes ((fixedArith p).ofInt s0.nballots)))).initKf
    (fixedArith p).one

theorem meekInit_eq (p : Nat) (s0 : St Int) (hq : s0.ballotsEq = []) :
    meekInit (fixedArith p) s0 = ((meekY p s0).ballots.foldl (mfcStep (fixedArith p)) (meekY p s0)).logAct (fixedArith p) "begin" "Begin Count" [] := by
  unfold meekInit
  have e := meekFirstCount_eq (fixedArith p) (meekY p s0) hq
  unfold meekY at e ⊢
  rw [e]

theorem meekY_skel (p : Nat) (s0 : St Int) : (meekY p s0).skel = s0.skel := by
  unfold meekY St.initKf St.skel
  simp only [List.map_map]
  apply List.map_congr_left
  intro c _
  simp only [Function.comp]
  split <;> rfl

theorem meekInit_skel (p : Nat) (s0 : St Int) (hq : s0.ballotsEq = []) : (meekInit (fixedArith p) s0).skel = s0.skel := by
  rw [meekInit_eq p s0 hq]
  unfold St.skel
  rw [logAct_cands]
  exact (foldl_mfcStep_skel p _ _).trans (meekY_skel p s0)

theorem foldl_mfcStep_sc (p : Nat) (bs : List (Ballot Int)) (t : St Int) :
    (bs.foldl (mfcStep (fixedArith p)) t).seats = t.seats ∧ (bs.foldl (mfcStep (fixedArith p)) t).crash = t.crash := by
  exact ⟨TransferBlind.seats.toTallyBlind.foldl_mfcStep (fixedArith p) bs t,
    TransferBlind.crash.toTallyBlind.foldl_mfcStep (fixedArith p) bs t⟩

theorem logAct_sc (p : Nat) (t : St Int) (tag verb : String) (sj : List Nat) :
    (t.logAct (fixedArith p) tag verb sj).seats = t.seats ∧ (t.logAct (fixedArith p) tag verb sj).crash = t.crash := by
  unfold St.logAct; simp only; split <;> exact ⟨rfl, rfl⟩

theorem meekInit_sc (p : Nat) (s0 : St Int) (hq : s0.ballotsEq = []) :
    (meekInit (fixedArith p) s0).seats = s0.seats ∧ (meekInit (fixedArith p) s0).crash = s0.crash := by
  rw [meekInit_eq p s0 hq]
  obtain ⟨a1, a2⟩ := logAct_sc p ((meekY p s0).ballots.foldl (mfcStep (fixedArith p)) (meekY p s0)) "begin" "Begin Count" []
  obtain ⟨b1, b2⟩ := foldl_mfcStep_sc p (meekY p s0).ballots (meekY p s0)
  exact ⟨a1.trans b1, a2.trans b2⟩

/-- what the case hands to a Meek / Warren count, beyond `MInit`: ballots in their initial position, of full weight -/
def FreshBallots (p : Nat) (s0 : St Int) : Prop :=
  ∀ b ∈ s0.ballots, b.idx = 0 ∧ b.w = pow10 p ∧ b.rank ≠ [] ∧ ∀ cid ∈ b.rank, ∃ x ∈ s0.cands, x.cid = cid ∧ x.st = .hopeful

theorem startDist_votes_zero (p : Nat) (s : St Int) (hdead : ∀ c ∈ s.cands, (c.st = .defeated ∨ c.st = .withdrawn) → c.vote = 0) :
    ∀ c ∈ (startDist (fixedArith p) s).cands, c.vote = 0 := by
  intro c' hc'
  unfold startDist zeroActiveVotes St.setResidual at hc'
  obtain ⟨c, hc, rfl⟩ := List.mem_map.1 hc'
  by_cases ha : (c.st == CState.hopeful || c.st == CState.elected) = true
  · rw [if_pos ha]; rfl
  · rw [if_neg ha]
    apply hdead c hc
    cases hs : c.st <;> simp [hs] at ha ⊢

theorem voteOf_zero_of_all (s : St Int) (h : ∀ c ∈ s.cands, c.vote = 0) (d : Nat) : s.voteOf d = 0 := by
  unfold St.voteOf
  cases hc : s.cand? d with
  | none => rfl
  | some c => exact h c (cand?_some_mem hc).1

/-- the first-preference count from a state in which nobody holds anything: tallies, total -/
theorem fc_figures (p : Nat) (X : St Int) (n : Nat) (hwf : X.WF) (hz : ∀ c ∈ X.cands, c.vote = 0)
    (hb : ∀ b ∈ X.ballots, b.w = pow10 p ∧ b.top ≠ none ∧ ∀ cid ∈ b.rank, (X.cand? cid).isSome)
    (hnb : (X.ballots.map (fun b => (b.mult : Int))).sum = (n : Int)) :
    (∀ d, (X.ballots.foldl (fcStep (fixedArith p)) X).voteOf d
        = (X.ballots.map (fun b => if b.top = some d then bvote (fixedArith p) b else 0)).sum)
    ∧ (X.ballots.foldl (fcStep (fixedArith p)) X).skel = X.skel
    ∧ activeVotes (fixedArith p) (X.ballots.foldl (fcStep (fixedArith p)) X) ≤ (n : Int) * pow10 p := by
  have hA := fixed_lawful p
  have hS := pow10_pos p
  have hbv : ∀ b ∈ X.ballots, bvote (fixedArith p) b = pow10 p * (b.mult : Int) := by
    intro b hb'
    unfold bvote; rw [(hb b hb').1]; exact hA.mulV_ofInt _ _
  have hvote : ∀ d, (X.ballots.foldl (fcStep (fixedArith p)) X).voteOf d
      = (X.ballots.map (fun b => if b.top = some d then bvote (fixedArith p) b else 0)).sum := by
    intro d
    rw [foldl_fcStep_voteOf (fixedArith p) hA X d _ _ rfl (fun b hb' => (hb b hb').2.2), voteOf_zero_of_all _ hz d, zero_add]
  have hsk : (X.ballots.foldl (fcStep (fixedArith p)) X).skel = X.skel := foldl_fcStep_skel (fixedArith p) _ _
  refine ⟨hvote, hsk, ?_⟩
  have hwf2 : (X.ballots.foldl (fcStep (fixedArith p)) X).WF := WF_of_skel hsk.symm hwf
  have hnn : ∀ c ∈ (X.ballots.foldl (fcStep (fixedArith p)) X).cands, 0 ≤ c.vote := by
    intro c hc
    rw [← voteOf_of_mem hwf2 hc, hvote]
    apply List.sum_nonneg
    intro x hx
    obtain ⟨b, hb', rfl⟩ := List.mem_map.1 hx
    split
    · rw [hbv b hb']; positivity
    · exact le_refl _
  have hsum : (X.ballots.foldl (fcStep (fixedArith p)) X).sumVotes = (n : Int) * pow10 p := by
    rw [foldl_fcStep_sumVotes (fixedArith p) hA X hwf _ _ rfl (fun b hb' => ⟨(hb b hb').2.2, (hb b hb').2.1⟩)]
    have h0 : X.sumVotes = 0 := by
      unfold St.sumVotes
      apply List.sum_eq_zero
      intro x hx
      obtain ⟨c, hc, rfl⟩ := List.mem_map.1 hx
      exact hz c hc
    rw [h0, zero_add, ← hnb]
    have : X.ballots.map (bvote (fixedArith p)) = X.ballots.map (fun b => pow10 p * (b.mult : Int)) :=
      List.map_congr_left hbv
    rw [this]
    clear this hnb hvote hnn hwf2 hsk hb hbv
    induction X.ballots with
    | nil => simp
    | cons b bs ih => simp only [List.map_cons, List.sum_cons, ih]; ring
  rw [← hsum]
  unfold activeVotes
  rw [arith_sum_eq (fixedArith p) hA]
  unfold St.hopeful St.elected St.sumVotes
  rw [List.map_append, List.sum_append]
  apply sum_two_filters_le
  · intro x _ hx
    obtain ⟨h1, h2⟩ := hx
    have e1 : x.st = .hopeful := by simpa using h1
    rw [e1] at h2
    simp at h2
  · exact hnn

/-- the first count from a state `X` that has the candidates and ballots of a fresh start `s0`, nobody holding anything and
    every standing candidate keeping everything: it is a distribution's result (`AllKeepOne`), and its figures -/
theorem fresh_first_count (p : Nat) (s0 X : St Int) (h0 : MInit (fixedArith p) s0) (hf : FreshBallots p s0)
    (hXb : X.ballots = s0.ballots) (hXsk : X.skel = s0.skel) (hz : ∀ c ∈ X.cands, c.vote = 0)
    (hk : ∀ x ∈ s0.cands, x.st = .hopeful → kfOf X x.cid = some (pow10 p)) :
    AllKeepOne p X X.ballots
    ∧ (∀ d, (X.ballots.foldl (fcStep (fixedArith p)) X).voteOf d
        = (s0.ballots.map (fun b => if b.top = some d then bvote (fixedArith p) b else 0)).sum)
    ∧ (X.ballots.foldl (fcStep (fixedArith p)) X).skel = s0.skel
    ∧ activeVotes (fixedArith p) (X.ballots.foldl (fcStep (fixedArith p)) X) ≤ (s0.nballots : Int) * pow10 p := by
  have hS := pow10_pos p
  have hkeep : AllKeepOne p X X.ballots := by
    intro b hb
    rw [hXb] at hb
    obtain ⟨a1, a2, a3, a4⟩ := hf b hb
    refine ⟨a1, a2, a3, ?_⟩
    intro cid hc
    obtain ⟨x, hx, hxc, hxh⟩ := a4 cid hc
    rw [← hxc]
    exact hk x hx hxh
  have hb : ∀ b ∈ X.ballots, b.w = pow10 p ∧ b.top ≠ none ∧ ∀ cid ∈ b.rank, (X.cand? cid).isSome := by
    intro b hb
    rw [hXb] at hb
    obtain ⟨_, a2, _, a4⟩ := hf b hb
    refine ⟨a2, ?_, ?_⟩
    · obtain ⟨c, hc, _⟩ := h0.tops b hb
      rw [hc]; simp
    · intro cid hc
      obtain ⟨x, hx, hxc, _⟩ := a4 cid hc
      rw [cand?_isSome_of_skel hXsk, ← hxc, cand?_of_mem h0.wf hx]; rfl
  have hnb : (X.ballots.map (fun b => (b.mult : Int))).sum = (s0.nballots : Int) := by
    rw [hXb]
    have h1 := h0.nb
    have e : ∀ (l : List (Ballot Int)), (l.map (fun b => (fixedArith p).ofInt b.mult)).sum = (l.map (fun b => (b.mult : Int))).sum * pow10 p := by
      intro l
      induction l with
      | nil => simp
      | cons b bs ih =>
        simp only [List.map_cons, List.sum_cons, ih]
        show (b.mult : Int) * pow10 p + _ = _
        ring
    rw [e] at h1
    exact Int.eq_of_mul_eq_mul_right (ne_of_gt hS) h1
  obtain ⟨f1, f2, f3⟩ := fc_figures p X s0.nballots (WF_of_skel hXsk.symm h0.wf) hz hb hnb
  exact ⟨hkeep, fun d => by rw [f1 d, hXb], f2.trans hXsk, f3⟩

/-- the first distribution is the first-preference count: tallies, and an active total of at most the ballots -/
theorem first_distribution (p : Nat) (w : Bool) (s0 : St Int) (h0 : MInit (fixedArith p) s0) (hf : FreshBallots p s0) :
    let s1 := (meekInit (fixedArith p) s0).newRound (fixedArith p)
    let S2 := distributeVotes (fixedArith p) w s1
    (∀ d, S2.voteOf d = (s0.ballots.map (fun b => if b.top = some d then bvote (fixedArith p) b else 0)).sum)
    ∧ S2.skel = s1.skel
    ∧ activeVotes (fixedArith p) S2 ≤ (s0.nballots : Int) * pow10 p
    ∧ S2.seats = s0.seats ∧ s1.skel = s0.skel := by
  intro s1 S2
  have hA := fixed_lawful p
  have hI1 : MInv (fixedArith p) s1 := (MInv.meekInit (fixedArith p) hA h0).newRound (fixedArith p)
  have hX : startDist (fixedArith p) s1 = meekX (fixedArith p) s0 := rfl
  have hs1sk : s1.skel = s0.skel := by
    show ((meekInit (fixedArith p) s0).newRound (fixedArith p)).skel = _
    unfold St.newRound St.skel
    rw [logAct_cands]
    exact meekInit_skel p s0 h0.noEq
  have hXsk : (meekX (fixedArith p) s0).skel = s1.skel := by rw [← hX]; exact startDist_skel (fixedArith p) s1
  obtain ⟨hkeep, f1, f2, f3⟩ := fresh_first_count p s0 (meekX (fixedArith p) s0) h0 hf (meekX_ballots (fixedArith p) s0 h0)
    (hXsk.trans hs1sk) (by rw [← hX]; exact startDist_votes_zero p s1 (fun c hc hd => (hI1.dead c hc hd).1))
    (fun x hx hxh => kfOf_meekX (fixedArith p) s0 h0.noEq h0.wf x hx hxh)
  have hS2 : S2 = (meekX (fixedArith p) s0).ballots.foldl (fcStep (fixedArith p)) (meekX (fixedArith p) s0) := by
    show distributeVotes (fixedArith p) w s1 = _
    rw [distributeVotes_strict (fixedArith p) w s1 hI1.noEq, hX]
    unfold distStrict
    exact foldl_dist_eq_fc p w _ _ hkeep
  rw [← hS2] at f1 f2 f3
  refine ⟨f1, f2.trans hs1sk.symm, f3, ?_, hs1sk⟩
  rw [hS2, foldl_fcStep_seats]
  show ((meekInit (fixedArith p) s0).newRound (fixedArith p)).seats = _
  unfold St.newRound
  rw [(logAct_sc p _ _ _ _).1]
  exact (meekInit_sc p s0 h0.noEq).1

end Droop
