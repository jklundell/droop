import DroopProofs.InvMpls
import DroopProofs.RunCfer

/-! # Minneapolis at run level, for profiles without undeclared write-ins: termination, seats, forward-only record

With undeclared write-ins the ordinance's round 2 removes candidates regardless of the seats, and a profile with fewer declared
candidates than seats ends in `postCheck` (known finding F7); the theorems here take `NoUnd`. -/
namespace Droop
variable {α : Type} [CommRing α] [LinearOrder α] [IsStrictOrderedRing α] (A : Arith α)

def NoUnd (s : St α) : Prop := ∀ c ∈ s.cands, c.undeclared = false

theorem NoUnd.of_skel {s t : St α} (h : NoUnd s) (hsk : t.skel = s.skel) : NoUnd t := by
  intro c hc
  obtain ⟨c0, hc0, hsk0⟩ := mem_of_skel_eq hsk hc
  have : c0.undeclared = c.undeclared := by
    unfold Cand.skel at hsk0; simp only [Prod.mk.injEq] at hsk0; exact hsk0.2.2.2.1
  rw [← this]; exact h c0 hc0

theorem NoUnd.of_cands {s t : St α} (h : NoUnd s) (hc : t.cands = s.cands) : NoUnd t := by
  intro c hc'; rw [hc] at hc'; exact h c hc'

theorem NoUnd.upd {s : St α} (h : NoUnd s) (cid : Nat) (f : Cand α → Cand α) (hf : ∀ c, (f c).undeclared = c.undeclared) :
    NoUnd (s.upd cid f) := by
  intro c' hc'
  obtain ⟨c, hc, rfl⟩ := mem_upd.1 hc'
  split
  · rw [hf]; exact h c hc
  · exact h c hc

theorem NoUnd.logAct {s : St α} (h : NoUnd s) (tag verb : String) (subj : List Nat) : NoUnd (s.logAct A tag verb subj) :=
  h.of_cands (logAct_cands A s tag verb subj)

theorem NoUnd.elect {s : St α} (h : NoUnd s) (cid : Nat) (verb : String) (p : Bool) : NoUnd (s.elect A cid verb p) := by
  unfold St.elect
  exact (h.upd cid (fun c => { c with st := .elected, pending := p }) (fun _ => rfl)).logAct A _ _ _

theorem NoUnd.defeat {s : St α} (h : NoUnd s) (cid : Nat) (verb : String) : NoUnd (s.defeat A cid verb) := by
  unfold St.defeat
  exact (h.upd cid (fun c => { c with st := .defeated }) (fun _ => rfl)).logAct A _ _ _

theorem NoUnd.foldl {β : Type} (f : St α → β → St α) (hf : ∀ s x, NoUnd s → NoUnd (f s x)) (l : List β) {s : St α}
    (h : NoUnd s) : NoUnd (l.foldl f s) := by
  induction l generalizing s with
  | nil => exact h
  | cons x xs ih => simp only [List.foldl_cons]; exact ih (hf s x h)

theorem foldl_congr_mem {β : Type} (f g : St α → β → St α) (l : List β) (s : St α)
    (h : ∀ x ∈ l, ∀ acc, f acc x = g acc x) : l.foldl f s = l.foldl g s := by
  induction l generalizing s with
  | nil => rfl
  | cons x xs ih =>
    simp only [List.foldl_cons]
    rw [h x (by simp) s]
    exact ih _ (fun y hy acc => h y (by simp [hy]) acc)

theorem mplsCertainLosers_go_bound (surplus : α) (sorted : List (Cand α)) (maxDefeat : Int) :
    ∀ (fuel cx : Nat) (vote : α) (losers : List (Cand α)), (losers = [] ∨ (losers.length : Int) ≤ maxDefeat) →
      (mplsCertainLosers.go A surplus sorted maxDefeat cx fuel vote losers = []
        ∨ ((mplsCertainLosers.go A surplus sorted maxDefeat cx fuel vote losers).length : Int) ≤ maxDefeat) := by
  intro fuel
  induction fuel with
  | zero => intro cx vote losers hl; unfold mplsCertainLosers.go; exact hl
  | succ n ih =>
    intro cx vote losers hl
    unfold mplsCertainLosers.go
    dsimp only
    split
    · exact hl
    · rename_i hlt
      split
      · split
        · exact hl
        · rename_i hmax
          apply ih
          split
          · right
            have : (sorted.take (cx + 1)).length = cx + 1 := by rw [List.length_take]; omega
            rw [this]; omega
          · exact hl
      · exact hl

theorem mplsDefeatSet_bound {s : St α} (hnu : NoUnd s) (hne : mplsDefeatSet A s ≠ []) :
    ((mplsDefeatSet A s).length : Int) ≤ (s.hopeful.length : Int) - s.seatsLeft := by
  have hund : s.hopeful.filter (·.undeclared) = [] := by
    rw [List.filter_eq_nil_iff]
    intro c hc
    have := hnu c (mem_hopeful.1 hc).1
    simp [this]
  unfold mplsDefeatSet at hne ⊢
  simp only [hund, ite_self, List.nil_append, List.any_nil, Bool.not_false, List.filter_true] at hne ⊢
  generalize (A.add s.surplus (if (s.round == 2) = true then
      A.sum ((s.ballots.filter (fun b => match b.top with
                                         | some c => s.isUndeclared c
                                         | none => false)).map (bvote A)) else A.zero)) = sp at hne ⊢
  unfold mplsCertainLosers at hne ⊢
  dsimp only at hne ⊢
  have hlen := (pySorted_perm (fun a b : Cand α => a.order < b.order) false
    (mplsCertainLosers.go A sp (byVote A false s.hopeful) ((s.hopeful.length : Int) - s.seatsLeft) 0
      (byVote A false s.hopeful).length A.zero [])).length_eq
  unfold byBallotOrder at hne ⊢
  rcases mplsCertainLosers_go_bound A sp (byVote A false s.hopeful) ((s.hopeful.length : Int) - s.seatsLeft)
    (byVote A false s.hopeful).length 0 A.zero [] (Or.inl rfl) with h | h
  · exfalso; apply hne; rw [h]; rfl
  · rw [hlen]; exact h

/-- what a step that changes no status keeps: the facts the Minneapolis round threads through core, reporting surplus and log -/
structure Step (s t : St α) : Prop where
  ehq : ElectedHoldQuota s → ElectedHoldQuota t
  mon : Mon s → Mon t
  frame : Frame s t
  ext : Ext s t
  mu : mu t = mu s
  sumHE : sumHE t = sumHE s
  nound : NoUnd s → NoUnd t

theorem Step.trans {s t r : St α} (h1 : Step s t) (h2 : Step t r) : Step s r :=
  ⟨fun h => h2.ehq (h1.ehq h), fun h => h2.mon (h1.mon h), h1.frame.trans h2.frame, h1.ext.trans h2.ext,
   h2.mu.trans h1.mu, h2.sumHE.trans h1.sumHE, fun h => h2.nound (h1.nound h)⟩

theorem step_logAct (s : St α) (tag verb : String) (subj : List Nat) : Step s (s.logAct A tag verb subj) :=
  ⟨fun h => EHQ.logAct A h _ _ _, fun h => h.logAct A _ _ _, frame_logAct A s _ _ _, ext_logAct A s _ _ _,
   mu_logAct A s _ _ _, sumHE_logAct A s _ _ _, fun h => h.logAct A _ _ _⟩

theorem step_setSurplus (s : St α) (v : α) : Step s (s.setSurplus v) :=
  ⟨fun h => EHQ.setSurplus h v, fun h => h.setSurplus v, frame_setSurplus s v, ext_setSurplus s v,
   mu_setSurplus s v, sumHE_setSurplus s v, fun h => h.of_cands rfl⟩

theorem step_newRound (s : St α) : Step s (s.newRound A) :=
  ⟨fun h => EHQ.newRound A h, fun h => h.newRound A, frame_newRound A s, ext_newRound A s,
   mu_newRound A s, sumHE_newRound A s, fun h => by
     unfold St.newRound
     exact (NoUnd.of_cands (t := { s with round := s.round + 1 }) h rfl).logAct A _ _ _⟩

theorem step_mplsLogTransfer (s : St α) (verb : String) (subj : List Nat) : Step s (mplsLogTransfer A s verb subj) := by
  unfold mplsLogTransfer
  exact (step_setSurplus s _).trans (step_logAct A _ _ _ _)

theorem step_mplsCountVotes (s : St α) : Step s (mplsCountVotes A s) := by
  unfold mplsCountVotes
  exact (step_setSurplus s _).trans (step_logAct A _ _ _ _)

/-- the exclusion core: ballots of not-elected candidates `cids` moved on, their tallies zeroed -/
theorem step_defeatedCore (hA : LawfulArith A) {s : St α} (hI : Inv A s) (cids : List Nat)
    (hne : ∀ cid ∈ cids, ∀ c ∈ s.cands, c.cid = cid → c.st ≠ .elected) : Step s (defeatedCore A s cids) := by
  unfold defeatedCore
  have hsk : (cids.foldl (fun acc c => acc.setVote c A.zero) (transferAll A s cids id)).skel = s.skel := by
    have : ∀ (l : List Nat) (t : St α), (l.foldl (fun acc c => acc.setVote c A.zero) t).skel = t.skel := by
      intro l; induction l with
      | nil => intro t; rfl
      | cons c cs ih => intro t; simp only [List.foldl_cons]; rw [ih, setVote_skel]
    rw [this, transferAll_skel]
  refine ⟨?_, ?_, ?_, ?_, ?_, ?_, fun h => h.of_skel hsk⟩
  · intro h
    apply EHQ.foldSetVote A cids (EHQ.transferAll A hA hI h cids id (fun b hb => hI.wpos b hb))
    intro cid hcid
    exact nonElected_of_skel (transferAll_skel A s cids id) (hne cid hcid)
  · intro h; exact Mon.foldSetVote A cids (h.transferAll A _ _)
  · exact (frame_transferAll A s cids id).trans
      (frame_foldl (fun (acc : St α) (c : Nat) => acc.setVote c A.zero) (fun _ _ => ⟨rfl, rfl, rfl⟩) cids _)
  · exact ((stepRel_ext A).transferAll s cids id).trans
      (ext_foldl (fun (acc : St α) (c : Nat) => acc.setVote c A.zero) (fun t c => (stepRel_ext A).setVote t c _) cids _)
  · rw [mu_foldl_setVote, mu_transferAll]
  · rw [sumHE_foldl_setVote]; exact sumHE_of_skel (transferAll_skel A s cids id)

/-- the surplus core: ballots of `x` re-weighted and moved on, `x`'s tally set to the quota it holds -/
theorem step_surplusCore (hA : LawfulArith A) (rew0 : α → α → α → α) (hrew0 : RewLaw rew0) {s : St α} (hI : Inv A s)
    (x : Cand α) (hq : s.quota ≤ x.vote) : Step s (surplusCore A s x rew0) := by
  unfold surplusCore
  simp only [hA.sub_eq]
  have hv : 0 < x.vote := lt_of_lt_of_le hI.qpos hq
  have hsur : 0 ≤ x.vote - s.quota := sub_nonneg.2 hq
  have hr : ∀ b ∈ s.ballots, 0 ≤ rew0 b.w (x.vote - s.quota) x.vote :=
    fun b hb => (hrew0 b.w _ _ (hI.wpos b hb) hsur hv).1
  have hsk : ((transferAll A s [x.cid] (fun w => rew0 w (x.vote - s.quota) x.vote)).setVote x.cid
      (transferAll A s [x.cid] (fun w => rew0 w (x.vote - s.quota) x.vote)).quota).skel = s.skel := by
    rw [setVote_skel, transferAll_skel]
  refine ⟨?_, ?_, ?_, ?_, ?_, ?_, fun h => h.of_skel hsk⟩
  · intro h
    have := EHQ.transferAll_setVote A hA hI h [x.cid] (fun w => rew0 w (x.vote - s.quota) x.vote) hr x.cid s.quota (le_refl _)
    rw [transferAll_quota]; exact this
  · intro h; exact (h.transferAll A _ _).setVote _ _
  · exact (frame_transferAll A s _ _).trans ⟨rfl, rfl, rfl⟩
  · exact ((stepRel_ext A).transferAll s _ _).trans ((stepRel_ext A).setVote _ _ _)
  · exact (mu_of_skel (setVote_skel _ _ _)).trans (mu_transferAll A s _ _)
  · exact (sumHE_of_skel (setVote_skel _ _ _)).trans (sumHE_of_skel (transferAll_skel A s _ _))

def MplsInv (s : St α) : Prop := GInv A s ∧ NoUnd s

variable {A} in
theorem MplsInv.inv {s : St α} (h : MplsInv A s) : Inv A s := h.1.1.1
variable {A} in
theorem MplsInv.wf {s : St α} (h : MplsInv A s) : s.WF := h.1.1.1.wf
variable {A} in
theorem MplsInv.noUnd {s : St α} (h : MplsInv A s) : NoUnd s := h.2

theorem mplsDefeatMany_spec (hA : LawfulArith A) {s : St α} (h : MplsInv A s) (l : List (Cand α))
    (hsub : ∀ w ∈ l, w ∈ s.hopeful) (hnd : (l.map (·.cid)).Nodup) (hne : l ≠ [])
    (hb : (l.length : Int) ≤ (s.hopeful.length : Int) - s.seatsLeft) (hle : nEl s ≤ s.seats) :
    MplsInv A (mplsDefeatMany A s l).1 ∧ Ext s (mplsDefeatMany A s l).1 ∧ mu (mplsDefeatMany A s l).1 < mu s := by
  obtain ⟨⟨hE, hM, hD, hJ⟩, hNU⟩ := h
  have hI := hE.1.mplsDefeatMany A hA l hsub hnd
  unfold mplsDefeatMany at hI ⊢
  have hfold : l.foldl (fun acc c => acc.defeat A c.cid (mplsDefeatVerb c)) s
      = l.foldl (fun acc c => acc.defeat A c.cid "Defeat certain loser") s := by
    apply foldl_congr_mem
    intro c hc acc
    have : c.undeclared = false := hNU c (mem_hopeful.1 (hsub c hc)).1
    unfold mplsDefeatVerb; rw [this]; rfl
  rw [hfold] at hI ⊢
  obtain ⟨a1, a2, _, a4, a5, a6, a7, a8, _, a10⟩ := defeatMany_spec A hE hM l l "Defeat certain loser"
    (List.Perm.refl _) hnd hsub
  have hnu1 : NoUnd (l.foldl (fun acc c => acc.defeat A c.cid "Defeat certain loser") s) :=
    NoUnd.foldl (fun (acc : St α) (c : Cand α) => acc.defeat A c.cid "Defeat certain loser")
      (fun t c ht => ht.defeat A c.cid _) l hNU
  generalize l.foldl (fun acc c => acc.defeat A c.cid "Defeat certain loser") s = s1 at *
  have hst := (step_defeatedCore A hA a1.1 (l.map (·.cid)) a4).trans (step_mplsLogTransfer A _ "Transfer defeated" (l.map (·.cid)))
  dsimp only at hI ⊢
  unfold defeatedCore at hst
  have hpos : 0 < l.length := List.length_pos_of_ne_nil hne
  refine ⟨⟨⟨⟨hI, hst.ehq a1.2⟩, hst.mon a2, hD.of_frame A (a7.trans hst.frame), ?_⟩, hst.nound hnu1⟩,
    a8.trans hst.ext, ?_⟩
  · rw [hst.frame.2.1, hst.sumHE, a7.2.1]
    unfold sumHE St.seatsLeft nHop nEl at *; omega
  · rw [hst.mu]; omega

theorem mplsElectSurplus_spec (hA : LawfulArith A) (hex : A.exact = false) {s : St α} (h : MplsInv A s)
    (hwq : List (Cand α)) (hv : α) (hsub : ∀ w ∈ hwq, w ∈ s.hopeful ∧ hasQuotaGE A s w = true) :
    MplsInv A (mplsElectSurplus A s hwq hv).1 ∧ Ext s (mplsElectSurplus A s hwq hv).1
    ∧ ((mplsElectSurplus A s hwq hv).2 = .cont → mu (mplsElectSurplus A s hwq hv).1 < mu s)
    ∧ ((mplsElectSurplus A s hwq hv).2 = .brk → (mplsElectSurplus A s hwq hv).1.crash.isSome = true) := by
  obtain ⟨⟨hE, hM, hD, hJ⟩, hNU⟩ := h
  have hI := hE.1.mplsElectSurplus A hA hex hwq hv hsub
  unfold mplsElectSurplus at hI ⊢
  have hI1 := hE.1.breakTie A (hwq.filter (fun c => A.eq c.vote hv)) "Break tie (largest surplus)"
  have hE1 := EHQ.breakTie A hE.2 (hwq.filter (fun c => A.eq c.vote hv)) "Break tie (largest surplus)"
  have hM1 := hM.breakTie A (hwq.filter (fun c => A.eq c.vote hv)) "Break tie (largest surplus)"
  have hF1 := (stepRel_frame A).breakTie s (hwq.filter (fun c => A.eq c.vote hv)) "Break tie (largest surplus)"
  have hX1 := (stepRel_ext A).breakTie s (hwq.filter (fun c => A.eq c.vote hv)) "Break tie (largest surplus)"
  have hmu1 := mu_breakTie A s (hwq.filter (fun c => A.eq c.vote hv)) "Break tie (largest surplus)"
  have hS1 := sumHE_breakTie A s (hwq.filter (fun c => A.eq c.vote hv)) "Break tie (largest surplus)"
  have hfr := breakTie_frame A s (hwq.filter (fun c => A.eq c.vote hv)) "Break tie (largest surplus)"
  have hmem := breakTie_mem A s (hwq.filter (fun c => A.eq c.vote hv)) "Break tie (largest surplus)"
  have hnone := breakTie_none_crash A s (hwq.filter (fun c => A.eq c.vote hv)) "Break tie (largest surplus)"
  have hNU1 : NoUnd (breakTie A s (hwq.filter (fun c => A.eq c.vote hv)) "Break tie (largest surplus)").1 :=
    hNU.of_cands hfr.1
  cases hb : Droop.breakTie A s (hwq.filter (fun c => A.eq c.vote hv)) "Break tie (largest surplus)" with
  | mk s3 oc =>
    rw [hb] at hI hI1 hE1 hM1 hF1 hX1 hmu1 hS1 hfr hmem hnone hNU1
    dsimp only at hI1 hE1 hM1 hF1 hX1 hmu1 hS1 hNU1
    cases oc with
    | none =>
      dsimp only at hI ⊢
      refine ⟨⟨⟨⟨hI1, hE1⟩, hM1, hD.of_frame A hF1, ?_⟩, hNU1⟩, hX1, ?_, fun _ => hnone rfl⟩
      · rw [hF1.2.1, hS1]; exact hJ
      · intro hc; cases hc
    | some hc =>
      dsimp only at hI ⊢
      have hcm := hmem hc rfl
      rw [List.mem_filter] at hcm
      obtain ⟨hch, hcq⟩ := hsub hc hcm.1
      obtain ⟨hcs, hchop⟩ := mem_hopeful.1 hch
      obtain ⟨e1, e2, e3, e4, e5⟩ := hfr
      have hcs3 : hc ∈ s3.cands := by simp only at e1; rw [e1]; exact hcs
      have hq3 : s3.quota ≤ hc.vote := by
        simp only at e4; rw [e4]; exact hasQuotaGE_sound A hA hex s hc hcq
      have huniq : ∀ c ∈ s3.cands, c.cid = hc.cid → c = hc := fun c hc' hcc => nodup_cid_eq hI1.wf hc' hcs3 hcc
      have h4I := hI1.electNP A hc.cid "Elect"
      have h4E : ElectedHoldQuota (s3.elect A hc.cid "Elect" false) :=
        EHQ.elect A hE1 hc.cid "Elect" false (fun c hc' hcc => by rw [huniq c hc' hcc]; exact hq3)
      have h4M : Mon (s3.elect A hc.cid "Elect" false) :=
        hM1.elect A hc.cid "Elect" false (fun c hc' hcc => by rw [huniq c hc' hcc]; exact hchop)
      have hcnt := counts_elect A s3 hc "Elect" false hI1.wf hcs3 hchop
      have hmu4 := mu_elect_lt A s3 hc "Elect" false hI1.wf hcs3 hchop
      have hq4 : (s3.elect A hc.cid "Elect" false).quota ≤ hc.vote := by
        unfold St.elect; rw [logAct_quota]; exact hq3
      have hst := (step_surplusCore A hA (rewMulDiv A) (rewMulDiv_law A hA) h4I hc hq4).trans
        (step_mplsLogTransfer A _ "Transfer surplus" [hc.cid])
      unfold surplusCore at hst
      refine ⟨⟨⟨⟨hI, hst.ehq h4E⟩, hst.mon h4M,
        hD.of_frame A (hF1.trans ((frame_elect A s3 hc.cid "Elect" false).trans hst.frame)), ?_⟩,
        hst.nound (hNU1.elect A hc.cid "Elect" false)⟩,
        hX1.trans ((ext_elect A s3 hc.cid "Elect" false).trans hst.ext), ?_, ?_⟩
      · rw [hst.frame.2.1, hst.sumHE, (frame_elect A s3 hc.cid "Elect" false).2.1, hF1.2.1]
        unfold sumHE at hS1 hJ ⊢; omega
      · intro _; rw [hst.mu]; omega
      · intro hc'; cases hc'

theorem mplsDefeatLow_spec (hA : LawfulArith A) {s : St α} (h : MplsInv A s) :
    MplsInv A (mplsDefeatLow A s) ∧ Ext s (mplsDefeatLow A s)
    ∧ ((s.hopeful.length : Int) > s.seatsLeft → mu (mplsDefeatLow A s) < mu s ∨ (mplsDefeatLow A s).crash.isSome = true)
    ∧ (¬ ((s.hopeful.length : Int) > s.seatsLeft) → mplsDefeatLow A s = s) := by
  obtain ⟨⟨hE, hM, hD, hJ⟩, hNU⟩ := h
  have hI := hE.1.mplsDefeatLow A hA
  have hel : nEl s ≤ s.seats := elected_le_seats A hE.1 hE.2 hD
  unfold mplsDefeatLow at hI ⊢
  by_cases hg : ((s.hopeful.length : Int) > s.seatsLeft)
  · have hd : decide ((s.hopeful.length : Int) > s.seatsLeft) = true := by simpa using hg
    rw [if_pos hd] at hI ⊢
    have hhne : s.hopeful ≠ [] := by
      intro e; rw [e] at hg; unfold St.seatsLeft at hg; unfold nEl at hel; simp at hg; omega
    obtain ⟨lv, hm⟩ := minVoteOf_isSome A s.hopeful hhne
    rw [hm] at hI ⊢
    dsimp only at hI ⊢
    have hI1 := hE.1.breakTie A (s.hopeful.filter (fun c => A.eq c.vote lv)) "Break tie (defeat low candidate)"
    have hE1 := EHQ.breakTie A hE.2 (s.hopeful.filter (fun c => A.eq c.vote lv)) "Break tie (defeat low candidate)"
    have hM1 := hM.breakTie A (s.hopeful.filter (fun c => A.eq c.vote lv)) "Break tie (defeat low candidate)"
    have hF1 := (stepRel_frame A).breakTie s (s.hopeful.filter (fun c => A.eq c.vote lv)) "Break tie (defeat low candidate)"
    have hX1 := (stepRel_ext A).breakTie s (s.hopeful.filter (fun c => A.eq c.vote lv)) "Break tie (defeat low candidate)"
    have hmu1 := mu_breakTie A s (s.hopeful.filter (fun c => A.eq c.vote lv)) "Break tie (defeat low candidate)"
    have hS1 := sumHE_breakTie A s (s.hopeful.filter (fun c => A.eq c.vote lv)) "Break tie (defeat low candidate)"
    have hfr := breakTie_frame A s (s.hopeful.filter (fun c => A.eq c.vote lv)) "Break tie (defeat low candidate)"
    have hmem := breakTie_mem A s (s.hopeful.filter (fun c => A.eq c.vote lv)) "Break tie (defeat low candidate)"
    have hnone := breakTie_none_crash A s (s.hopeful.filter (fun c => A.eq c.vote lv)) "Break tie (defeat low candidate)"
    have hNU1 : NoUnd (breakTie A s (s.hopeful.filter (fun c => A.eq c.vote lv)) "Break tie (defeat low candidate)").1 :=
      hNU.of_cands hfr.1
    cases hb : Droop.breakTie A s (s.hopeful.filter (fun c => A.eq c.vote lv)) "Break tie (defeat low candidate)" with
    | mk s1 oc =>
      rw [hb] at hI hI1 hE1 hM1 hF1 hX1 hmu1 hS1 hfr hmem hnone hNU1
      dsimp only at hI1 hE1 hM1 hF1 hX1 hmu1 hS1 hNU1
      cases oc with
      | none =>
        dsimp only at hI ⊢
        refine ⟨⟨⟨⟨hI1, hE1⟩, hM1, hD.of_frame A hF1, ?_⟩, hNU1⟩, hX1, fun _ => Or.inr (hnone rfl), fun hn => absurd hg hn⟩
        rw [hF1.2.1, hS1]; exact hJ
      | some lc =>
        dsimp only at hI ⊢
        have hcm := hmem lc rfl
        rw [List.mem_filter] at hcm
        obtain ⟨hcs, hch⟩ := mem_hopeful.1 hcm.1
        obtain ⟨e1, e2, e3, e4, e5⟩ := hfr
        have hcs1 : lc ∈ s1.cands := by simp only at e1; rw [e1]; exact hcs
        have h4I := hI1.defeat A lc.cid "Defeat low candidate"
        have h4E := EHQ.defeat A hE1 lc.cid "Defeat low candidate"
        have h4M : Mon (s1.defeat A lc.cid "Defeat low candidate") :=
          hM1.defeat A lc.cid _ (fun c hc' hcc => by rw [nodup_cid_eq hI1.wf hc' hcs1 hcc]; exact hch)
        have hcnt := counts_defeat A s1 lc "Defeat low candidate" hI1.wf hcs1 hch
        have hmu4 := mu_defeat_lt A s1 lc "Defeat low candidate" hI1.wf hcs1 hch
        have hF4 := frame_defeat A s1 lc.cid "Defeat low candidate"
        have hX4 := ext_defeat A s1 lc.cid "Defeat low candidate"
        have hNU4 := hNU1.defeat A lc.cid "Defeat low candidate"
        have hJ4 : (s1.defeat A lc.cid "Defeat low candidate").seats ≤ sumHE (s1.defeat A lc.cid "Defeat low candidate") := by
          rw [hF4.2.1, hF1.2.1]
          unfold St.seatsLeft at hg
          unfold sumHE nHop nEl at *
          omega
        unfold mplsAfterDefeatLow at hI ⊢
        split
        · -- the ballots move on
          have hne4 : ∀ cid ∈ [lc.cid], ∀ c ∈ (s1.defeat A lc.cid "Defeat low candidate").cands, c.cid = cid → c.st ≠ .elected := by
            intro cid hcid c hc' hcc
            simp at hcid; subst hcid
            unfold St.defeat at hc'; rw [logAct_cands] at hc'
            obtain ⟨c0, hc0, rfl⟩ := mem_upd.1 hc'
            by_cases hc0c : (c0.cid == lc.cid) = true
            · simp [hc0c]
            · have hf : (c0.cid == lc.cid) = false := by simpa using hc0c
              simp only [hf, Bool.false_eq_true, if_false] at hcc
              simp [hcc] at hf
          have hst := (step_defeatedCore A hA h4I [lc.cid] hne4).trans (step_mplsLogTransfer A _ "Transfer defeated" [lc.cid])
          unfold defeatedCore at hst
          simp only [List.foldl_cons, List.foldl_nil] at hst
          rename_i hif
          rw [if_pos hif] at hI
          refine ⟨⟨⟨⟨hI, hst.ehq h4E⟩, hst.mon h4M, hD.of_frame A (hF1.trans (hF4.trans hst.frame)), ?_⟩, hst.nound hNU4⟩,
            hX1.trans (hX4.trans hst.ext), fun _ => Or.inl ?_, fun hn => absurd hg hn⟩
          · rw [hst.frame.2.1, hst.sumHE]; exact hJ4
          · rw [hst.mu]; omega
        · rename_i hif
          rw [if_neg hif] at hI
          refine ⟨⟨⟨⟨hI, h4E⟩, h4M, hD.of_frame A (hF1.trans hF4), hJ4⟩, hNU4⟩, hX1.trans hX4, fun _ => Or.inl (by omega),
            fun hn => absurd hg hn⟩
  · have hd : ¬ (decide ((s.hopeful.length : Int) > s.seatsLeft) = true) := by simpa using hg
    rw [if_neg hd] at hI ⊢
    exact ⟨⟨⟨hE, hM, hD, hJ⟩, hNU⟩, Ext.refl s, fun hgt => absurd hgt hg, fun _ => rfl⟩

/-- how a round that breaks leaves the count: crashed, all seats taken, or no more hopefuls than open seats -/
def MplsFin (t : St α) : Prop :=
  t.crash.isSome = true ∨ nEl t = t.seats ∨ (t.hopeful.length : Int) ≤ t.seatsLeft

theorem mplsRound_spec (hA : LawfulArith A) (hex : A.exact = false) {s : St α} (h : MplsInv A s) :
    MplsInv A (mplsRound A s).1 ∧ Ext s (mplsRound A s).1
    ∧ ((mplsRound A s).2 = .cont → mu (mplsRound A s).1 < mu s ∨ (mplsRound A s).1.crash.isSome = true)
    ∧ ((mplsRound A s).2 = .brk → MplsFin (mplsRound A s).1) := by
  have hel : nEl s ≤ s.seats := h.1.elected_le A
  unfold mplsRound
  by_cases hds : (mplsDefeatSet A s).isEmpty = false
  · simp only [hds, Bool.not_false, if_true]
    have hne : mplsDefeatSet A s ≠ [] := by intro e; rw [e] at hds; simp at hds
    obtain ⟨a1, a2, a3⟩ := mplsDefeatMany_spec A hA h _ (mplsDefeatSet_hopeful A s) (mplsDefeatSet_nodup A s h.wf) hne
      (mplsDefeatSet_bound A h.2 hne) hel
    refine ⟨a1, a2, fun _ => Or.inl a3, ?_⟩
    intro hc; unfold mplsDefeatMany at hc; cases hc
  · have hds' : (mplsDefeatSet A s).isEmpty = true := by simpa using hds
    simp only [hds', Bool.not_true, Bool.false_eq_true, if_false]
    split
    · rename_i hd hs heq
      obtain ⟨a1, a2, a3, a4⟩ := mplsElectSurplus_spec A hA hex h (hd :: hs) (A.pyMax hd.vote (hs.map (·.vote))) (by
        intro w hw
        have : w ∈ (byVote A true s.hopeful).filter (hasQuotaGE A s) := by rw [heq]; exact hw
        rw [List.mem_filter] at this
        exact ⟨(mem_pySorted _ _ _ _).1 this.1, this.2⟩)
      exact ⟨a1, a2, fun hc => Or.inl (a3 hc), fun hc => Or.inl (a4 hc)⟩
    · obtain ⟨b1, b2, b3, b4⟩ := mplsDefeatLow_spec A hA h
      unfold mplsFinish
      by_cases hfin : ((mplsDefeatLow A s).hopeful.length : Int) ≤ (mplsDefeatLow A s).seatsLeft
      · have hd : decide (((mplsDefeatLow A s).hopeful.length : Int) ≤ (mplsDefeatLow A s).seatsLeft) = true := by simpa using hfin
        rw [if_pos hd]
        refine ⟨b1, b2, ?_, fun _ => Or.inr (Or.inr hfin)⟩
        intro hc; cases hc
      · have hd : ¬ (decide (((mplsDefeatLow A s).hopeful.length : Int) ≤ (mplsDefeatLow A s).seatsLeft) = true) := by simpa using hfin
        rw [if_neg hd]
        refine ⟨b1, b2, fun _ => ?_, ?_⟩
        · by_cases hg : ((s.hopeful.length : Int) > s.seatsLeft)
          · exact b3 hg
          · exfalso
            rw [b4 hg] at hfin
            exact hfin (by omega)
        · intro hc; cases hc

theorem mplsAtThreshold_facts {s : St α} (hwf : s.WF) (hA : LawfulArith A) (hex : A.exact = false) :
    ((mplsAtThreshold A s).map (·.cid)).Nodup
    ∧ ∀ w ∈ mplsAtThreshold A s, w ∈ s.cands ∧ w.st = .hopeful ∧ s.quota ≤ w.vote := by
  unfold mplsAtThreshold
  refine ⟨?_, ?_⟩
  · have hp : ((byVote A true s.hopeful).map (·.cid)).Perm (s.hopeful.map (·.cid)) := (pySorted_perm _ _ _).map _
    have hnd : ((byVote A true s.hopeful).map (·.cid)).Nodup := hp.nodup_iff.2 (hopeful_cids_nodup hwf)
    exact List.Nodup.sublist (List.Sublist.map _ List.filter_sublist) hnd
  · intro w hw
    rw [List.mem_filter] at hw
    have hm : w ∈ s.hopeful := (mem_pySorted _ _ _ _).1 hw.1
    obtain ⟨hc, hh⟩ := mem_hopeful.1 hm
    have hq : hasQuotaGE A s w = true := by
      have := hw.2; simp only [Bool.and_eq_true] at this; exact this.2
    exact ⟨hc, hh, hasQuotaGE_sound A hA hex s w hq⟩

theorem mplsBody_spec (hA : LawfulArith A) (hex : A.exact = false) {s : St α} (h : MplsInv A s) :
    MplsInv A (mplsBody A s).1 ∧ Ext s (mplsBody A s).1
    ∧ ((mplsBody A s).2 = .cont → mu (mplsBody A s).1 < mu s ∨ (mplsBody A s).1.crash.isSome = true)
    ∧ ((mplsBody A s).2 = .brk → MplsFin (mplsBody A s).1) := by
  obtain ⟨⟨hE, hM, hD, hJ⟩, hNU⟩ := h
  have hcv := step_mplsCountVotes A s
  have hIcv : Inv A (mplsCountVotes A s) := hE.1.mplsCountVotes A
  have hinv1 : MplsInv A (mplsCountVotes A s) :=
    ⟨⟨⟨hIcv, hcv.ehq hE.2⟩, hcv.mon hM, hD.of_frame A hcv.frame, by rw [hcv.frame.2.1, hcv.sumHE]; exact hJ⟩, hcv.nound hNU⟩
  unfold mplsBody
  generalize mplsCountVotes A s = s1 at *
  by_cases hthr : s1.elected.length + (mplsAtThreshold A s1).length ≥ s1.seats
  · rw [if_pos hthr]
    unfold mplsElectThreshold
    dsimp only
    obtain ⟨hnd, hw⟩ := mplsAtThreshold_facts A hinv1.wf hA hex
    have hE2 := InvE.foldElect A hinv1.1.1 (mplsAtThreshold A s1) (fun _ => "Candidate at threshold") (fun _ => false) hnd hw
    obtain ⟨g, a, b, f, x, c, m⟩ := foldElectAll A ⟨hinv1.inv, hinv1.1.2.1⟩ (mplsAtThreshold A s1) "Candidate at threshold" hnd
      (fun w hw' => ⟨(hw w hw').1, (hw w hw').2.1⟩)
    have hNU2 : NoUnd ((mplsAtThreshold A s1).foldl (fun acc c => acc.elect A c.cid "Candidate at threshold" false) s1) :=
      NoUnd.foldl (fun (acc : St α) (c : Cand α) => acc.elect A c.cid "Candidate at threshold" false)
        (fun t c ht => ht.elect A c.cid _ _) _ hinv1.2
    generalize (mplsAtThreshold A s1).foldl (fun acc c => acc.elect A c.cid "Candidate at threshold" false) s1 = s2 at *
    have hD2 : DroopQuota A s2 := hinv1.1.2.2.1.of_frame A f
    have hle2 : nEl s2 ≤ s2.seats := elected_le_seats A hE2.1 hE2.2 hD2
    refine ⟨⟨⟨hE2, g.2, hD2, ?_⟩, hNU2⟩, hcv.ext.trans x, ?_, fun _ => Or.inr (Or.inl ?_)⟩
    · rw [f.2.1]; have := hinv1.1.2.2.2; unfold sumHE at this ⊢; omega
    · intro hc; cases hc
    · rw [f.2.1] at hle2 ⊢; unfold nEl at *; omega
  · rw [if_neg hthr]
    have hnr := step_newRound A s1
    have hinv2 : MplsInv A (s1.newRound A) :=
      ⟨hinv1.1.newRound A, hnr.nound hinv1.2⟩
    obtain ⟨c1, c2, c3, c4⟩ := mplsRound_spec A hA hex hinv2
    refine ⟨c1, hcv.ext.trans (hnr.ext.trans c2), fun hc => ?_, c4⟩
    rcases c3 hc with h1 | h1
    · left; rw [hnr.mu, hcv.mu] at h1; exact h1
    · right; exact h1

abbrev mplsQuota (s0 : St α) : α := A.ofInt (pdiv s0.nballots (s0.seats + 1) + 1)

theorem mplsInit_inv (hA : LawfulArith A) {s0 : St α} (h0 : GStart A (mplsQuota A s0) s0) (hnu : NoUnd s0) :
    MplsInv A (mplsInit A s0) ∧ Ext s0 (mplsInit A s0) ∧ (mplsInit A s0).cands.length = s0.cands.length := by
  unfold mplsInit
  set core : St α := (firstCount A (s0.setQuota (mplsQuota A s0))).setExhausted A.zero with hcore
  have hIc : Inv A core := Inv.initCore A hA _ h0.init h0.quota_pos
  have hsk : core.skel = s0.skel := by
    show ((firstCount A (s0.setQuota _)).setExhausted A.zero).skel = _
    rw [firstCount_eq]; exact foldl_fcStep_skel A _ _
  obtain ⟨_, _, f3, f4, _, f6⟩ := foldl_fcStep_frame A (s0.setQuota (mplsQuota A s0)).ballots (s0.setQuota (mplsQuota A s0))
  have e1 : core.nballots = s0.nballots := by
    show (firstCount A _).nballots = _; rw [firstCount_eq]; exact f4
  have e2 : core.seats = s0.seats := by
    show (firstCount A _).seats = _; rw [firstCount_eq]; exact foldl_fcStep_seats A _ _
  have e3 : core.quota = mplsQuota A s0 := by
    show (firstCount A _).quota = _; rw [firstCount_eq]; exact f3
  have e4 : core.acts = [] := by
    show (firstCount A _).acts = _; rw [firstCount_acts]; exact h0.init.noActs
  have hfresh : ∀ c ∈ core.cands, c.st ≠ .elected := by
    intro c hc
    obtain ⟨c0, hc0, hcs⟩ := mem_of_skel_eq hsk hc
    rw [← (skel_st hcs).1]; exact h0.fresh c0 hc0
  have hX0 : Ext s0 core := Ext.of_acts_eq (by rw [e4]; exact h0.init.noActs.symm ▸ rfl)
  have hnr := step_newRound A core
  refine ⟨⟨⟨⟨hIc.newRound A, hnr.ehq (EHQ.of_noElected hfresh)⟩, hnr.mon (Mon.of_noActs e4), ?_, ?_⟩, hnr.nound (hnu.of_skel hsk)⟩,
    hX0.trans hnr.ext, ?_⟩
  · apply DroopQuota.of_frame A _ hnr.frame
    unfold DroopQuota; rw [e1, e2, e3]; exact h0.droop
  · rw [hnr.frame.2.1, hnr.sumHE, e2]
    have := (counts_of_skel hsk).1
    have hen := h0.enough
    unfold sumHE; omega
  · have hl := congrArg List.length hsk
    unfold St.skel at hl; simp only [List.length_map] at hl
    have : (core.newRound A).cands = core.cands := by unfold St.newRound; rw [logAct_cands]
    rw [this]; exact hl

/-- C01 / C09, Minneapolis without undeclared write-ins: the count returns, with a forward-only, append-only record and the
    seats filled -/
theorem mpls_count_spec (hA : LawfulArith A) (hex : A.exact = false) (s0 : St α) (h0 : GStart A (mplsQuota A s0) s0)
    (hnu : NoUnd s0) :
    ∃ t, mplsCount A s0 = some t ∧ Mon t ∧ Ext s0 t ∧ (t.crash = none → nEl t = t.seats ∧ nHop t = 0) := by
  obtain ⟨hinit, hX0, hlen⟩ := mplsInit_inv A hA h0 hnu
  have hfuel : mu (mplsInit A s0) + 2 ≤ 2 * s0.cands.length + 4 := by
    have := mu_le_two_mul (mplsInit A s0); omega
  obtain ⟨s4, hl, hres⟩ := loopN_run mu (MplsInv A) (fun t => MplsInv A t ∧ MplsFin t) (fun _ => true) (mplsBody A)
    (fun s hs _ => ⟨fun hc => ⟨(mplsBody_spec A hA hex hs).1, (mplsBody_spec A hA hex hs).2.2.1 hc⟩,
      fun hc => ⟨(mplsBody_spec A hA hex hs).1, (mplsBody_spec A hA hex hs).2.2.2 hc⟩⟩) _ _ hinit hfuel
  have hP : MplsInv A s4 := by rcases hres with ⟨hP, _⟩ | ⟨hP, _⟩ <;> exact hP
  obtain ⟨⟨hE, hM, hD, hJ⟩, _⟩ := hP
  obtain ⟨e1, e2, e3, e4, e5, e6⟩ := mplsEpilogue_spec A (s := s4) ⟨hE.1, hM⟩
  refine ⟨mplsEpilogue A s4, by unfold mplsCount; rw [hl], e1.2,
    hX0.trans (((stepRel_ext A).loopN _ _ (stepRel_ext A).mplsBody _ _ _ hl).trans e2), fun hcr => ?_⟩
  rw [e3] at hcr
  have hfin : nEl s4 = s4.seats ∨ (s4.hopeful.length : Int) ≤ s4.seatsLeft := by
    rcases hres with ⟨_, hc | hg⟩ | ⟨_, h1 | h1 | h1⟩
    · rw [hcr] at hc; simp at hc
    · simp at hg
    · rw [hcr] at h1; simp at h1
    · exact Or.inl h1
    · exact Or.inr h1
  exact ⟨by rw [e4]; exact e6 hfin (elected_le_seats A hE.1 hE.2 hD) hJ, e5⟩

theorem mplsCount_terminates (hA : LawfulArith A) (hex : A.exact = false) (s0 : St α) (h0 : GStart A (mplsQuota A s0) s0)
    (hnu : NoUnd s0) : ∃ t, mplsCount A s0 = some t := by
  obtain ⟨t, ht, _⟩ := mpls_count_spec A hA hex s0 h0 hnu
  exact ⟨t, ht⟩

theorem mpls_result (hA : LawfulArith A) (hex : A.exact = false) (s0 t : St α) (h0 : GStart A (mplsQuota A s0) s0)
    (hnu : NoUnd s0) (h : mplsCount A s0 = some t) :
    Mon t ∧ Ext s0 t ∧ (t.crash = none → nEl t = t.seats ∧ nHop t = 0) := by
  obtain ⟨t', ht', hr⟩ := mpls_count_spec A hA hex s0 h0 hnu
  cases Option.some.inj (ht'.symm.trans h)
  exact hr

end Droop
