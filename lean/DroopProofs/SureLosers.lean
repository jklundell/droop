import DroopModel.Oracles
import DroopProofs.InvWigmRun

/-! # C07: candidates excluded as a batch are sure losers

`batchDefeatGroups` (wigm-prf-batch, meek, warren) and `mplsCertainLosers` return a prefix of the hopefuls sorted by tally whose
combined tallies plus the surplus are below the tally of the next candidate in that order, and (`batchDefeatGroups_bound`,
`mplsCertainLosers_go_bound`) leave enough candidates to fill the seats. -/
namespace Droop
variable {α : Type} [CommRing α] [LinearOrder α] [IsStrictOrderedRing α] (A : Arith α)

def votesOf (l : List (Cand α)) : α := (l.map (·.vote)).sum

theorem votesOf_append (a b : List (Cand α)) : votesOf (a ++ b) = votesOf a + votesOf b := by
  unfold votesOf; rw [List.map_append, List.sum_append]

/-- the scan of the vote-sorted groups: whenever it settles on group index `m`, the groups up to `m` together with the surplus
    are below the first candidate of group `m+1` -/
theorem scanGroups_sure (hA : LawfulArith A) (surplus : α) (maxDefeat : Int) :
    ∀ (suffix pre : List (List (Cand α))) (maxg : Option Nat),
      (∀ m, maxg = some m → ∃ c0, (((pre ++ suffix).drop (m + 1)).head?.bind List.head?) = some c0
          ∧ A.lt (A.add (votesOf ((pre ++ suffix).take (m + 1)).flatten) surplus) c0.vote = true) →
      ∀ m, scanGroups A surplus maxDefeat suffix pre.length pre.flatten.length (votesOf pre.flatten) maxg = some m →
        ∃ c0, (((pre ++ suffix).drop (m + 1)).head?.bind List.head?) = some c0
          ∧ A.lt (A.add (votesOf ((pre ++ suffix).take (m + 1)).flatten) surplus) c0.vote = true := by
  intro suffix
  induction suffix with
  | nil => intro pre maxg h m hm; unfold scanGroups at hm; exact h m hm
  | cons grp tl ih =>
    intro pre maxg h m hm
    cases tl with
    | nil => unfold scanGroups at hm; exact h m hm
    | cons nxt rest =>
      unfold scanGroups at hm
      by_cases hgt : ((pre.flatten.length + grp.length : Nat) : Int) > maxDefeat
      · rw [if_pos hgt] at hm; exact h m hm
      · rw [if_neg hgt] at hm
        dsimp only at hm
        have e1 : (pre ++ [grp]).length = pre.length + 1 := by simp
        have e2 : (pre ++ [grp]).flatten.length = pre.flatten.length + grp.length := by simp
        have e3 : pre ++ grp :: nxt :: rest = (pre ++ [grp]) ++ nxt :: rest := by simp
        have e4 : A.add (votesOf pre.flatten) (A.sum (grp.map (·.vote))) = votesOf (pre ++ [grp]).flatten := by
          rw [hA.add_eq, arith_sum_eq A hA]
          have : (pre ++ [grp]).flatten = pre.flatten ++ grp := by simp
          rw [this, votesOf_append]; rfl
        rw [← e1, ← e2, e4] at hm
        rw [e3]
        apply ih (pre ++ [grp]) _ _ m hm
        intro m' hm'
        have htake : (((pre ++ [grp]) ++ nxt :: rest).take (pre.length + 1)) = pre ++ [grp] := by
          rw [← e1]; exact List.take_left
        have hdrop : (((pre ++ [grp]) ++ nxt :: rest).drop (pre.length + 1)) = nxt :: rest := by
          rw [← e1]; exact List.drop_left
        cases hn : nxt.head? with
        | none =>
          rw [hn] at hm'; dsimp only at hm'
          rw [← e3]; exact h m' hm'
        | some c0 =>
          rw [hn] at hm'; dsimp only at hm'
          split at hm'
          · rename_i hlt
            cases hm'
            refine ⟨c0, ?_, ?_⟩
            · rw [hdrop]; simp [hn]
            · rw [htake]; exact hlt
          · rw [← e3]; exact h m' hm'

/-- C07: the batch of wigm-prf-batch / meek / warren is a prefix of the hopefuls in tally order whose combined tallies plus the
    surplus are below the tally of the next candidate in that order -/
theorem batchDefeatGroups_sure (hA : LawfulArith A) (s : St α) (surplus : α) (hne : batchDefeatGroups A s surplus ≠ []) :
    ∃ c0 rest, byVote A false s.hopeful = batchDefeatGroups A s surplus ++ c0 :: rest
      ∧ A.lt (A.add (votesOf (batchDefeatGroups A s surplus)) surplus) c0.vote = true := by
  unfold batchDefeatGroups at hne ⊢
  dsimp only at hne ⊢
  cases hg : scanGroups A surplus ((s.hopeful.length : Int) - s.seatsLeft) (sortedGroups A surplus (byVote A false s.hopeful))
      0 0 A.zero none with
  | none => rw [hg] at hne; exact absurd rfl hne
  | some g =>
    dsimp only at hne ⊢
    have := scanGroups_sure A hA surplus ((s.hopeful.length : Int) - s.seatsLeft)
      (sortedGroups A surplus (byVote A false s.hopeful)) [] none (by intro m hm; cases hm) g
      (by simp only [List.length_nil, List.flatten_nil, votesOf, List.map_nil, List.sum_nil]; rw [← hA.zero_eq]; exact hg)
    simp only [List.nil_append] at this
    obtain ⟨c0, hc0, hlt⟩ := this
    set groups := sortedGroups A surplus (byVote A false s.hopeful) with hgroups
    have hfl : (groups.take (g + 1)).flatten ++ (groups.drop (g + 1)).flatten = byVote A false s.hopeful := by
      rw [← List.flatten_append, List.take_append_drop, hgroups, sortedGroups_flatten]
    cases hd : groups.drop (g + 1) with
    | nil => rw [hd] at hc0; simp at hc0
    | cons nxt more =>
      rw [hd] at hc0
      simp only [List.head?_cons, Option.bind_some] at hc0
      cases hn : nxt with
      | nil => rw [hn] at hc0; simp at hc0
      | cons x xs =>
        rw [hn] at hc0
        simp only [List.head?_cons, Option.some.injEq] at hc0
        subst hc0
        refine ⟨x, xs ++ more.flatten, ?_, hlt⟩
        rw [← hfl, hd, hn]; simp

def SurePrefix (surplus : α) (sorted losers : List (Cand α)) : Prop :=
  losers = [] ∨ ∃ k c0, losers = sorted.take k ∧ sorted[k]? = some c0
    ∧ A.lt (A.add (votesOf (sorted.take k)) surplus) c0.vote = true

theorem mplsCertainLosers_go_sure (hA : LawfulArith A) (surplus : α) (sorted : List (Cand α)) (maxDefeat : Int) :
    ∀ (fuel cx : Nat) (losers : List (Cand α)), SurePrefix A surplus sorted losers →
      SurePrefix A surplus sorted (mplsCertainLosers.go A surplus sorted maxDefeat cx fuel (votesOf (sorted.take cx)) losers) := by
  intro fuel
  induction fuel with
  | zero => intro cx losers hl; unfold mplsCertainLosers.go; exact hl
  | succ n ih =>
    intro cx losers hl
    unfold mplsCertainLosers.go
    dsimp only
    split
    · exact hl
    · rename_i hlt
      split
      · rename_i c nxt hc hnxt
        split
        · exact hl
        · have hvote : A.add (votesOf (sorted.take cx)) c.vote = votesOf (sorted.take (cx + 1)) := by
            rw [hA.add_eq]
            have : sorted.take (cx + 1) = sorted.take cx ++ [c] := by
              rw [List.take_succ, hc]; rfl
            rw [this, votesOf_append]; simp [votesOf]
          rw [hvote]
          apply ih
          split
          · rename_i hlt2
            right
            exact ⟨cx + 1, nxt, rfl, hnxt, hlt2⟩
          · exact hl
      · exact hl

/-- C07: up to the order in which they are excluded, the certain losers of a Minneapolis round are such a prefix too -/
theorem mplsCertainLosers_sure (hA : LawfulArith A) (s : St α) (surplus : α) (hne : mplsCertainLosers A s surplus ≠ []) :
    ∃ k c0, (mplsCertainLosers A s surplus).Perm ((byVote A false s.hopeful).take k)
      ∧ (byVote A false s.hopeful)[k]? = some c0
      ∧ A.lt (A.add (votesOf ((byVote A false s.hopeful).take k)) surplus) c0.vote = true := by
  unfold mplsCertainLosers at hne ⊢
  dsimp only at hne ⊢
  have h0 : votesOf ((byVote A false s.hopeful).take 0) = A.zero := by simp [votesOf, hA.zero_eq]
  have := mplsCertainLosers_go_sure A hA surplus (byVote A false s.hopeful) ((s.hopeful.length : Int) - s.seatsLeft)
    (byVote A false s.hopeful).length 0 [] (Or.inl rfl)
  rw [h0] at this
  rcases this with h | ⟨k, c0, h1, h2, h3⟩
  · exfalso; apply hne; rw [h]; rfl
  · refine ⟨k, c0, ?_, h2, h3⟩
    rw [h1]
    exact pySorted_perm _ _ _

end Droop
