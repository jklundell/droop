import DroopProofs.CoalitionRun
import DroopProofs.DropW
import DroopProofs.RunWigm

/-! # Transformers of states that every step of a Gregory count commutes with

Deleting the withdrawn candidates (`dropW`, C11) and rearranging or splitting the ballot lines (`xB`, C10) commute with a count
for the same reason: every selector the rules read is blind to the transformer, and every primitive write commutes with it.
`StepComm` names that reason, and the steps of wigm, the Scottish rule, CfER and Minneapolis are walked for any such transformer.

`elect` and `defeat` commute with `dropW` only when no withdrawn candidate carries the id addressed: the candidate ids are distinct
(`St.WF`) and the id is that of a candidate who is not withdrawn (`NonWId`).  `xB` needs no such condition.  The parameter `G`
says whether the conditions are needed: the lemmas ask for `G → s.WF` and `G → NonWId s cid`; `G` is `True` for `dropW` and
`False` for `xB`. -/
namespace Droop
variable {α : Type} [CommRing α] [LinearOrder α] [IsStrictOrderedRing α] (A : Arith α)

structure StepComm (T : St α → St α) (G : Prop) : Prop where
  hopeful : ∀ s, (T s).hopeful = s.hopeful
  elected : ∀ s, (T s).elected = s.elected
  pendingL : ∀ s, (T s).pendingL = s.pendingL
  quota : ∀ s, (T s).quota = s.quota
  seats : ∀ s, (T s).seats = s.seats
  nballots : ∀ s, (T s).nballots = s.nballots
  round : ∀ s, (T s).round = s.round
  crash : ∀ s, (T s).crash = s.crash
  cand? : ∀ s cid, (G → s.WF) → (G → NonWId s cid) → (T s).cand? cid = s.cand? cid
  logAct : ∀ s tag verb subj, T (s.logAct A tag verb subj) = (T s).logAct A tag verb subj
  /-- an update that changes no status -/
  keep : ∀ s cid f, (∀ c, (f c).st = c.st) → T (s.upd cid f) = (T s).upd cid f
  /-- an update that gives the candidates carrying `cid` a status other than withdrawn (`elect`, `defeat`) -/
  mark : ∀ s cid f, (G → s.WF) → (G → NonWId s cid) → (∀ c, c.st ≠ .withdrawn → (f c).st ≠ .withdrawn) →
    T (s.upd cid f) = (T s).upd cid f
  setCrash : ∀ s k, T (s.setCrash k) = (T s).setCrash k
  setSurplus : ∀ s v, T (s.setSurplus v) = (T s).setSurplus v
  newRound : ∀ s, T (s.newRound A) = (T s).newRound A
  transferAll : ∀ s cids rew, T (Droop.transferAll A s cids rew) = Droop.transferAll A (T s) cids rew
  /-- quota `q`, first count, no exhausted votes: what every rule does before its first log line -/
  preCount : ∀ q s, T ((firstCount A (s.setQuota q)).setExhausted A.zero) = (firstCount A ((T s).setQuota q)).setExhausted A.zero

theorem WF_foldElect {s : St α} (hwf : s.WF) (ws : List (Cand α)) (verb : Cand α → String) (pend : Cand α → Bool) :
    (ws.foldl (fun acc c => acc.elect A c.cid (verb c) (pend c)) s).WF :=
  WF_of_reach ((stepRel_reach A).foldElect ws verb pend s) hwf

theorem WF_foldUnpend (l : List (Cand α)) {t : St α} (h : t.WF) : (l.foldl (fun acc c => acc.unpendSilent c.cid) t).WF := by
  induction l generalizing t with
  | nil => exact h
  | cons c cs ih => simp only [List.foldl_cons]; exact ih (WF_upd h _ _ (fun _ => rfl))

theorem WF_electWinners {s : St α} (hwf : s.WF) (hasQ : St α → Cand α → Bool) (pend : St α → Cand α → Bool)
    (verb : St α → Cand α → String) : (electWinners A hasQ pend verb s).WF :=
  WF_of_reach ((stepRel_reach A).electWinners hasQ pend verb s) hwf

theorem WF_newRound {s : St α} (hwf : s.WF) : (s.newRound A).WF := WF_of_reach ((stepRel_reach A).newRound s) hwf

theorem ok_pick {G : Prop} {s s1 : St α} (hc : s1.cands = s.cands) (hwf : G → s.WF) {tied : List (Cand α)}
    (ht : ∀ w ∈ tied, G → NonWId s w.cid) {lc : Cand α} (hm : lc ∈ tied) : (G → s1.WF) ∧ (G → NonWId s1 lc.cid) :=
  ⟨fun g => by unfold St.WF; rw [hc]; exact hwf g, fun g => nonWId_of_cands (ht lc hm g) hc⟩

theorem breakTie_pick {G : Prop} {s : St α} (hwf : G → s.WF) {tied : List (Cand α)} (ht : ∀ w ∈ tied, G → NonWId s w.cid)
    {verb : String} {s1 : St α} {lc : Cand α} (hb : breakTie A s tied verb = (s1, some lc)) :
    (G → s1.WF) ∧ (G → NonWId s1 lc.cid) := by
  have hc := (breakTie_frame A s tied verb).1
  have hm := breakTie_mem A s tied verb lc
  rw [hb] at hc hm
  exact ok_pick hc hwf ht (hm rfl)

theorem scotBreakTie_pick {G : Prop} {s : St α} (hwf : G → s.WF) {tied : List (Cand α)}
    (ht : ∀ w ∈ tied, G → NonWId s w.cid) {lowest : Bool} {reason : String} {s1 : St α} {lc : Cand α}
    (hb : scotBreakTie A s tied lowest reason = (s1, some lc)) : (G → s1.WF) ∧ (G → NonWId s1 lc.cid) := by
  have hc := (scotBreakTie_frame A s tied lowest reason).1
  have hm := scotBreakTie_mem A s tied lowest reason lc
  rw [hb] at hc hm
  exact ok_pick hc hwf ht (hm rfl)

theorem WF_scotRound {s : St α} (hwf : s.WF) : (scotRound A s).WF := WF_of_reach ((stepRel_reach A).scotRound s) hwf

theorem nonWId_of_skel {s t : St α} {d : Nat} (h : NonWId s d) (hsk : t.skel = s.skel) : NonWId t d := by
  obtain ⟨x, hx, hxc, hxs⟩ := h
  obtain ⟨x', hx', hs'⟩ := mem_of_skel_eq hsk.symm hx
  exact ⟨x', hx', (skel_cid hs').trans hxc, by rw [(skel_st hs').1]; exact hxs⟩

theorem nonWId_unpendLog {s : St α} {d : Nat} (h : NonWId s d) (cid : Nat) (verb : String) : NonWId (s.unpendLog A cid verb) d := by
  unfold St.unpendLog
  exact nonWId_of_cands (nonWId_upd h cid (fun c => { c with pending := false }) (fun _ => rfl) (fun _ hx => hx))
    (logAct_cands A _ _ _ _)

theorem nonWId_cferSurplusOne {s : St α} {d : Nat} (h : NonWId s d) (c : Cand α) : NonWId (cferSurplusOne A s c) d := by
  unfold cferSurplusOne
  cases s.cand? c.cid with
  | none => exact h
  | some cur => exact nonWId_of_skel (nonWId_unpendLog A h _ _) (transferSurplus_skel A _ cur _ _)

/-- the batch search reads the state only through `seats` and `quota` -/
theorem cferBatch_go_congr (s t : St α) (hs : t.seats = s.seats) (hq : t.quota = s.quota) (surplus : α) (cands : List (Cand α))
    (nEl : Nat) (top : Option (Cand α)) :
    ∀ (fuel k : Nat) (best : List (Cand α)),
      cferBatch.go A t surplus cands nEl top k fuel best = cferBatch.go A s surplus cands nEl top k fuel best := by
  intro fuel
  induction fuel with
  | zero => intro k best; rfl
  | succ n ih =>
    intro k best
    unfold cferBatch.go
    simp only [hs, hq, ih]

theorem mplsAtThreshold_hopeful (s : St α) : ∀ w ∈ mplsAtThreshold A s, w ∈ s.hopeful := by
  intro w hw
  unfold mplsAtThreshold at hw
  exact (mem_pySorted _ _ _ _).1 (List.mem_filter.1 hw).1

namespace StepComm

/-- the surplus Minneapolis reports, a sum over all candidates, is the same for `T s` -/
def Sur (T : St α → St α) (s : St α) : Prop := ∀ d, mplsSurplusAll A (T s) d = mplsSurplusAll A s d

/-- the look-back of the Scottish tie-break commutes with `T` at `s` -/
def Look (T : St α → St α) (G : Prop) (s : St α) : Prop :=
  ∀ (tied : List (Cand α)) (lowest : Bool) (reason : String), (∀ w ∈ tied, G → NonWId s w.cid) →
    scotBreakTie A (T s) tied lowest reason
      = (T (scotBreakTie A s tied lowest reason).1, (scotBreakTie A s tied lowest reason).2)

variable {A} {T : St α → St α} {G : Prop} (C : StepComm A T G)
include C

theorem seatsLeft (s : St α) : (T s).seatsLeft = s.seatsLeft := by
  unfold St.seatsLeft; rw [C.elected, C.seats]

theorem stdGuard (s : St α) : Droop.stdGuard (T s) = Droop.stdGuard s := by
  unfold Droop.stdGuard; rw [C.hopeful, C.seatsLeft]

theorem hasQuotaGE (s : St α) : Droop.hasQuotaGE A (T s) = Droop.hasQuotaGE A s := by
  funext c; unfold Droop.hasQuotaGE; rw [C.quota]

theorem hasQuotaX (s : St α) : Droop.hasQuotaX A (T s) = Droop.hasQuotaX A s := by
  funext c; unfold Droop.hasQuotaX; rw [C.quota]

theorem elect {s : St α} (hwf : G → s.WF) {cid : Nat} (h : G → NonWId s cid) (verb : String) (p : Bool) :
    T (s.elect A cid verb p) = (T s).elect A cid verb p := by
  unfold St.elect
  rw [C.logAct, C.mark s cid _ hwf h (fun _ _ => by simp)]

theorem defeat {s : St α} (hwf : G → s.WF) {cid : Nat} (h : G → NonWId s cid) (verb : String) :
    T (s.defeat A cid verb) = (T s).defeat A cid verb := by
  unfold St.defeat
  rw [C.logAct, C.mark s cid _ hwf h (fun _ _ => by simp)]

theorem unpendLog (s : St α) (cid : Nat) (verb : String) : T (s.unpendLog A cid verb) = (T s).unpendLog A cid verb := by
  unfold St.unpendLog
  rw [C.logAct, C.keep s cid (fun c => { c with pending := false }) (fun _ => rfl)]

theorem unpendSilent (s : St α) (cid : Nat) : T (s.unpendSilent cid) = (T s).unpendSilent cid := C.keep s cid _ (fun _ => rfl)

theorem setVote (s : St α) (cid : Nat) (v : α) : T (s.setVote cid v) = (T s).setVote cid v := C.keep s cid _ (fun _ => rfl)

theorem gInit (q : α) (s : St α) : T (Droop.gInit A q s) = Droop.gInit A q (T s) := by
  unfold Droop.gInit
  rw [C.logAct, C.preCount]

theorem foldElect (ws : List (Cand α)) (verb : Cand α → String) (pend : Cand α → Bool) {s : St α} (hwf : G → s.WF)
    (h : ∀ w ∈ ws, G → NonWId s w.cid) :
    T (ws.foldl (fun acc c => acc.elect A c.cid (verb c) (pend c)) s)
      = ws.foldl (fun acc c => acc.elect A c.cid (verb c) (pend c)) (T s) :=
  foldl_map_comm T (fun t => (G → t.WF) ∧ ∀ w ∈ ws, G → NonWId t w.cid) ws (fun acc c => acc.elect A c.cid (verb c) (pend c))
    (fun _ ht _ _ => ⟨fun g => WF_elect A (ht.1 g) _ _ _, fun w hw g => nonWId_elect A (ht.2 w hw g) _ _ _⟩)
    (fun _ ht c hc => C.elect ht.1 (ht.2 c hc) _ _) s ⟨hwf, h⟩

theorem foldDefeat (ws : List (Cand α)) (verb : Cand α → String) {s : St α} (hwf : G → s.WF)
    (h : ∀ w ∈ ws, G → NonWId s w.cid) :
    T (ws.foldl (fun acc c => acc.defeat A c.cid (verb c)) s) = ws.foldl (fun acc c => acc.defeat A c.cid (verb c)) (T s) :=
  foldl_map_comm T (fun t => (G → t.WF) ∧ ∀ w ∈ ws, G → NonWId t w.cid) ws (fun acc c => acc.defeat A c.cid (verb c))
    (fun _ ht _ _ => ⟨fun g => WF_defeat A (ht.1 g) _ _, fun w hw g => nonWId_defeat A (ht.2 w hw g) _ _⟩)
    (fun _ ht c hc => C.defeat ht.1 (ht.2 c hc) _) s ⟨hwf, h⟩

theorem foldUnpend (l : List (Cand α)) (s : St α) :
    T (l.foldl (fun acc c => acc.unpendSilent c.cid) s) = l.foldl (fun acc c => acc.unpendSilent c.cid) (T s) :=
  foldl_map_comm T (fun _ => True) l (fun acc c => acc.unpendSilent c.cid) (fun _ _ _ _ => trivial)
    (fun s _ c _ => C.unpendSilent s c.cid) s trivial

theorem foldSetZero (cids : List Nat) (s : St α) :
    T (cids.foldl (fun acc c => acc.setVote c A.zero) s) = cids.foldl (fun acc c => acc.setVote c A.zero) (T s) :=
  foldl_map_comm T (fun _ => True) cids (fun acc c => acc.setVote c A.zero) (fun _ _ _ _ => trivial)
    (fun s _ c _ => C.setVote s c _) s trivial

/-- the election step of every rule: the winners are hopeful, so their ids are not withdrawn -/
theorem electWinners (hasQ : St α → Cand α → Bool) (pend : St α → Cand α → Bool) (verb : St α → Cand α → String)
    {s : St α} (hwf : G → s.WF) (hq : hasQ (T s) = hasQ s) (hp : pend (T s) = pend s) (hv : verb (T s) = verb s) :
    T (Droop.electWinners A hasQ pend verb s) = Droop.electWinners A hasQ pend verb (T s) := by
  unfold Droop.electWinners
  rw [C.hopeful, hq, hp, hv]
  exact C.foldElect _ _ _ hwf (fun w hw _ => nonWId_of_hopeful ((mem_pySorted _ _ _ _).1 (List.mem_filter.1 hw).1))

theorem breakTie (s : St α) (tied : List (Cand α)) (verb : String) :
    Droop.breakTie A (T s) tied verb = (T (Droop.breakTie A s tied verb).1, (Droop.breakTie A s tied verb).2) := by
  unfold Droop.breakTie
  match tied with
  | [] => simp only; rw [C.setCrash]
  | [c] => rfl
  | c :: d :: r => simp only; rw [C.logAct]

theorem transferSurplus (s : St α) (hc : Cand α) (rew : α → α → α → α) (verb : String) :
    T (Droop.transferSurplus A s hc rew verb) = Droop.transferSurplus A (T s) hc rew verb := by
  unfold Droop.transferSurplus
  dsimp only
  rw [C.logAct, C.setVote, C.transferAll, transferAll_quota, transferAll_quota, C.quota]

theorem transferDefeated (s : St α) (cids : List Nat) (verb : String) :
    T (Droop.transferDefeated A s cids verb) = Droop.transferDefeated A (T s) cids verb := by
  unfold Droop.transferDefeated
  dsimp only
  rw [C.logAct, C.foldSetZero, C.transferAll]

theorem foldTransferDefeated1 (l : List (Cand α)) (verb : String) (s : St α) :
    T (l.foldl (fun acc c => Droop.transferDefeated A acc [c.cid] verb) s)
      = l.foldl (fun acc c => Droop.transferDefeated A acc [c.cid] verb) (T s) :=
  foldl_map_comm T (fun _ => True) l (fun acc c => Droop.transferDefeated A acc [c.cid] verb) (fun _ _ _ _ => trivial)
    (fun s _ _ _ => C.transferDefeated s _ _) s trivial

theorem wigmElect (o : WigmOpts) {s : St α} (hwf : G → s.WF) : T (Droop.wigmElect A o s) = Droop.wigmElect A o (T s) :=
  C.electWinners _ _ _ hwf (by split; exact C.hasQuotaGE s; exact C.hasQuotaX s) rfl rfl

theorem wigmSurplusStep (s : St α) : T (Droop.wigmSurplusStep A s) = Droop.wigmSurplusStep A (T s) := by
  unfold Droop.wigmSurplusStep
  simp only [C.pendingL]
  cases hm : maxVoteOf A s.pendingL with
  | none => rfl
  | some hv =>
    simp only
    rw [C.breakTie]
    cases hb : Droop.breakTie A s (s.pendingL.filter (fun c => A.eq c.vote hv)) "Break tie (surplus)" with
    | mk s1 oc =>
      cases oc with
      | none => rfl
      | some hc => simp only; rw [C.transferSurplus, C.unpendLog]

theorem wigmDefeatStep (o : WigmOpts) {s : St α} (hwf : G → s.WF) :
    T (Droop.wigmDefeatStep A o s) = Droop.wigmDefeatStep A o (T s) := by
  unfold Droop.wigmDefeatStep
  simp only [C.hopeful, C.seatsLeft]
  cases hm : minVoteOf A s.hopeful with
  | none => rfl
  | some lv =>
    simp only
    split
    · rw [C.foldTransferDefeated1]
      congr 1
      exact C.foldDefeat _ (fun _ => "Defeat batch(zero)") hwf (fun w hw _ => nonWId_of_hopeful (List.mem_filter.1 hw).1)
    · rw [C.breakTie]
      cases hb : Droop.breakTie A s (s.hopeful.filter (fun c => A.eq c.vote lv)) "Break tie (defeat)" with
      | mk s1 oc =>
        cases oc with
        | none => rfl
        | some lc =>
          obtain ⟨hwf1, hnw⟩ := breakTie_pick A hwf (fun w hw _ => nonWId_of_hopeful (List.mem_filter.1 hw).1) hb
          simp only
          rw [C.transferDefeated, C.defeat hwf1 hnw]

theorem wigmSure (o : WigmOpts) (s : St α) : Droop.wigmSure A o (T s) = Droop.wigmSure A o s := by
  unfold Droop.wigmSure batchDefeatGroups
  simp only [C.hopeful, C.seatsLeft, C.pendingL, C.quota]

theorem wigmBatchStep {s : St α} (hwf : G → s.WF) (sure : List (Cand α)) (hs : ∀ w ∈ sure, w ∈ s.hopeful) :
    Droop.wigmBatchStep A (T s) sure = (T (Droop.wigmBatchStep A s sure).1, (Droop.wigmBatchStep A s sure).2) := by
  have h1 : wigmDefeatSure A (T s) sure = T (wigmDefeatSure A s sure) :=
    (C.foldDefeat _ (fun _ => "Defeat sure loser") hwf
      (fun w hw _ => nonWId_of_hopeful (hs w ((mem_pySorted _ _ _ _).1 hw)))).symm
  unfold Droop.wigmBatchStep
  rw [h1]
  simp only [C.hopeful, C.seatsLeft]
  split
  · rfl
  · simp only; rw [C.transferDefeated]

theorem wigmAfterElect (o : WigmOpts) {s : St α} (hwf : G → s.WF) :
    Droop.wigmAfterElect A o (T s) = (T (Droop.wigmAfterElect A o s).1, (Droop.wigmAfterElect A o s).2) := by
  unfold Droop.wigmAfterElect
  simp only [C.wigmSure, C.pendingL, C.hopeful]
  split
  · apply C.wigmBatchStep hwf
    intro w hw
    unfold Droop.wigmSure at hw
    split at hw
    · exact batchDefeatGroups_hopeful A s _ w hw
    · cases hw
  · split
    · simp only; rw [C.wigmSurplusStep]
    · split
      · simp only; rw [C.wigmDefeatStep o hwf]
      · rfl

theorem wigmBody (o : WigmOpts) {s : St α} (hwf : G → s.WF) :
    Droop.wigmBody A o (T s) = (T (Droop.wigmBody A o s).1, (Droop.wigmBody A o s).2) := by
  unfold Droop.wigmBody
  rw [← C.newRound, ← C.wigmElect o (fun g => WF_newRound A (hwf g))]
  exact C.wigmAfterElect o (fun g => WF_electWinners A (WF_newRound A (hwf g)) _ _ _)

theorem epilogue {s : St α} (hwf : G → s.WF) : T (epilogueElectOrDefeat A s) = epilogueElectOrDefeat A (T s) := by
  unfold epilogueElectOrDefeat
  dsimp only
  simp only [C.pendingL]
  rw [← C.foldUnpend]
  have hwf5 : G → (s.pendingL.foldl (fun acc c => acc.unpendSilent c.cid) s).WF := fun g => WF_foldUnpend s.pendingL (hwf g)
  generalize s.pendingL.foldl (fun acc c => acc.unpendSilent c.cid) s = s5 at *
  simp only [C.hopeful]
  refine foldl_map_comm T (fun t => (G → t.WF) ∧ ∀ w ∈ s5.hopeful, G → NonWId t w.cid) s5.hopeful
    (fun acc c => if acc.elected.length < acc.seats then acc.elect A c.cid "Elect remaining" false
      else acc.defeat A c.cid "Defeat remaining") ?_ ?_ s5 ⟨hwf5, fun w hw _ => nonWId_of_hopeful hw⟩
  · intro t ht c _
    split
    · exact ⟨fun g => WF_elect A (ht.1 g) _ _ _, fun w hw g => nonWId_elect A (ht.2 w hw g) _ _ _⟩
    · exact ⟨fun g => WF_defeat A (ht.1 g) _ _, fun w hw g => nonWId_defeat A (ht.2 w hw g) _ _⟩
  · intro t ht c hc
    simp only [C.elected, C.seats]
    split
    · exact C.elect ht.1 (ht.2 c hc) _ _
    · exact C.defeat ht.1 (ht.2 c hc) _

theorem wigmInit (o : WigmOpts) (s0 : St α) : T (Droop.wigmInit A o s0) = Droop.wigmInit A o (T s0) := by
  unfold Droop.wigmInit wigmQuota
  rw [C.seats, C.nballots]
  exact C.gInit _ s0

theorem scotElect {s : St α} (hwf : G → s.WF) : T (Droop.scotElect A s) = Droop.scotElect A (T s) :=
  C.electWinners _ _ _ hwf (C.hasQuotaGE s) rfl rfl

theorem scotSurplusStep {s : St α} (hl : Look A T G s) : T (Droop.scotSurplusStep A s) = Droop.scotSurplusStep A (T s) := by
  unfold Droop.scotSurplusStep
  simp only [C.pendingL]
  cases hm : maxVoteOf A s.pendingL with
  | none => rfl
  | some hv =>
    simp only
    rw [hl _ _ _ (fun w hw _ => nonWId_of_pending (List.mem_filter.1 hw).1)]
    cases hb : scotBreakTie A s (s.pendingL.filter (fun c => A.eq c.vote hv)) false "largest surplus" with
    | mk s1 oc =>
      cases oc with
      | none => rfl
      | some hc => simp only; rw [C.transferSurplus, C.unpendLog]

theorem scotDefeatStep {s : St α} (hwf : G → s.WF) (hl : Look A T G s) :
    T (Droop.scotDefeatStep A s) = Droop.scotDefeatStep A (T s) := by
  unfold Droop.scotDefeatStep
  simp only [C.hopeful]
  cases hm : minVoteOf A s.hopeful with
  | none => rfl
  | some lv =>
    simp only
    rw [hl _ _ _ (fun w hw _ => nonWId_of_hopeful (List.mem_filter.1 hw).1)]
    cases hb : scotBreakTie A s (s.hopeful.filter (fun c => A.eq c.vote lv)) true "defeat low candidate" with
    | mk s1 oc =>
      cases oc with
      | none => rfl
      | some lc =>
        obtain ⟨hwf1, hn⟩ := scotBreakTie_pick A hwf (fun w hw _ => nonWId_of_hopeful (List.mem_filter.1 hw).1) hb
        simp only
        rw [C.transferDefeated, C.defeat hwf1 hn]

theorem scotCountComplete (s : St α) : Droop.scotCountComplete (T s) = Droop.scotCountComplete s := by
  unfold Droop.scotCountComplete; rw [C.seatsLeft, C.hopeful]

theorem candSurplus (s : St α) : Droop.candSurplus A (T s) = Droop.candSurplus A s := by
  funext c; unfold Droop.candSurplus; rw [C.quota]

theorem scotRound (s : St α) : T (Droop.scotRound A s) = Droop.scotRound A (T s) := by
  unfold Droop.scotRound
  rw [C.setSurplus, ← C.newRound, C.pendingL, C.candSurplus]

theorem scotFinish (s : St α) : Droop.scotFinish (T s) = (T (Droop.scotFinish s).1, (Droop.scotFinish s).2) := by
  unfold Droop.scotFinish
  rw [C.scotCountComplete]
  split <;> rfl

theorem scotStage {s : St α} (hwf : G → s.WF) (hl : Look A T G s) :
    Droop.scotStage A (T s) = (T (Droop.scotStage A s).1, (Droop.scotStage A s).2) := by
  unfold Droop.scotStage
  simp only [C.pendingL, C.hopeful]
  split
  · rw [C.scotSurplusStep hl]
  · split
    · rw [← C.scotDefeatStep hwf hl, C.scotFinish]
    · exact C.scotFinish s

/-- the look-back is needed at the state the stage starts in -/
theorem scotBody {s : St α} (hwf : G → s.WF) (hl : Look A T G (Droop.scotRound A (Droop.scotElect A s))) :
    Droop.scotBody A (T s) = (T (Droop.scotBody A s).1, (Droop.scotBody A s).2) := by
  unfold Droop.scotBody
  rw [← C.scotElect hwf, C.scotCountComplete]
  split
  · rfl
  · rw [← C.scotRound]
    exact C.scotStage (fun g => WF_scotRound A (WF_electWinners A (hwf g) _ _ _)) hl

/-- the epilogue of Minneapolis; the Scottish one is the same after the pending marks are cleared -/
theorem mplsEpilogue {s : St α} (hwf : G → s.WF) : T (Droop.mplsEpilogue A s) = Droop.mplsEpilogue A (T s) := by
  have hd : ∀ {t : St α}, (G → t.WF) → T (t.hopeful.foldl (fun acc c => acc.defeat A c.cid "Defeat remaining candidates") t)
      = t.hopeful.foldl (fun acc c => acc.defeat A c.cid "Defeat remaining candidates") (T t) := fun ht =>
    C.foldDefeat _ (fun _ => "Defeat remaining candidates") ht (fun w hw _ => nonWId_of_hopeful hw)
  have he : T (s.hopeful.foldl (fun acc c => acc.elect A c.cid "Elect remaining candidates" false) s)
      = s.hopeful.foldl (fun acc c => acc.elect A c.cid "Elect remaining candidates" false) (T s) :=
    C.foldElect _ (fun _ => "Elect remaining candidates") (fun _ => false) hwf (fun w hw _ => nonWId_of_hopeful hw)
  unfold Droop.mplsEpilogue
  simp only [C.hopeful, C.seatsLeft]
  split
  · rw [← he, C.hopeful]
    exact hd (fun g => WF_foldElect A (hwf g) _ (fun _ => "Elect remaining candidates") (fun _ => false))
  · rw [C.hopeful]
    exact hd hwf

theorem scotEpilogue {s : St α} (hwf : G → s.WF) : T (Droop.scotEpilogue A s) = Droop.scotEpilogue A (T s) := by
  rw [scotEpilogue_eq, scotEpilogue_eq, C.pendingL, ← C.foldUnpend]
  exact C.mplsEpilogue (fun g => WF_foldUnpend _ (hwf g))

theorem scotInit (s0 : St α) : T (Droop.scotInit A s0) = Droop.scotInit A (T s0) := by
  unfold Droop.scotInit
  rw [C.seats, C.nballots]
  exact C.gInit _ s0

theorem cferFinishDefeats {s : St α} (hwf : G → s.WF) (defeats : List (Cand α)) :
    Droop.cferFinishDefeats A (T s) defeats
      = (T (Droop.cferFinishDefeats A s defeats).1, (Droop.cferFinishDefeats A s defeats).2) := by
  have h1 : T (s.pendingL.foldl (fun acc c => acc.elect A c.cid "Elect pending" false) s)
      = s.pendingL.foldl (fun acc c => acc.elect A c.cid "Elect pending" false) (T s) :=
    C.foldElect s.pendingL (fun _ => "Elect pending") (fun _ => false) hwf (fun w hw _ => nonWId_of_pending hw)
  unfold Droop.cferFinishDefeats
  simp only [C.hopeful, C.elected, C.seats, C.pendingL]
  split
  · simp only
    rw [← h1, C.hopeful, C.foldElect _ (fun _ => "Elect remaining") (fun _ => false)
      (fun g => WF_foldElect A (hwf g) s.pendingL (fun _ => "Elect pending") (fun _ => false))
      (fun w hw _ => nonWId_of_hopeful hw)]
  · simp only; rw [C.transferDefeated]

theorem cferElect {s : St α} (hwf : G → s.WF) : T (Droop.cferElect A s) = Droop.cferElect A (T s) :=
  C.electWinners _ _ _ hwf (C.hasQuotaGE s) (by simp only [C.quota]) (by simp only [C.quota])

theorem cferSeatsFull {s : St α} (hwf : G → s.WF) :
    Droop.cferSeatsFull A (T s) = (T (Droop.cferSeatsFull A s).1, (Droop.cferSeatsFull A s).2) := by
  unfold Droop.cferSeatsFull
  simp only [C.pendingL]
  rw [← C.foldUnpend, C.hopeful, C.foldDefeat _ (fun _ => "Defeat remaining") (fun g => WF_foldUnpend s.pendingL (hwf g))
    (fun w hw _ => nonWId_of_hopeful hw)]

theorem cferBatch (s : St α) : Droop.cferBatch A (T s) = Droop.cferBatch A s := by
  unfold Droop.cferBatch
  simp only [C.pendingL, C.hopeful, C.elected, C.quota]
  exact cferBatch_go_congr A s (T s) (C.seats s) (C.quota s) _ _ _ _ _ _ _

theorem cferSurplusOne {s : St α} (hwf : G → s.WF) (c : Cand α) (hc : G → NonWId s c.cid) :
    T (Droop.cferSurplusOne A s c) = Droop.cferSurplusOne A (T s) c := by
  unfold Droop.cferSurplusOne
  rw [C.cand? s c.cid hwf hc]
  cases s.cand? c.cid with
  | none => rfl
  | some cur => simp only; rw [C.transferSurplus, C.unpendLog]

theorem cferSurplusAll {s : St α} (hwf : G → s.WF) : T (Droop.cferSurplusAll A s) = Droop.cferSurplusAll A (T s) := by
  unfold Droop.cferSurplusAll
  rw [C.pendingL]
  exact foldl_map_comm T (fun t => (G → t.WF) ∧ ∀ w ∈ s.pendingL, G → NonWId t w.cid) s.pendingL (Droop.cferSurplusOne A)
    (fun _ ht c _ => ⟨fun g => WF_of_reach ((stepRel_reach A).cferSurplusOne _ c) (ht.1 g), fun w hw g => nonWId_cferSurplusOne A (ht.2 w hw g) c⟩)
    (fun _ ht c hc => C.cferSurplusOne ht.1 c (ht.2 c hc)) s ⟨hwf, fun w hw _ => nonWId_of_pending hw⟩

theorem cferDefeatLow {s : St α} (hwf : G → s.WF) :
    Droop.cferDefeatLow A (T s) = (T (Droop.cferDefeatLow A s).1, (Droop.cferDefeatLow A s).2) := by
  unfold Droop.cferDefeatLow
  simp only [C.hopeful]
  cases hm : minVoteOf A s.hopeful with
  | none => simp only; rw [C.setCrash]
  | some lv =>
    simp only
    rw [C.breakTie]
    cases hb : Droop.breakTie A s (s.hopeful.filter (fun c => A.eq c.vote lv)) "Break tie (defeat)" with
    | mk s1 oc =>
      cases oc with
      | none => rfl
      | some lc =>
        obtain ⟨hwf1, hnw⟩ := breakTie_pick A hwf (fun w hw _ => nonWId_of_hopeful (List.mem_filter.1 hw).1) hb
        simp only
        rw [← C.defeat hwf1 hnw]
        exact C.cferFinishDefeats (fun g => WF_defeat A (hwf1 g) _ _) [lc]

theorem cferAfterElect (batch : Bool) {s : St α} (hwf : G → s.WF) :
    Droop.cferAfterElect A batch (T s) = (T (Droop.cferAfterElect A batch s).1, (Droop.cferAfterElect A batch s).2) := by
  unfold Droop.cferAfterElect
  simp only [C.elected, C.seats, C.cferBatch, C.pendingL]
  by_cases h1 : s.elected.length ≥ s.seats
  · rw [if_pos h1, if_pos h1]; exact C.cferSeatsFull hwf
  · rw [if_neg h1, if_neg h1]
    by_cases h2 : (!(if batch then Droop.cferBatch A s else []).isEmpty) = true
    · rw [if_pos h2, if_pos h2]
      have hd : ∀ w ∈ (if batch then Droop.cferBatch A s else []), w ∈ s.hopeful := by
        intro w hw
        cases batch with
        | false => simp at hw
        | true => exact cferBatch_hopeful A s w hw
      unfold Droop.cferDefeatBatch
      rw [← C.foldDefeat (byBallotOrder (if batch then Droop.cferBatch A s else [])) (fun _ => "Defeat batch") hwf
        (fun w hw _ => nonWId_of_hopeful (hd w ((mem_pySorted _ _ _ _).1 hw)))]
      exact C.cferFinishDefeats (fun g => WF_of_reach ((stepRel_reach A).foldDefeat _ _ _) (hwf g)) _
    · rw [if_neg h2, if_neg h2]
      by_cases h3 : (!s.pendingL.isEmpty) = true
      · rw [if_pos h3, if_pos h3]; simp only; rw [C.cferSurplusAll hwf]
      · rw [if_neg h3, if_neg h3]; exact C.cferDefeatLow hwf

theorem cferBody (batch : Bool) {s : St α} (hwf : G → s.WF) :
    Droop.cferBody A batch (T s) = (T (Droop.cferBody A batch s).1, (Droop.cferBody A batch s).2) := by
  have hwf1 : G → (s.newRound A).WF := fun g => WF_newRound A (hwf g)
  unfold Droop.cferBody
  rw [← C.newRound]
  simp only [C.round, C.hopeful, C.seats]
  split
  · unfold Droop.cferElectAll
    simp only
    rw [C.hopeful, C.foldElect _ (fun _ => "Elect all") (fun _ => false) hwf1 (fun w hw _ => nonWId_of_hopeful hw)]
  · rw [← C.cferElect hwf1]
    exact C.cferAfterElect batch (fun g => WF_electWinners A (hwf1 g) _ _ _)

theorem cferInit (s0 : St α) : T (Droop.cferInit A s0) = Droop.cferInit A (T s0) := by
  rw [cferInit_eq, cferInit_eq, C.gInit, C.seats, C.nballots]

/-! Minneapolis: the reported surplus is summed over all candidates, so the transformer must leave it alone (`Sur`) at each state
where it is recomputed: after `Count Votes`, and after the core of each transfer. -/

theorem surplusCore (s : St α) (hc : Cand α) (rew : α → α → α → α) :
    T (Droop.surplusCore A s hc rew) = Droop.surplusCore A (T s) hc rew := by
  unfold Droop.surplusCore
  rw [C.setVote, C.transferAll, transferAll_quota, transferAll_quota, C.quota]

theorem defeatedCore (s : St α) (cids : List Nat) : T (Droop.defeatedCore A s cids) = Droop.defeatedCore A (T s) cids := by
  unfold Droop.defeatedCore
  rw [C.foldSetZero, C.transferAll]

theorem mplsLogTransfer {s : St α} (h : Sur A T s) (verb : String) (subj : List Nat) :
    T (Droop.mplsLogTransfer A s verb subj) = Droop.mplsLogTransfer A (T s) verb subj := by
  unfold Droop.mplsLogTransfer
  rw [C.logAct, C.setSurplus, h]

theorem mplsCountVotes {s : St α} (h : Sur A T s) : T (Droop.mplsCountVotes A s) = Droop.mplsCountVotes A (T s) := by
  unfold Droop.mplsCountVotes
  rw [C.logAct, C.setSurplus, h]

theorem mplsAtThreshold (s : St α) : Droop.mplsAtThreshold A (T s) = Droop.mplsAtThreshold A s := by
  unfold Droop.mplsAtThreshold
  rw [C.hopeful, C.hasQuotaGE]

theorem mplsElectThreshold {s : St α} (hwf : G → s.WF) :
    Droop.mplsElectThreshold A (T s) = (T (Droop.mplsElectThreshold A s).1, (Droop.mplsElectThreshold A s).2) := by
  unfold Droop.mplsElectThreshold
  rw [C.mplsAtThreshold]
  simp only
  rw [C.foldElect _ (fun _ => "Candidate at threshold") (fun _ => false) hwf
    (fun w hw _ => nonWId_of_hopeful (mplsAtThreshold_hopeful A s w hw))]

theorem mplsDefeatMany {s : St α} (hwf : G → s.WF) (l : List (Cand α)) (hsub : ∀ w ∈ l, w ∈ s.hopeful)
    (hs : Sur A T (Droop.defeatedCore A (l.foldl (fun acc c => acc.defeat A c.cid (mplsDefeatVerb c)) s) (l.map (·.cid)))) :
    Droop.mplsDefeatMany A (T s) l = (T (Droop.mplsDefeatMany A s l).1, (Droop.mplsDefeatMany A s l).2) := by
  show (Droop.mplsLogTransfer A (Droop.defeatedCore A (l.foldl (fun acc c => acc.defeat A c.cid (mplsDefeatVerb c)) (T s))
      (l.map (·.cid))) "Transfer defeated" (l.map (·.cid)), Flow.cont)
    = (T (Droop.mplsLogTransfer A (Droop.defeatedCore A (l.foldl (fun acc c => acc.defeat A c.cid (mplsDefeatVerb c)) s)
      (l.map (·.cid))) "Transfer defeated" (l.map (·.cid))), Flow.cont)
  rw [C.mplsLogTransfer hs, C.defeatedCore, C.foldDefeat l mplsDefeatVerb hwf (fun w hw _ => nonWId_of_hopeful (hsub w hw))]

theorem mplsElectSurplus {s : St α} (hwf : G → s.WF) (hwq : List (Cand α)) (hv : α) (hsub : ∀ w ∈ hwq, w ∈ s.hopeful)
    (hs : ∀ s3 hc, Droop.breakTie A s (hwq.filter (fun c => A.eq c.vote hv)) "Break tie (largest surplus)" = (s3, some hc) →
      Sur A T (Droop.surplusCore A (s3.elect A hc.cid "Elect" false) hc (rewMulDiv A))) :
    Droop.mplsElectSurplus A (T s) hwq hv
      = (T (Droop.mplsElectSurplus A s hwq hv).1, (Droop.mplsElectSurplus A s hwq hv).2) := by
  unfold Droop.mplsElectSurplus
  rw [C.breakTie]
  cases hb : Droop.breakTie A s (hwq.filter (fun c => A.eq c.vote hv)) "Break tie (largest surplus)" with
  | mk s3 oc =>
    cases oc with
    | none => rfl
    | some hc =>
      obtain ⟨hwf3, hn3⟩ := breakTie_pick A hwf (fun w hw _ => nonWId_of_hopeful (hsub w (List.mem_filter.1 hw).1)) hb
      show (Droop.mplsLogTransfer A (Droop.surplusCore A ((T s3).elect A hc.cid "Elect" false) hc (rewMulDiv A))
          "Transfer surplus" [hc.cid], Flow.cont)
        = (T (Droop.mplsLogTransfer A (Droop.surplusCore A (s3.elect A hc.cid "Elect" false) hc (rewMulDiv A))
          "Transfer surplus" [hc.cid]), Flow.cont)
      rw [C.mplsLogTransfer (hs s3 hc hb), C.surplusCore, C.elect hwf3 hn3]

theorem mplsDefeatLow {s : St α} (hwf : G → s.WF)
    (hs : ∀ tied s3 lc, Droop.breakTie A s tied "Break tie (defeat low candidate)" = (s3, some lc) →
      Sur A T (Droop.defeatedCore A (s3.defeat A lc.cid "Defeat low candidate") [lc.cid])) :
    T (Droop.mplsDefeatLow A s) = Droop.mplsDefeatLow A (T s) := by
  unfold Droop.mplsDefeatLow
  simp only [C.hopeful, C.seatsLeft]
  split
  · cases hm : minVoteOf A s.hopeful with
    | none => rfl
    | some lv =>
      simp only
      rw [C.breakTie]
      cases hb : Droop.breakTie A s (s.hopeful.filter (fun c => A.eq c.vote lv)) "Break tie (defeat low candidate)" with
      | mk s1 oc =>
        cases oc with
        | none => rfl
        | some lc =>
          obtain ⟨hwf1, hn1⟩ := breakTie_pick A hwf (fun w hw _ => nonWId_of_hopeful (List.mem_filter.1 hw).1) hb
          have hs4 := hs _ s1 lc hb
          simp only
          rw [← C.defeat hwf1 hn1]
          generalize s1.defeat A lc.cid "Defeat low candidate" = s4 at *
          unfold Droop.mplsAfterDefeatLow
          simp only [C.hopeful, C.seatsLeft]
          split
          · show T (Droop.mplsLogTransfer A (Droop.defeatedCore A s4 [lc.cid]) "Transfer defeated" [lc.cid])
              = Droop.mplsLogTransfer A (Droop.defeatedCore A (T s4) [lc.cid]) "Transfer defeated" [lc.cid]
            rw [C.mplsLogTransfer hs4, C.defeatedCore]
          · rfl
  · rfl

theorem mplsFinish (s : St α) : Droop.mplsFinish (T s) = (T (Droop.mplsFinish s).1, (Droop.mplsFinish s).2) := by
  unfold Droop.mplsFinish
  simp only [C.hopeful, C.seatsLeft]
  split <;> rfl

/-- a round after `Count Votes` and `New Round`; the hypotheses say that the defeat set and the reported surplus are blind
    to `T` where the round reads them -/
theorem mplsRound {s : St α} (hwf : G → s.WF) (hset : Droop.mplsDefeatSet A (T s) = Droop.mplsDefeatSet A s)
    (hs1 : ∀ l : List (Cand α), Sur A T (Droop.defeatedCore A (l.foldl (fun acc c => acc.defeat A c.cid (mplsDefeatVerb c)) s) (l.map (·.cid))))
    (hs2 : ∀ tied s3 hc, (∀ w ∈ tied, w ∈ s.hopeful) →
      Droop.breakTie A s tied "Break tie (largest surplus)" = (s3, some hc) →
      Sur A T (Droop.surplusCore A (s3.elect A hc.cid "Elect" false) hc (rewMulDiv A)))
    (hs3 : ∀ tied s3 lc, Droop.breakTie A s tied "Break tie (defeat low candidate)" = (s3, some lc) →
      Sur A T (Droop.defeatedCore A (s3.defeat A lc.cid "Defeat low candidate") [lc.cid])) :
    Droop.mplsRound A (T s) = (T (Droop.mplsRound A s).1, (Droop.mplsRound A s).2) := by
  unfold Droop.mplsRound
  rw [hset]
  simp only [C.hopeful]
  rw [C.hasQuotaGE]
  split
  · exact C.mplsDefeatMany hwf _ (mplsDefeatSet_hopeful A s) (hs1 _)
  · split
    · rename_i h hs heq
      have hsub : ∀ w ∈ h :: hs, w ∈ s.hopeful := by
        intro w hw
        have : w ∈ (byVote A true s.hopeful).filter (Droop.hasQuotaGE A s) := by rw [heq]; exact hw
        exact (mem_pySorted _ _ _ _).1 (List.mem_filter.1 this).1
      exact C.mplsElectSurplus hwf _ _ hsub (fun s3 hc hb => hs2 _ s3 hc (fun w hw => hsub w (List.mem_filter.1 hw).1) hb)
    · rw [← C.mplsDefeatLow hwf hs3]
      exact C.mplsFinish _

theorem mplsBody {s : St α} (hwf : G → s.WF) (h0 : Sur A T s)
    (hr : Droop.mplsRound A (T ((Droop.mplsCountVotes A s).newRound A))
      = (T (Droop.mplsRound A ((Droop.mplsCountVotes A s).newRound A)).1,
          (Droop.mplsRound A ((Droop.mplsCountVotes A s).newRound A)).2)) :
    Droop.mplsBody A (T s) = (T (Droop.mplsBody A s).1, (Droop.mplsBody A s).2) := by
  have hwfc : G → (Droop.mplsCountVotes A s).WF := fun g => by
    unfold Droop.mplsCountVotes
    exact WF_logAct A (show (s.setSurplus (mplsSurplusAll A s true)).WF from hwf g) _ _ _
  unfold Droop.mplsBody
  rw [← C.mplsCountVotes h0]
  simp only [C.elected, C.seats, C.mplsAtThreshold]
  split
  · exact C.mplsElectThreshold hwfc
  · rw [← C.newRound]
    exact hr

theorem mplsInit (s0 : St α) : T (Droop.mplsInit A s0) = Droop.mplsInit A (T s0) := by
  unfold Droop.mplsInit
  rw [C.newRound, C.preCount, C.seats, C.nballots]

end StepComm

theorem find_filter_nonW (l : List (Cand α)) (cid : Nat) (h : ∀ c ∈ l, c.cid = cid → nonW c = true) :
    (l.filter nonW).find? (fun c => c.cid == cid) = l.find? (fun c => c.cid == cid) := by
  induction l with
  | nil => rfl
  | cons x xs ih =>
    have ih' := ih (fun c hc hcc => h c (by simp [hc]) hcc)
    by_cases hx : (x.cid == cid) = true
    · have hn := h x (by simp) (by simpa using hx)
      simp only [List.filter_cons, hn, if_true, List.find?_cons, hx]
    · have hf : (x.cid == cid) = false := by simpa using hx
      by_cases hn : nonW x = true
      · simp only [List.filter_cons, hn, if_true, List.find?_cons, hf]; exact ih'
      · simp only [List.filter_cons, hn, Bool.false_eq_true, if_false, List.find?_cons, hf]; exact ih'

theorem cand?_dropW {s : St α} (hwf : s.WF) {cid : Nat} (h : NonWId s cid) : (dropW s).cand? cid = s.cand? cid := by
  unfold St.cand? dropW
  simp only
  apply find_filter_nonW
  intro c hc hcc
  have := noW_of_nonWId hwf h c hc hcc
  unfold nonW; simpa using this

theorem stepComm_dropW : StepComm A (dropW (α := α)) True where
  hopeful := hopeful_dropW
  elected := elected_dropW
  pendingL := pendingL_dropW
  quota := quota_dropW
  seats := seats_dropW
  nballots := nballots_dropW
  round := round_dropW
  crash := crash_dropW
  cand? := fun _ _ hwf h => cand?_dropW (hwf trivial) (h trivial)
  logAct := dropW_logAct A
  keep := dropW_upd_keep
  mark := fun s cid f hwf h hf => dropW_upd_nonW s cid f hf (noW_of_nonWId (hwf trivial) (h trivial))
  setCrash := dropW_setCrash
  setSurplus := dropW_setSurplus
  newRound := dropW_newRound A
  transferAll := dropW_transferAll A
  preCount := fun q s => by rw [dropW_setExhausted, dropW_firstCount, dropW_setQuota]

theorem dropW_breakTie (s : St α) (tied : List (Cand α)) (verb : String) :
    breakTie A (dropW s) tied verb = (dropW (breakTie A s tied verb).1, (breakTie A s tied verb).2) :=
  (stepComm_dropW A).breakTie s tied verb

theorem dropW_foldElect (ws : List (Cand α)) (verb : Cand α → String) (pend : Cand α → Bool) {s : St α} (hwf : s.WF)
    (h : ∀ w ∈ ws, NonWId s w.cid) :
    dropW (ws.foldl (fun acc c => acc.elect A c.cid (verb c) (pend c)) s)
      = ws.foldl (fun acc c => acc.elect A c.cid (verb c) (pend c)) (dropW s) :=
  (stepComm_dropW A).foldElect ws verb pend (fun _ => hwf) (fun w hw _ => h w hw)

theorem dropW_foldDefeat (ws : List (Cand α)) (verb : Cand α → String) {s : St α} (hwf : s.WF)
    (h : ∀ w ∈ ws, NonWId s w.cid) :
    dropW (ws.foldl (fun acc c => acc.defeat A c.cid (verb c)) s)
      = ws.foldl (fun acc c => acc.defeat A c.cid (verb c)) (dropW s) :=
  (stepComm_dropW A).foldDefeat ws verb (fun _ => hwf) (fun w hw _ => h w hw)

theorem stdGuard_dropW (s : St α) : stdGuard (dropW s) = stdGuard s := by
  unfold stdGuard; simp only [hopeful_dropW, seatsLeft_dropW]

end Droop
