import DroopModel
import Mathlib.Tactic.Linarith

/-! # The reader stores what the file says (C15, second tier)

`Stored pr`: the ballot total is the sum of the multipliers of the stored lines, no stored ranking is empty, and no stored
ranking names a withdrawn candidate. It reads four fields of the profile (`Prof.kept`). The header loop leaves the three that hold the
lines as they are (empty), the ballot loop maintains `Stored` and leaves the withdrawn set alone, names / title / source / comment touch
none of the four. Each function of the reader is walked through its own case principle (`fun_cases`, `fun_induction`): one case per
exit, and only the successful ones have anything to show. -/
namespace Droop

def sumMult {β : Type} (l : List (Nat × β)) : Nat := (l.map (·.1)).sum

structure Stored (pr : Prof) : Prop where
  total : pr.nBallots = sumMult pr.ballotLines + sumMult pr.ballotLinesEq
  strict : ∀ bl ∈ pr.ballotLines, bl.2 ≠ [] ∧ ∀ c ∈ bl.2, c ∉ pr.withdrawn
  equal : ∀ bl ∈ pr.ballotLinesEq, bl.2 ≠ [] ∧ ∀ g ∈ bl.2, g ≠ [] ∧ ∀ c ∈ g, c ∉ pr.withdrawn

/-- where the ballot lines are stored -/
def Prof.lines (pr : Prof) : Nat × List (Nat × List Nat) × List (Nat × List (List Nat)) :=
  (pr.nBallots, pr.ballotLines, pr.ballotLinesEq)

/-- what `Stored` reads -/
def Prof.kept (pr : Prof) := (pr.lines, pr.withdrawn)

theorem Stored.of_kept {pr pr' : Prof} (h : Stored pr) (he : pr'.kept = pr.kept) : Stored pr' := by
  simp only [Prof.kept, Prof.lines, Prod.mk.injEq] at he
  obtain ⟨⟨h1, h2, h3⟩, h4⟩ := he
  exact ⟨by rw [h1, h2, h3]; exact h.total, by rw [h2, h4]; exact h.strict, by rw [h3, h4]; exact h.equal⟩

theorem Stored.of_noLines {pr : Prof} (h : pr.lines = (0, [], [])) : Stored pr := by
  simp only [Prof.lines, Prod.mk.injEq] at h
  obtain ⟨h1, h2, h3⟩ := h
  refine ⟨by rw [h1, h2, h3]; rfl, ?_, ?_⟩
  · rw [h2]; intro bl hbl; cases hbl
  · rw [h3]; intro bl hbl; cases hbl

theorem mem_stripRank {wd rank : List Nat} {c : Nat} (h : c ∈ stripRank wd rank) : c ∉ wd := by
  unfold stripRank at h
  rw [List.mem_filter] at h
  simpa using h.2

theorem addBallot_stored {pr pr' : Prof} (h : Stored pr) (mult : Nat) (ranking : List (List Nat))
    (he : addBallot pr mult ranking = .ok pr') : Stored pr' ∧ pr'.withdrawn = pr.withdrawn := by
  have hkept : ∀ g ∈ (ranking.map (stripRank pr.withdrawn)).filter (fun r => !r.isEmpty), g ≠ [] ∧ ∀ c ∈ g, c ∉ pr.withdrawn := by
    intro g hg
    rw [List.mem_filter] at hg
    obtain ⟨hg1, hg2⟩ := hg
    obtain ⟨r0, _, rfl⟩ := List.mem_map.1 hg1
    refine ⟨by intro e; rw [e] at hg2; simp at hg2, fun c hc => mem_stripRank hc⟩
  revert he
  fun_cases addBallot pr mult ranking <;> intro he <;> cases he
  -- nothing left of the ranking: not stored
  · exact ⟨h, rfl⟩
  -- a line with an equal ranking
  · rename_i stripped _ kept hne _
    have hne' : kept ≠ [] := by intro e; rw [e] at hne; simp at hne
    refine ⟨⟨?_, h.strict, ?_⟩, rfl⟩
    · show pr.nBallots + mult = sumMult pr.ballotLines + sumMult ((mult, _) :: pr.ballotLinesEq)
      have := h.total; unfold sumMult at *; simp only [List.map_cons, List.sum_cons]; omega
    · intro bl hbl
      rcases List.mem_cons.1 hbl with rfl | hbl'
      · exact ⟨hne', hkept⟩
      · exact h.equal bl hbl'
  -- a strict line: every group kept is a single candidate
  · rename_i stripped _ kept hne _ flat
    have hne' : kept ≠ [] := by intro e; rw [e] at hne; simp at hne
    refine ⟨⟨?_, ?_, h.equal⟩, rfl⟩
    · show pr.nBallots + mult = sumMult ((mult, _) :: pr.ballotLines) + sumMult pr.ballotLinesEq
      have := h.total; unfold sumMult at *; simp only [List.map_cons, List.sum_cons]; omega
    · intro bl hbl
      rcases List.mem_cons.1 hbl with rfl | hbl'
      · refine ⟨fun e => hne' (List.map_eq_nil_iff.1 e), ?_⟩
        intro c hc
        obtain ⟨g, hg, rfl⟩ := List.mem_map.1 hc
        obtain ⟨hgne, hgw⟩ := hkept g hg
        cases g with
        | nil => exact absurd rfl hgne
        | cons x xs => exact hgw x (by simp)
      · exact h.strict bl hbl'

theorem ballotStore_stored {pr pr' : Prof} (h : Stored pr) (mult : Nat) (ranking : List (List Nat))
    (he : ballotStore pr mult ranking = .ok pr') : Stored pr' ∧ pr'.withdrawn = pr.withdrawn := by
  revert he
  fun_cases ballotStore pr mult ranking <;> intro he
  · cases he; exact ⟨h, rfl⟩
  · exact addBallot_stored h mult ranking he

theorem ballotLoop_stored (fuel : Nat) (pr : Prof) (ids : List String) (tok : String) (rest : List String)
    (pr' : Prof) (ids' rest' : List String) (hs : Stored pr) (h : ballotLoop fuel pr ids tok rest = .ok (pr', ids', rest')) :
    Stored pr' ∧ pr'.withdrawn = pr.withdrawn := by
  fun_induction ballotLoop fuel pr ids tok rest
  -- the multiplier 0 ends the ballots
  case case3 => cases h; exact ⟨hs, rfl⟩
  -- one more line, then the rest
  case case7 hst _ _ _ ih =>
    obtain ⟨a, b⟩ := ballotStore_stored hs _ _ hst
    obtain ⟨a', b'⟩ := ih a h
    exact ⟨a', b'.trans b⟩
  all_goals cases h

theorem optTie_lines {pr pr' : Prof} {l : List String} (he : optTie pr l = .ok pr') : pr'.lines = pr.lines := by
  revert he
  fun_cases optTie pr l <;> intro he <;> cases he
  rfl

theorem optNick_lines {pr pr' : Prof} {l : List String} (he : optNick pr l = .ok pr') : pr'.lines = pr.lines := by
  revert he
  fun_cases optNick pr l <;> intro he <;> cases he
  rfl

/-- an option block replaces one of `tieOrder`, `nickCid`, `options`, `withdrawn`, `undeclared` -/
theorem bltApply_lines {pr pr' : Prof} {name : String} {l : List String} (he : bltApply pr name l = .ok pr') :
    pr'.lines = pr.lines := by
  revert he
  fun_cases bltApply pr name l <;> intro he
  case case1 => exact optTie_lines he
  case case2 => exact optNick_lines he
  all_goals cases he <;> rfl

theorem bltOption_lines {pr pr' : Prof} {opt : String} {rest rest' : List String}
    (he : bltOption pr opt rest = .ok (pr', rest')) : pr'.lines = pr.lines := by
  revert he
  fun_cases bltOption pr opt rest <;> intro he
  case case3 hA => cases he; exact bltApply_lines hA
  all_goals cases he

/-- the header (options, `-n` withdrawals) stores no ballot line -/
theorem headerLoop_lines (fuel : Nat) (pr : Prof) (tok : String) (rest : List String) (pr' : Prof) (tok' : String)
    (rest' : List String) (h : headerLoop fuel pr tok rest = .ok (pr', tok', rest')) : pr'.lines = pr.lines := by
  fun_induction headerLoop fuel pr tok rest
  -- the two recursive calls: after an option block, after a withdrawal
  case case4 hA ih => exact (ih h).trans (bltOption_lines hA)
  case case10 ih => exact ih h
  -- the two successful exits return the profile they were given
  case case5 | case6 => cases h; rfl
  all_goals cases h

theorem readNames_kept (n cid : Nat) (pr : Prof) (rest : List String) (pr' : Prof) (rest' : List String)
    (h : readNames n cid pr rest = .ok (pr', rest')) : pr'.kept = pr.kept := by
  fun_induction readNames n cid pr rest
  case case1 => cases h; rfl
  case case5 ih => exact ih h
  all_goals cases h

theorem parseTail_kept {pr pr' : Prof} {rest : List String} (h : parseTail pr rest = .ok pr') : pr'.kept = pr.kept := by
  revert h
  fun_cases parseTail pr rest <;> intro h <;> cases h <;> rfl

/-- C15: whatever the reader accepts has its ballots stored faithfully: the ballot total is the sum of the multipliers of the
    lines kept, no kept ranking is empty, no kept ranking names a withdrawn candidate -/
theorem parseCore_stored {toks : List String} {pr : Prof} (h : parseCore toks = .ok pr) : Stored pr := by
  revert h
  fun_cases parseCore toks <;> intro h
  case case10 hb hc _ _ hn hh =>
    simp only [hh, hb, hc, hn] at h
    obtain ⟨h2, -⟩ := ballotLoop_stored _ _ _ _ _ _ _ _ (Stored.of_noLines (headerLoop_lines _ _ _ _ _ _ _ hh)) hb
    exact h2.of_kept ((parseTail_kept h).trans (readNames_kept _ _ _ _ _ _ hn))
  -- every other exit is an error; where it comes out of a nested call, that call's equation has to be put in first
  all_goals first | cases h | (simp only [*] at h; cases h)

theorem Stored.finalProf {pr : Prof} (h : Stored pr) : Stored (finalProf pr) := by
  unfold Droop.finalProf
  refine ⟨?_, ?_, ?_⟩
  · show pr.nBallots = sumMult pr.ballotLines.reverse + sumMult pr.ballotLinesEq.reverse
    have := h.total
    unfold sumMult at *
    rw [List.map_reverse, List.sum_reverse, List.map_reverse, List.sum_reverse]; exact this
  · intro bl hbl; exact h.strict bl (List.mem_reverse.1 hbl)
  · intro bl hbl; exact h.equal bl (List.mem_reverse.1 hbl)

/-- what the reader accepts went through the token parser and the final validation -/
theorem parseText_ok {text : List Char} {pf : Profile} (h : parseText text = .ok pf) :
    ∃ pr, parseCore (tokenize text) = .ok pr ∧ validate (finalProf pr) (eligibleOf pr) = .ok ()
      ∧ pf = { pr := finalProf pr, eligible := eligibleOf pr } := by
  unfold parseText at h
  split at h
  · cases h
  · cases hc : parseCore (tokenize text) with
    | error e => rw [parseTokens, hc] at h; cases h
    | ok pr =>
      rw [parseTokens, hc] at h
      refine ⟨pr, rfl, ?_⟩
      cases hv : validate (finalProf pr) (eligibleOf pr) with
      | error e => simp only [bind, Except.bind, finishProfile, hv] at h; cases h
      | ok u => simp only [bind, Except.bind, finishProfile, hv, pure, Except.pure, Except.ok.injEq] at h; exact ⟨rfl, h.symm⟩

theorem parseText_stored {text : List Char} {pf : Profile} (h : parseText text = .ok pf) : Stored pf.pr := by
  obtain ⟨pr, hc, -, rfl⟩ := parseText_ok h
  exact (parseCore_stored hc).finalProf

end Droop
