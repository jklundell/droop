import DroopProofs.AppendOnly
import DroopProofs.Lawful
import Mathlib.Tactic.Linarith
import Mathlib.Tactic.Ring

/-! # Conservation across `transferAll`

What a transfer adds to Σ votes + exhausted is exactly the value of the ballots it moves (`transferAll_total`), and the
ballots of an elected candidate, re-weighted by any lawful rule, carry away at most the surplus (`surplus_moved_le`). -/
namespace Droop
variable {α : Type} [CommRing α] [LinearOrder α] [IsStrictOrderedRing α] (A : Arith α)

def St.sumVotes (s : St α) : α := (s.cands.map (·.vote)).sum
def St.total (s : St α) : α := s.sumVotes + s.exhausted

/-- distinct candidate ids -/
def St.WF (s : St α) : Prop := (s.cands.map (·.cid)).Nodup

theorem WF_of_skel {s t : St α} (h : s.skel = t.skel) (hs : s.WF) : t.WF := by
  unfold St.WF at *
  have e : ∀ (u : St α), u.cands.map (·.cid) = u.skel.map (·.1) := by
    intro u; unfold St.skel; simp [Cand.skel]
  rw [e] at hs ⊢; rw [← h]; exact hs

theorem WF_of_reach {s t : St α} (h : Reach s t) (hwf : s.WF) : t.WF := by
  unfold St.WF; rw [h.ids]; exact hwf

theorem sum_votes_upd_vote (l : List (Cand α)) (cid : Nat) (v : α)
    (hnd : (l.map (·.cid)).Nodup) (hex : ∃ c ∈ l, c.cid = cid) :
    ((l.map (fun c => if c.cid == cid then { c with vote := c.vote + v } else c)).map (·.vote)).sum
      = (l.map (·.vote)).sum + v := by
  induction l with
  | nil => obtain ⟨c, hc, _⟩ := hex; simp at hc
  | cons x xs ih =>
    simp only [List.map_cons, List.sum_cons]
    simp only [List.map_cons, List.nodup_cons, List.mem_map, not_exists, not_and] at hnd
    by_cases hx : x.cid = cid
    · -- x is the one; nobody in xs has this cid
      have hrest : xs.map (fun c => if c.cid == cid then { c with vote := c.vote + v } else c) = xs := by
        have : xs.map (fun c => if c.cid == cid then { c with vote := c.vote + v } else c) = xs.map id := by
          apply List.map_congr_left
          intro c hc
          have : c.cid ≠ cid := by rw [← hx]; exact fun e => hnd.1 c hc e
          simp [this]
        simpa using this
      rw [hrest]; simp [hx]; ring
    · have hex' : ∃ c ∈ xs, c.cid = cid := by
        obtain ⟨c, hc, hcid⟩ := hex
        rcases List.mem_cons.mp hc with rfl | hc'
        · exact absurd hcid hx
        · exact ⟨c, hc', hcid⟩
      rw [ih hnd.2 hex']; simp [hx]; ring

theorem cand?_isSome_iff (s : St α) (cid : Nat) : (s.cand? cid).isSome ↔ ∃ c ∈ s.cands, c.cid = cid := by
  unfold St.cand?
  rw [List.find?_isSome]
  simp

theorem sumVotes_addVote (hA : LawfulArith A) (s : St α) (cid : Nat) (v : α) (hwf : s.WF)
    (hex : (s.cand? cid).isSome) : (s.addVote A cid v).sumVotes = s.sumVotes + v := by
  unfold St.sumVotes St.addVote St.upd
  simp only [hA.add_eq]
  exact sum_votes_upd_vote s.cands cid v hwf ((cand?_isSome_iff s cid).1 hex)

/-- value that ballot `b` carries to wherever it goes during `transferAll s cids rew` (0 if it does not move) -/
def movedVal (s : St α) (cids : List Nat) (rew : α → α) (b : Ballot α) : α :=
  match b.top with
  | some c => if c ∈ cids then bvote A (moveBallot s cids rew b) else 0
  | none => 0

theorem tstep_total (hA : LawfulArith A) (cids : List Nat) (rew : α → α) (s : St α)
    (acc : St α × List (Ballot α)) (b : Ballot α)
    (h : acc.1.skel = s.skel) (hwf : s.WF) (hb : ∀ cid ∈ b.rank, (s.cand? cid).isSome) :
    (tstep A cids rew acc b).1.total = acc.1.total + movedVal A s cids rew b := by
  have hfun : (fun cid => acc.1.isHopeful cid) = (fun cid => s.isHopeful cid) := by
    funext cid; exact isHopeful_of_skel h cid
  unfold tstep movedVal moveBallot
  cases htop : b.top with
  | none => simp
  | some c =>
    by_cases hc : c ∈ cids
    · simp only [List.contains_iff_mem, hc, if_true]
      unfold transferBallot
      rw [hfun]
      cases hnew : (advanceTo (fun cid => s.isHopeful cid) { b with w := rew b.w }).top with
      | none =>
        simp only [St.total, St.sumVotes, hA.add_eq]; ring
      | some c' =>
        have hmem : c' ∈ b.rank := by
          have := top_mem_rank _ _ hnew
          rwa [advanceTo_rank] at this
        have hsome : (acc.1.cand? c').isSome := by
          rw [cand?_isSome_of_skel h]; exact hb c' hmem
        have hwf' : acc.1.WF := WF_of_skel h.symm hwf
        simp only [St.total]
        rw [sumVotes_addVote A hA _ _ _ hwf' hsome]
        have : (acc.1.addVote A c' (bvote A (advanceTo (fun cid => s.isHopeful cid) { b with w := rew b.w }))).exhausted
             = acc.1.exhausted := rfl
        rw [this]; ring
    · simp [hc]

theorem foldl_tstep_total (hA : LawfulArith A) (cids : List Nat) (rew : α → α) (s : St α)
    (bs : List (Ballot α)) (acc : St α × List (Ballot α))
    (h : acc.1.skel = s.skel) (hwf : s.WF) (hb : ∀ b ∈ bs, ∀ cid ∈ b.rank, (s.cand? cid).isSome) :
    (bs.foldl (tstep A cids rew) acc).1.total = acc.1.total + (bs.map (movedVal A s cids rew)).sum := by
  induction bs generalizing acc with
  | nil => simp
  | cons b bs ih =>
    simp only [List.foldl_cons, List.map_cons, List.sum_cons]
    rw [ih _ (by rw [tstep_skel]; exact h) (fun b' hb' => hb b' (by simp [hb'])),
        tstep_total A hA cids rew s acc b h hwf (hb b (by simp))]
    ring

theorem transferAll_total (hA : LawfulArith A) (s : St α) (hwf : s.WF) (hbw : BallotsWF s)
    (cids : List Nat) (rew : α → α) :
    (transferAll A s cids rew).total = s.total + (s.ballots.map (movedVal A s cids rew)).sum := by
  have := foldl_tstep_total A hA cids rew s s.ballots (s, []) rfl hwf hbw
  simpa [transferAll, St.total, St.sumVotes] using this

theorem advanceTo_w (cont : Nat → Bool) (b : Ballot α) : (advanceTo cont b).w = b.w := by
  unfold advanceTo; split <;> rfl
theorem advanceTo_mult (cont : Nat → Bool) (b : Ballot α) : (advanceTo cont b).mult = b.mult := by
  unfold advanceTo; split <;> rfl

theorem bvote_eq (hA : LawfulArith A) (b : Ballot α) : bvote A b = b.w * ((b.mult : Int) : α) := by
  unfold bvote
  have := hA.mulV_ofInt b.w (b.mult : Int)
  simpa using this

theorem movedVal_surplus (hA : LawfulArith A) (s : St α) (hc : Nat) (rew : α → α) (b : Ballot α) :
    movedVal A s [hc] rew b = if b.top = some hc then rew b.w * ((b.mult : Int) : α) else 0 := by
  unfold movedVal moveBallot
  cases htop : b.top with
  | none => simp
  | some c =>
    by_cases h : c = hc
    · subst h
      simp [bvote_eq A hA, advanceTo_w, advanceTo_mult]
    · simp [h]

/-- a linear law that holds entry by entry holds of the sums -/
theorem sum_law_le {β : Type} (l : List β) (f g h : β → α) (c d u : α)
    (hl : ∀ x ∈ l, f x * c ≤ (g x + u * h x) * d) :
    (l.map f).sum * c ≤ ((l.map g).sum + u * (l.map h).sum) * d := by
  induction l with
  | nil => simp
  | cons x xs ih =>
    simp only [List.map_cons, List.sum_cons]
    have hx := hl x (by simp)
    have := ih (fun y hy => hl y (by simp [hy]))
    linarith

/-- … and, asked of the selected entries only, of the sums over the selected entries: the form in which the re-weighting laws
    are summed over the ballots resting on a candidate -/
theorem sum_if_law {β : Type} (P : β → Prop) [DecidablePred P] (l : List β) (f g h : β → α) (c d u : α)
    (hl : ∀ x ∈ l, P x → f x * c ≤ (g x + u * h x) * d) :
    (l.map fun x => if P x then f x else 0).sum * c
      ≤ ((l.map fun x => if P x then g x else 0).sum + u * (l.map fun x => if P x then h x else 0).sum) * d :=
  sum_law_le l _ _ _ c d u fun x hx => by
    beta_reduce
    split
    · exact hl x hx ‹_›
    · simp

theorem sum_rew_le (f : α → α) (sur v : α) (l : List (Ballot α)) (hc : Nat)
    (hf : ∀ b ∈ l, f b.w * v ≤ b.w * sur) :
    (l.map (fun b => if b.top = some hc then f b.w * ((b.mult : Int) : α) else 0)).sum * v
      ≤ sur * (l.map (fun b => if b.top = some hc then b.w * ((b.mult : Int) : α) else 0)).sum := by
  have := sum_if_law (fun b : Ballot α => b.top = some hc) l (fun b => f b.w * ((b.mult : Int) : α))
    (fun b => b.w * ((b.mult : Int) : α)) (fun _ => 0) v sur 0 fun b hb _ => by
      have hm : (0 : α) ≤ ((b.mult : Int) : α) := by exact_mod_cast Nat.zero_le _
      calc f b.w * ((b.mult : Int) : α) * v = f b.w * v * ((b.mult : Int) : α) := by ring
        _ ≤ b.w * sur * ((b.mult : Int) : α) := mul_le_mul_of_nonneg_right (hf b hb) hm
        _ = _ := by ring
  rw [mul_comm sur]
  simpa using this

/-- what a surplus re-weighting `rew w surplus vote` must satisfy: never negative, never more than `w * surplus / vote` -/
def RewLaw (rew : α → α → α → α) : Prop :=
  ∀ w s v : α, 0 ≤ w → 0 ≤ s → 0 < v → 0 ≤ rew w s v ∧ rew w s v * v ≤ w * s

theorem rewMulDiv_law (hA : LawfulArith A) : RewLaw (rewMulDiv A) :=
  fun w s v hw hs hv => ⟨hA.rew_nonneg w s v hw hs hv, hA.rew_le w s v hw hs hv⟩
theorem rewMuldivDown_law (hA : LawfulArith A) : RewLaw (rewMuldivDown A) :=
  fun w s v hw hs hv => ⟨hA.muldiv_nonneg w s v hw hs hv, hA.muldiv_le w s v hw hs hv⟩

/-- the ballots of an elected candidate carry away at most the surplus, for any lawful re-weighting: the two-step
    truncation of PRF/Minneapolis/CfER and the fused multiply-divide of the Scottish rule -/
theorem surplus_moved_le (hA : LawfulArith A) (rew : α → α → α → α) (hrew : RewLaw rew) (s : St α) (hc : Nat) (sur v : α)
    (hsur : 0 ≤ sur) (hv : 0 < v) (hw : ∀ b ∈ s.ballots, 0 ≤ b.w)
    (hI : (s.ballots.map (fun b => if b.top = some hc then b.w * ((b.mult : Int) : α) else 0)).sum = v) :
    (s.ballots.map (movedVal A s [hc] (fun w => rew w sur v))).sum ≤ sur := by
  have hrw : s.ballots.map (movedVal A s [hc] (fun w => rew w sur v))
      = s.ballots.map (fun b => if b.top = some hc then (rew b.w sur v) * ((b.mult : Int) : α) else 0) := by
    apply List.map_congr_left
    intro b _
    exact movedVal_surplus A hA s hc _ b
  rw [hrw]
  have key := sum_rew_le (fun w => rew w sur v) sur v s.ballots hc
    (fun b hb => (hrew b.w sur v (hw b hb) hsur hv).2)
  rw [hI] at key
  have : (s.ballots.map (fun b => if b.top = some hc then (rew b.w sur v) * ((b.mult : Int) : α) else 0)).sum * v
      ≤ sur * v := key
  exact le_of_mul_le_mul_right this hv

theorem arith_sum_eq (hA : LawfulArith A) (l : List α) : A.sum l = l.sum := by
  unfold Arith.sum
  have : ∀ (acc : α), l.foldl A.add acc = acc + l.sum := by
    induction l with
    | nil => intro acc; simp
    | cons x xs ih => intro acc; simp only [List.foldl_cons, List.sum_cons, ih, hA.add_eq]; ring
  rw [this, hA.zero_eq, zero_add]

end Droop
