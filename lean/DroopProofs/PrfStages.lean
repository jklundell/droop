import DroopProofs.MeekRun
import DroopProofs.StepComm

/-! # The stages of a meek-prf count

`prfCount` (meek_prf.py) is written inline in the model.  This module names its prologue (`prfS3`, `prfStart`), what a round does after
its iteration (`prfAfter`: a tie-break, then one exclusion) and its epilogue (`prfFinish`), with the equations that say so; the stages of
one iteration (`prfS2` … `prfS6`) are in `MeekIter.lean`. -/
namespace Droop
variable {α : Type} [CommRing α] [LinearOrder α] [IsStrictOrderedRing α] (A : Arith α)

/-- the state `prfCount` builds before the first count: keep factors 1, total votes, quota -/
def prfS3 (s0 : St α) : St α :=
  let s1 : St α := { s0 with cands := s0.cands.map (fun (c : Cand α) => if c.st == .hopeful then { c with kf := some A.one } else c) }
  let s2 : St α := { s1 with votes := A.ofInt s1.nballots }
  { s2 with quota := A.add (A.divV s2.votes (A.ofInt (s2.seats + 1))) A.eps }

/-- the prologue of `prfCount` -/
def prfStart (s0 : St α) : St α :=
  let s1 : St α := { s0 with cands := s0.cands.map (fun (c : Cand α) => if c.st == .hopeful then { c with kf := some A.one } else c) }
  let s2 : St α := { s1 with votes := A.ofInt s1.nballots }
  let s3 : St α := { s2 with quota := A.add (A.divV s2.votes (A.ofInt (s2.seats + 1))) A.eps }
  let s4 : St α := s3.ballots.foldl (fun (acc : St α) (b : Ballot α) => match b.top with
                                           | some c => acc.addVote A c (A.ofInt b.mult)
                                           | none => acc) s3
  s4.logAct A "begin" "Begin Count" []

theorem prfStart_eq (s0 : St α) :
    prfStart A s0 = ((prfS3 A s0).ballots.foldl (mfcStep A) (prfS3 A s0)).logAct A "begin" "Begin Count" [] := rfl

/-- the epilogue of `prfCount` -/
def prfFinish (s6 : St α) : St α :=
  if s6.crash.isSome then s6 else
  let s7 := s6.hopeful.foldl (fun acc c =>
    if acc.elected.length < acc.seats then acc.elect A c.cid "Elect remaining" false
    else (acc.defeat A c.cid "Defeat remaining").upd c.cid (fun x => { x with kf := some A.zero, vote := A.zero })) s6
  let v := A.sum (s7.elected.map (·.vote))
  { s7 with votes := v, residual := A.sub (A.ofInt s7.nballots) v }

theorem prfCount_eq (iterFuel : Nat) (s0 : St α) :
    prfCount A iterFuel s0 =
      (loopN stdGuard (prfBody A (A.divV (A.ofInt 1) (A.ofInt (10 ^ 6))) iterFuel) (2 * s0.cands.length + 3) (prfStart A s0)).map
        (prfFinish A) := by
  unfold prfCount prfStart prfFinish
  dsimp only
  cases loopN stdGuard (prfBody A (A.divV (A.ofInt 1) (A.ofInt (10 ^ 6))) iterFuel) (2 * s0.cands.length + 3) _ with
  | none => rfl
  | some s6 =>
    simp only [Option.map_some]
    split <;> rfl

/-- what a round does after its iteration -/
def prfAfter (r : St α × PStatus) : St α × Flow :=
  if r.1.crash.isSome then (r.1, .brk) else
  if r.2 == .elected then (r.1, .cont) else
  match r.1.hopeful with
  | [] => (r.1, .cont)
  | h :: hs =>
    match breakTie A r.1 (r.1.hopeful.filter (fun c => A.ge (A.add (A.vMin h.vote (hs.map (·.vote))) r.1.surplus) c.vote))
        "Break tie (defeat low candidate)" with
    | (s3, some lc) =>
      ((s3.defeat A lc.cid (if r.2 == .omega then "Defeat (surplus < omega)" else "Defeat (stable surplus)")).upd lc.cid
        (fun c => { c with vote := A.zero, kf := some A.zero }), .cont)
    | (s3, none) => (s3, .brk)

theorem prfBody_eq' (omega : α) (iterFuel : Nat) (s : St α) :
    prfBody A omega iterFuel s = prfAfter A (prfIterate A omega iterFuel (A.ofInt (s.newRound A).nballots) (s.newRound A)) := rfl

/-- after an iteration of the reference rule a round makes at most two moves: a tie-break among the hopefuls, then the
    exclusion (mark, zero tally and keep factor) of the hopeful candidate it picked -/
theorem prfAfter_preserves {P : St α → Prop} (hbt : ∀ s tied verb, P s → P (breakTie A s tied verb).1)
    (hdef : ∀ s (lc : Cand α) verb, P s → lc ∈ s.hopeful →
      P ((s.defeat A lc.cid verb).upd lc.cid (fun c => { c with vote := A.zero, kf := some A.zero })))
    (r : St α × PStatus) (h : P r.1) : P (prfAfter A r).1 := by
  unfold prfAfter
  split
  · exact h
  · split
    · exact h
    · split
      · exact h
      · rename_i hd hs hh
        have hbt' := hbt r.1 (r.1.hopeful.filter (fun c => A.ge (A.add (A.vMin hd.vote (hs.map (·.vote))) r.1.surplus) c.vote))
          "Break tie (defeat low candidate)" h
        have hfr := (breakTie_frame A r.1 (r.1.hopeful.filter (fun c => A.ge (A.add (A.vMin hd.vote (hs.map (·.vote))) r.1.surplus) c.vote))
          "Break tie (defeat low candidate)").1
        have hmem := breakTie_mem A r.1 (r.1.hopeful.filter (fun c => A.ge (A.add (A.vMin hd.vote (hs.map (·.vote))) r.1.surplus) c.vote))
          "Break tie (defeat low candidate)"
        cases hb : breakTie A r.1 (r.1.hopeful.filter (fun c => A.ge (A.add (A.vMin hd.vote (hs.map (·.vote))) r.1.surplus) c.vote))
            "Break tie (defeat low candidate)" with
        | mk s3 oc =>
          rw [hb] at hbt' hfr hmem
          cases oc with
          | none => exact hbt'
          | some lc =>
            apply hdef s3 lc _ hbt'
            have : lc ∈ r.1.hopeful := (List.mem_filter.1 (hmem lc rfl)).1
            unfold St.hopeful at this ⊢
            simp only at hfr
            rw [hfr]; exact this

/-- these moves commute with a transformer that the selectors are blind to and the writes commute with; `G` says whether the
    exclusion needs distinct ids and a non-withdrawn addressee (`dropW`: yes, `xB`: no) -/
theorem prfAfter_comm {T : St α → St α} {G : Prop} (hcr : ∀ s, (T s).crash = s.crash) (hhop : ∀ s, (T s).hopeful = s.hopeful)
    (hsur : ∀ s, (T s).surplus = s.surplus)
    (hbt : ∀ s tied verb, breakTie A (T s) tied verb = (T (breakTie A s tied verb).1, (breakTie A s tied verb).2))
    (hdef : ∀ s cid verb, (G → s.WF) → (G → NonWId s cid) → T (s.defeat A cid verb) = (T s).defeat A cid verb)
    (hkeep : ∀ s cid (f : Cand α → Cand α), (∀ c, (f c).st = c.st) → T (s.upd cid f) = (T s).upd cid f)
    (r : St α × PStatus) (hwf : G → r.1.WF) :
    prfAfter A (T r.1, r.2) = (T (prfAfter A r).1, (prfAfter A r).2) := by
  unfold prfAfter
  simp only [hcr, hhop, hsur]
  by_cases hc : r.1.crash.isSome = true
  · simp only [hc, if_true]
  · simp only [hc, Bool.false_eq_true, if_false]
    by_cases he : (r.2 == PStatus.elected) = true
    · simp only [he, if_true]
    · simp only [he, Bool.false_eq_true, if_false]
      cases hh : r.1.hopeful with
      | nil => rfl
      | cons h hs =>
        simp only
        rw [hbt]
        cases hb : breakTie A r.1 (List.filter (fun c => A.ge (A.add (A.vMin h.vote (hs.map (·.vote))) r.1.surplus) c.vote) (h :: hs))
            "Break tie (defeat low candidate)" with
        | mk s3 oc =>
          cases oc with
          | none => rfl
          | some lc =>
            simp only
            obtain ⟨h1, h2⟩ := breakTie_pick A hwf
              (fun w hw _ => nonWId_of_hopeful (by rw [hh]; exact (List.mem_filter.1 hw).1)) hb
            rw [← hdef s3 lc.cid _ h1 h2, ← hkeep _ lc.cid (fun c => { c with vote := A.zero, kf := some A.zero }) (fun _ => rfl)]

end Droop
