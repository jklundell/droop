import DroopProofs.DropWMeek

/-! # C11 for meek-prf: a withdrawn candidate is an absent candidate

As for meek and warren: a withdrawn candidate never has a keep factor other than none or zero (`WDead`, an invariant of the whole
count given distinct candidate ids), so the distribution passes it by as it passes an id that is no candidate; everything else
reads the candidates through `hopeful` / `elected`, updates one candidate keeping its status, or elects / excludes a hopeful one.
No hypothesis on the arithmetic. -/
namespace Droop
variable {α : Type} [CommRing α] [LinearOrder α] [IsStrictOrderedRing α] (A : Arith α)

theorem WDead.of_cands {s t : St α} (h : WDead A s) (hc : t.cands = s.cands) : WDead A t := by
  unfold WDead St.WF at *
  rw [hc]; exact h

theorem WDead.upd {s : St α} (h : WDead A s) (cid : Nat) (f : Cand α → Cand α) (hcid : ∀ c, (f c).cid = c.cid)
    (hok : ∀ c ∈ s.cands, c.cid = cid → (f c).st = .withdrawn → (c.st = .withdrawn ∧ (f c).kf = c.kf)) : WDead A (s.upd cid f) := by
  refine ⟨WF_upd h.1 cid f hcid, ?_⟩
  intro c' hc' hw
  obtain ⟨c, hc, rfl⟩ := mem_upd.1 hc'
  by_cases he : (c.cid == cid) = true
  · rw [if_pos he] at hw ⊢
    obtain ⟨hcw, hkf⟩ := hok c hc (by simpa using he) hw
    have := h.2 c hc hcw
    unfold Cand.noKeep at this ⊢
    rw [hkf]; exact this
  · rw [if_neg he] at hw ⊢; exact h.2 c hc hw

theorem WDead.logAct {s : St α} (h : WDead A s) (tag verb : String) (subj : List Nat) : WDead A (s.logAct A tag verb subj) :=
  h.of_cands A (logAct_cands A s tag verb subj)

theorem WDead.elect {s : St α} (h : WDead A s) (cid : Nat) (verb : String) (p : Bool) : WDead A (s.elect A cid verb p) := by
  unfold St.elect
  apply WDead.logAct
  exact h.upd A cid _ (fun _ => rfl) (fun c _ _ hw => by cases hw)

theorem WDead.defeat {s : St α} (h : WDead A s) (cid : Nat) (verb : String) : WDead A (s.defeat A cid verb) := by
  unfold St.defeat
  apply WDead.logAct
  exact h.upd A cid _ (fun _ => rfl) (fun c _ _ hw => by cases hw)

theorem WDead.foldElect {s : St α} (h : WDead A s) (ws : List (Cand α)) (verb : String) :
    WDead A (ws.foldl (fun acc c => acc.elect A c.cid verb false) s) := by
  induction ws generalizing s with
  | nil => exact h
  | cons w ws ih => simp only [List.foldl_cons]; exact ih (h.elect A w.cid verb false)

theorem WDead.setCrash {s : St α} (h : WDead A s) (k : String) : WDead A (s.setCrash k) := h.of_cands A (setCrash_cands s k)

theorem WDead.kfUpdate {s : St α} (h : WDead A s) (cap : Bool) : WDead A (Droop.kfUpdate A cap s) := by
  unfold Droop.kfUpdate
  have key : ∀ (l : List (Cand α)) (t : St α), WDead A t → (∀ c ∈ l, ∀ x ∈ t.cands, x.cid = c.cid → x.st ≠ .withdrawn) →
      WDead A (l.foldl (fun acc c =>
        match c.kf with
        | some kf =>
          if A.isZero c.vote then acc.setCrash "ZeroDivisionError"
          else acc.upd c.cid (fun x => { x with kf := some (kfCap A cap (A.div .up (A.mul .up kf acc.quota) c.vote)) })
        | none => acc.setCrash "TypeError") t) := by
    intro l
    induction l with
    | nil => intro t ht _; exact ht
    | cons c cs ih =>
      intro t ht hno
      simp only [List.foldl_cons]
      have hstep : ∀ (t' : St α), t'.cands.map (fun x => (x.cid, x.st)) = t.cands.map (fun x => (x.cid, x.st)) →
          ∀ c' ∈ cs, ∀ x ∈ t'.cands, x.cid = c'.cid → x.st ≠ .withdrawn := by
        intro t' hsig c' hc' x hx hxc
        have : (x.cid, x.st) ∈ t.cands.map (fun x => (x.cid, x.st)) := by rw [← hsig]; exact List.mem_map.2 ⟨x, hx, rfl⟩
        obtain ⟨y, hy, hye⟩ := List.mem_map.1 this
        have h1 : y.cid = x.cid := congrArg Prod.fst hye
        have h2 : y.st = x.st := congrArg Prod.snd hye
        rw [← h2]
        exact hno c' (List.mem_cons_of_mem _ hc') y hy (by rw [h1, hxc])
      cases hk : c.kf with
      | none =>
        simp only
        exact ih _ (ht.setCrash A _) (hstep _ (by rw [setCrash_cands]))
      | some kf =>
        simp only
        split
        · exact ih _ (ht.setCrash A _) (hstep _ (by rw [setCrash_cands]))
        · refine ih _ (ht.upd A c.cid _ (fun _ => rfl) ?_) (hstep _ ?_)
          · intro x hx hxc hw
            exact absurd hw (hno c (List.mem_cons_self ..) x hx hxc)
          · unfold St.upd
            rw [List.map_map]
            apply List.map_congr_left
            intro x _
            simp only [Function.comp]
            split <;> rfl
  apply key _ _ h
  intro c hc x hx hxc
  obtain ⟨hc1, hc2⟩ := List.mem_filter.1 hc
  have : x = c := nodup_cid_eq h.1 hx hc1 hxc
  rw [this]
  have : c.st = .elected := by simpa using hc2
  rw [this]; simp

theorem prfS2_dropW {s : St α} (h : WDead A s) : prfS2 A (dropW s) = dropW (prfS2 A s) ∧ WDead A (prfS2 A s) := by
  unfold prfS2
  have e1 : ({ zeroActiveVotes A (dropW s) with residual := A.zero } : St α) = dropW ({ zeroActiveVotes A s with residual := A.zero } : St α) := by
    rw [zeroActiveVotes_dropW]; rfl
  rw [e1, prfBallotStep_gen]
  exact foldl_genBallotStep_dropW A _ _ _ (WDead.startDist A h)

theorem prfS4_dropW {s : St α} (h : WDead A s) : prfS4 A (dropW s) = dropW (prfS4 A s) ∧ WDead A (prfS4 A s) := by
  obtain ⟨e, h2⟩ := prfS2_dropW A h
  unfold prfS4
  rw [e, activeVotes_dropW]
  exact ⟨rfl, h2.of_cands A rfl⟩

theorem prfWinners_dropW {s : St α} (h : WDead A s) : prfWinners A (dropW s) = prfWinners A s := by
  unfold prfWinners
  rw [(prfS4_dropW A h).1, hopeful_dropW]
  rfl

theorem prfS5_dropW {s : St α} (h : WDead A s) : prfS5 A (dropW s) = dropW (prfS5 A s) ∧ WDead A (prfS5 A s) := by
  obtain ⟨e4, h4⟩ := prfS4_dropW A h
  unfold prfS5
  rw [prfWinners_dropW A h, e4]
  refine ⟨(dropW_foldElect A (prfWinners A s) (fun _ => "Elect") (fun _ => false) h4.1
    (fun w hw => nonWId_of_hopeful (List.mem_filter.1 hw).1)).symm, h4.foldElect A _ _⟩

theorem prfS6_dropW {s : St α} (h : WDead A s) : prfS6 A (dropW s) = dropW (prfS6 A s) ∧ WDead A (prfS6 A s) := by
  obtain ⟨e5, h5⟩ := prfS5_dropW A h
  unfold prfS6
  rw [e5, elected_dropW]
  exact ⟨rfl, h5.of_cands A rfl⟩

theorem prfIterate_dropW (omega : α) : ∀ (fuel : Nat) (last : α) (s : St α), WDead A s →
    prfIterate A omega fuel last (dropW s) = (dropW (prfIterate A omega fuel last s).1, (prfIterate A omega fuel last s).2)
    ∧ WDead A (prfIterate A omega fuel last s).1 :=
  fun fuel last s h =>
    ⟨prfIterate_comm A (iterBlind_dropW A) omega (I := WDead A) (fun _ h => (prfS6_dropW A h).2.kfUpdate A false)
        (fun _ h => prfWinners_dropW A h) (fun _ h => (prfS6_dropW A h).1) fuel last s h,
      prfIterate_preserves A omega (P := WDead A) (fun _ h => (prfS6_dropW A h).2) (fun _ h => h.kfUpdate A false)
        (fun _ _ h => h.of_cands A rfl) (fun _ h => h.setCrash A _) fuel last s h⟩

theorem WDead.breakTie {s : St α} (h : WDead A s) (tied : List (Cand α)) (verb : String) : WDead A (Droop.breakTie A s tied verb).1 :=
  h.of_cands A (breakTie_frame A s tied verb).1

theorem prfAfter_dropW (r : St α × PStatus) (h : WDead A r.1) :
    prfAfter A (dropW r.1, r.2) = (dropW (prfAfter A r).1, (prfAfter A r).2) ∧ WDead A (prfAfter A r).1 := by
  refine ⟨prfAfter_comm A (T := dropW) (G := True) (fun _ => rfl) hopeful_dropW (fun _ => rfl) (dropW_breakTie A)
      (fun s cid verb hw hn => dropW_defeat A (hw trivial) (hn trivial) verb) dropW_upd_keep r (fun _ => h.1),
    prfAfter_preserves A (fun s tied verb hs => hs.breakTie A tied verb) ?_ r h⟩
  intro s lc verb hs hlc
  refine (hs.defeat A lc.cid verb).upd A lc.cid _ (fun _ => rfl) (fun c hc hcc hw => ?_)
  -- a candidate carrying the id just excluded is not withdrawn
  exfalso
  obtain ⟨x, hx, hxc, hxs⟩ := nonWId_defeat A (nonWId_of_hopeful hlc) lc.cid verb
  rw [nodup_cid_eq (hs.defeat A lc.cid verb).1 hx hc (by rw [hxc, hcc])] at hxs
  exact hxs hw

theorem prfBody_dropW (omega : α) (iterFuel : Nat) {s : St α} (h : WDead A s) :
    prfBody A omega iterFuel (dropW s) = (dropW (prfBody A omega iterFuel s).1, (prfBody A omega iterFuel s).2)
    ∧ WDead A (prfBody A omega iterFuel s).1 := by
  rw [prfBody_eq', prfBody_eq']
  have hn : (dropW s).newRound A = dropW (s.newRound A) := (dropW_newRound A s).symm
  have hnb : ((dropW s).newRound A).nballots = (s.newRound A).nballots := by rw [hn]; rfl
  have hw1 : WDead A (s.newRound A) := by
    unfold St.newRound
    exact WDead.logAct A (h.of_cands A (t := { s with round := s.round + 1 }) rfl) _ _ _
  obtain ⟨e, hr⟩ := prfIterate_dropW A omega iterFuel (A.ofInt (s.newRound A).nballots) (s.newRound A) hw1
  rw [hnb, hn, e]
  exact prfAfter_dropW A _ hr

theorem mfcStep_dropW (acc : St α) (b : Ballot α) : mfcStep A (dropW acc) b = dropW (mfcStep A acc b) := by
  unfold mfcStep
  cases b.top with
  | none => rfl
  | some c => exact (dropW_addVote A acc c _).symm

theorem WDead.mfcFold (bs : List (Ballot α)) : ∀ (s : St α), WDead A s → WDead A (bs.foldl (mfcStep A) s) := by
  induction bs with
  | nil => intro s h; exact h
  | cons b bs ih =>
    intro s h
    simp only [List.foldl_cons]
    apply ih
    unfold mfcStep
    cases b.top with
    | none => exact h
    | some c => exact h.addVote A c _

theorem prfS3_dropW (s0 : St α) : prfS3 A (dropW s0) = dropW (prfS3 A s0) := by
  unfold prfS3 dropW
  simp only
  congr 1
  rw [List.filter_map]
  congr 1
  apply List.filter_congr
  intro c _
  simp only [Function.comp, nonW]
  split <;> rfl

theorem WDead.prfS3 {s0 : St α} (h : WDead A s0) : WDead A (Droop.prfS3 A s0) := by
  unfold Droop.prfS3
  simp only
  refine ⟨?_, ?_⟩
  · unfold St.WF
    simp only [List.map_map]
    have : ((fun c : Cand α => c.cid) ∘ fun (c : Cand α) => if (c.st == CState.hopeful) = true then { c with kf := some A.one } else c)
        = fun c => c.cid := by
      funext c; simp only [Function.comp]; split <;> rfl
    rw [this]; exact h.1
  · intro c' hc' hw
    simp only at hc'
    obtain ⟨c, hc, rfl⟩ := List.mem_map.1 hc'
    by_cases hcond : (c.st == CState.hopeful) = true
    · rw [if_pos hcond] at hw
      have : c.st = .hopeful := by simpa using hcond
      simp only at hw
      rw [this] at hw; cases hw
    · rw [if_neg hcond] at hw ⊢; exact h.2 c hc hw

theorem prfStart_dropW (s0 : St α) : prfStart A (dropW s0) = dropW (prfStart A s0) := by
  rw [prfStart_eq, prfStart_eq, dropW_logAct, prfS3_dropW]
  have hb : (dropW (prfS3 A s0)).ballots = (prfS3 A s0).ballots := rfl
  rw [hb, foldl_dropW_comm (mfcStep A) (mfcStep_dropW A)]

theorem WDead.prfStart {s0 : St α} (h : WDead A s0) : WDead A (Droop.prfStart A s0) := by
  rw [prfStart_eq]
  exact WDead.logAct A ((h.prfS3 A).mfcFold A _ _) _ _ _

def prfFinStep (acc : St α) (c : Cand α) : St α :=
  if acc.elected.length < acc.seats then acc.elect A c.cid "Elect remaining" false
  else (acc.defeat A c.cid "Defeat remaining").upd c.cid (fun x => { x with kf := some A.zero, vote := A.zero })

theorem prfFinStep_dropW {s : St α} (h : WDead A s) (c : Cand α) (hn : NonWId s c.cid) :
    prfFinStep A (dropW s) c = dropW (prfFinStep A s c) ∧ WDead A (prfFinStep A s c)
    ∧ ∀ d, NonWId s d → NonWId (prfFinStep A s c) d := by
  unfold prfFinStep
  rw [elected_dropW]
  have hs : (dropW s).seats = s.seats := rfl
  rw [hs]
  split
  · exact ⟨(dropW_elect A h.1 hn _ _).symm, h.elect A _ _ _, fun d hd => nonWId_elect A hd _ _ _⟩
  · refine ⟨?_, ?_, ?_⟩
    · rw [← dropW_defeat A h.1 hn, ← dropW_upd_keep (s.defeat A c.cid _) c.cid (fun x => { x with kf := some A.zero, vote := A.zero }) (fun _ => rfl)]
    · exact (h.defeat A c.cid _).upd A c.cid _ (fun _ => rfl) (fun x hx hxc hw => by
        exfalso
        have hwf := (h.defeat A c.cid "Defeat remaining").1
        obtain ⟨y, hy, hyc, hys⟩ := nonWId_defeat A hn c.cid "Defeat remaining"
        have : y = x := nodup_cid_eq hwf hy hx (by rw [hyc, hxc])
        rw [this] at hys
        exact hys hw)
    · intro d hd
      exact nonWId_upd (nonWId_defeat A hd c.cid _) c.cid _ (fun _ => rfl) (fun _ hh => hh)

theorem foldFin_dropW (l : List (Cand α)) : ∀ (s : St α), WDead A s → (∀ c ∈ l, NonWId s c.cid) →
    l.foldl (prfFinStep A) (dropW s) = dropW (l.foldl (prfFinStep A) s) := by
  induction l with
  | nil => intro s _ _; rfl
  | cons c cs ih =>
    intro s h hn
    simp only [List.foldl_cons]
    obtain ⟨e, h', hk⟩ := prfFinStep_dropW A h c (hn c (List.mem_cons_self ..))
    rw [e]
    exact ih _ h' (fun c' hc' => hk _ (hn c' (List.mem_cons_of_mem _ hc')))

theorem prfFinish_eq' (s6 : St α) :
    prfFinish A s6 = if s6.crash.isSome then s6 else
      { s6.hopeful.foldl (prfFinStep A) s6 with
        votes := A.sum ((s6.hopeful.foldl (prfFinStep A) s6).elected.map (·.vote)),
        residual := A.sub (A.ofInt (s6.hopeful.foldl (prfFinStep A) s6).nballots) (A.sum ((s6.hopeful.foldl (prfFinStep A) s6).elected.map (·.vote))) } := rfl

theorem prfFinish_dropW {s6 : St α} (h : WDead A s6) : prfFinish A (dropW s6) = dropW (prfFinish A s6) := by
  rw [prfFinish_eq', prfFinish_eq']
  have hc : (dropW s6).crash = s6.crash := rfl
  rw [hc]
  split
  · rfl
  · rw [hopeful_dropW, foldFin_dropW A s6.hopeful s6 h (fun c hc => nonWId_of_hopeful hc), elected_dropW]
    rfl

/-- **C11, second clause, meek-prf**: whenever the count of the full state and the count of the state with the withdrawn candidates
    deleted both return, the second is the first with the withdrawn candidates deleted (record included) -/
theorem prf_dropW (iterFuel : Nat) (s0 t t' : St α) (h0 : WDead A s0)
    (h : prfCount A iterFuel s0 = some t) (h' : prfCount A iterFuel (dropW s0) = some t') : t' = dropW t := by
  rw [prfCount_eq] at h h'
  rw [prfStart_dropW] at h'
  cases hl : loopN stdGuard (prfBody A (A.divV (A.ofInt 1) (A.ofInt (10 ^ 6))) iterFuel) (2 * s0.cands.length + 3) (prfStart A s0) with
  | none => rw [hl] at h; cases h
  | some s6 =>
    rw [hl] at h
    cases hl' : loopN stdGuard (prfBody A (A.divV (A.ofInt 1) (A.ofInt (10 ^ 6))) iterFuel) (2 * (dropW s0).cands.length + 3)
        (dropW (prfStart A s0)) with
    | none => rw [hl'] at h'; cases h'
    | some s6' =>
      rw [hl'] at h'
      have ht : t = prfFinish A s6 := by simpa using h.symm
      have ht' : t' = prfFinish A s6' := by simpa using h'.symm
      have hlen : (dropW s0).cands.length ≤ s0.cands.length := List.length_filter_le _ _
      have h1 := loopN_fuel_mono stdGuard (prfBody A (A.divV (A.ofInt 1) (A.ofInt (10 ^ 6))) iterFuel) _ _ _ hl'
        (2 * s0.cands.length + 3) (by omega)
      have hP0 : WDead A (prfStart A s0) := h0.prfStart A
      have h2 := loopN_dropW (WDead A) stdGuard (prfBody A (A.divV (A.ofInt 1) (A.ofInt (10 ^ 6))) iterFuel)
        (fun s hs _ _ => (prfBody_dropW A _ iterFuel hs).2)
        (fun s => stdGuard_dropW s)
        (fun s hs => (prfBody_dropW A _ iterFuel hs).1)
        (2 * s0.cands.length + 3) (prfStart A s0) hP0
      rw [h1, hl] at h2
      have e6 : s6' = dropW s6 := by simpa using h2
      have h6 : WDead A s6 :=
        loopN_preserves_guard (WDead A) stdGuard (prfBody A (A.divV (A.ofInt 1) (A.ofInt (10 ^ 6))) iterFuel)
          (fun s hs _ => (prfBody_dropW A _ iterFuel hs).2) _ _ _ hP0 hl
      rw [ht', ht, e6, prfFinish_dropW A h6]

end Droop
