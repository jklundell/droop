import DroopProofs.CoalitionRun
import DroopProofs.RunZero

/-! # C05, wigm / wigm-prf (single exclusions: no `defeat_batch=zero`, no sure-loser batch) -/
namespace Droop
variable {α : Type} [CommRing α] [LinearOrder α] [IsStrictOrderedRing α] (A : Arith α)
variable {S : List Nat} {m : Nat} {kk k : Nat} {u nV : α} {N : Nat}

section wigm
variable (hA : LawfulArith A) (hqc : QuotaComplete A) (hu : 0 ≤ u) (hlow : RewLower A u (rewMulDiv A)) (hkk : kk ≤ k)
include hA hu hlow

theorem CInv.wigmSurplusStep {s : St α} (h : CInv A S m kk k u nV N s) (hI : Inv A s) (hq1 : A.one ≤ s.quota) :
    CInv A S m kk k u nV N (Droop.wigmSurplusStep A s) := by
  rcases wigmSurplusStep_picks A s with ⟨_, e⟩ | ⟨tied, ⟨_, e⟩ | ⟨hc, hm, e⟩⟩
  · rw [e]; exact h
  · rw [e]; exact h.breakTie A _ _
  · rw [e]
    obtain ⟨e1, e2, _, e4, _⟩ := breakTie_frame A s tied "Break tie (surplus)"
    exact h.surplusPicked A hA hu _ hlow e1 e2 e4 (hI.breakTie A tied _) hq1 hc hm _ _

include hkk in
theorem CInv.wigmDefeatStep1 (o : WigmOpts) (hz : o.batchZero = false) {s : St α} (h : CInv A S m kk k u nV N s)
    (hI : Inv A s) (hpend : s.pendingL = []) (hbelow : ∀ c ∈ s.hopeful, c.vote ≤ s.quota) :
    CInv A S m kk k u nV N (Droop.wigmDefeatStep A o s) := by
  rcases wigmDefeatStep_picks A o hz s with ⟨_, e⟩ | ⟨tied, ⟨_, e⟩ | ⟨lc, hm, e⟩⟩
  · rw [e]; exact h
  · rw [e]; exact h.breakTie A _ _
  · rw [e]
    obtain ⟨e1, e2, _, e4, _⟩ := breakTie_frame A s tied "Break tie (defeat)"
    exact h.defeatPicked A hA hu hkk e1 e2 e4 (hI.breakTie A tied _) hpend hbelow lc hm _ _

include hqc hkk in
theorem CInv.wigmBody (o : WigmOpts) (hz : o.batchZero = false) (hnb : o.prfBatch = false)
    (hex : o.prf = true → A.exact = false) {s : St α} (hI : Inv A s) (h : CInv A S m kk k u nV N s)
    (hq1 : A.one ≤ s.quota) : CInv A S m kk k u nV N (Droop.wigmBody A o s).1 := by
  have hI1 : Inv A (s.newRound A) := hI.newRound A
  obtain ⟨h2, hbelow2⟩ : CInv A S m kk k u nV N (wigmElect A o (s.newRound A))
      ∧ ∀ c ∈ (wigmElect A o (s.newRound A)).hopeful, c.vote ≤ (wigmElect A o (s.newRound A)).quota := by
    refine (h.newRound A).electWinners A hA (if o.prf then hasQuotaGE A else hasQuotaX A) _ (fun c hc => ?_) (fun c hc => ?_) hI1
    · by_cases hp : o.prf = true
      · rw [if_pos hp] at hc; exact hasQuotaGE_sound A hA (hex hp) _ c hc
      · rw [if_neg hp] at hc; exact hasQuotaX_sound A hA _ c hc
    · by_cases hp : o.prf = true
      · rw [if_pos hp] at hc; exact hqc.1 _ _ hc
      · rw [if_neg hp] at hc
        unfold hasQuotaX at hc
        split at hc
        · exact hqc.2 _ _ hc
        · exact hqc.1 _ _ hc
  have hI2 : Inv A (wigmElect A o (s.newRound A)) := hI1.wigmElect A hA o hex
  have hq2 : A.one ≤ (wigmElect A o (s.newRound A)).quota := by
    have hf : Frame s (wigmElect A o (s.newRound A)) :=
      ((stepRel_frame A).newRound s).trans ((stepRel_frame A).electWinners _ _ _ _)
    rw [hf.1]; exact hq1
  unfold Droop.wigmBody
  generalize wigmElect A o (s.newRound A) = s2 at *
  unfold Droop.wigmAfterElect
  have hsure : wigmSure A o s2 = [] := by unfold wigmSure; simp [hnb]
  rw [hsure]
  simp only [List.isEmpty_nil, Bool.not_true, Bool.false_eq_true, if_false]
  split
  · exact CInv.wigmSurplusStep A hA hu hlow h2 hI2 hq2
  · rename_i hp
    split
    · exact CInv.wigmDefeatStep1 A hA hu hlow hkk o hz h2 hI2 (by simpa using hp) hbelow2
    · exact h2

end wigm

/-- while everybody still hopeful fits into the seats left, the epilogue elects every one of them -/
theorem foldElectOrDefeat_fit (ws : List (Cand α)) (hnd : (ws.map (·.cid)).Nodup) {s : St α} (hwf : s.WF)
    (hw : ∀ w ∈ ws, w ∈ s.cands ∧ w.st = .hopeful) (hfit : nEl s + ws.length ≤ s.seats) :
    ws.foldl (fun acc c => if acc.elected.length < acc.seats then acc.elect A c.cid "Elect remaining" false
      else acc.defeat A c.cid "Defeat remaining") s
      = ws.foldl (fun acc c => acc.elect A c.cid "Elect remaining" false) s := by
  induction ws generalizing s with
  | nil => rfl
  | cons w ws ih =>
    rw [List.map_cons, List.nodup_cons] at hnd
    rw [List.length_cons] at hfit
    obtain ⟨hwm, hwh⟩ := hw w List.mem_cons_self
    have hlt : s.elected.length < s.seats := by unfold nEl at hfit; omega
    rw [List.foldl_cons, List.foldl_cons, if_pos hlt]
    refine ih hnd.2 (WF_elect A hwf _ _ _) (fun c hc => ?_) ?_
    · obtain ⟨hcm, hch⟩ := hw c (List.mem_cons_of_mem _ hc)
      exact ⟨mem_elect_of_ne A hcm _ _ _ (fun e => hnd.1 (e ▸ List.mem_map_of_mem (f := (·.cid)) hc)), hch⟩
    · rw [((stepRel_frame A).elect s w.cid _ _).2.1, (counts_elect A s w _ false hwf hwm hwh).2]; omega

/-- the epilogue takes no seat away -/
theorem elS_le_foldElectOrDefeat {s : St α} (hwf : s.WF) (ws : List (Cand α)) (hnd : (ws.map (·.cid)).Nodup)
    (hw : ∀ w ∈ ws, w ∈ s.cands ∧ w.st = .hopeful) :
    elS S s ≤ elS S (ws.foldl (fun acc c => if acc.elected.length < acc.seats then acc.elect A c.cid "Elect remaining" false
      else acc.defeat A c.cid "Defeat remaining") s) :=
  (foldl_hopefuls (fun _ t => t.WF ∧ elS S s ≤ elS S t) _
    (by
      intro n t w hP hwm hwh
      split
      · exact ⟨⟨WF_elect A hP.1 _ _ _, by rw [(countsS_elect (S := S) A hP.1 w hwm hwh _ _).2.1]; omega⟩,
          fun c hc hne => mem_elect_of_ne A hc _ _ _ hne⟩
      · exact ⟨⟨WF_defeat A hP.1 _ _, by rw [(countsS_defeat (S := S) A hP.1 w hwm hwh _).2.1]; exact hP.2⟩,
          fun c hc hne => mem_defeat_of_ne A hc _ _ hne⟩)
    ws hnd hw ⟨hwf, le_refl _⟩).2

/-- **the epilogue of wigm**: with the loop guard off, `kk` coalition members hopeful or elected, and `kk` of them elected
    if the seats are all taken, `kk` of them are elected at the end -/
theorem epilogue_elS {s : St α} (hg : Good A s) (hguard : stdGuard s = false)
    (halive : kk ≤ hopS S s + elS S s) (hfull : s.seats ≤ nEl s → kk ≤ elS S s) :
    kk ≤ elS S (epilogueElectOrDefeat A s) := by
  unfold epilogueElectOrDefeat
  dsimp only
  have hg5 := hg.foldUnpend A
  obtain ⟨u1, u2, u3⟩ := counts_foldUnpend s.pendingL s
  obtain ⟨v1, v2⟩ := countsS_foldUnpend (S := S) s.pendingL s
  generalize s.pendingL.foldl (fun acc c => acc.unpendSilent c.cid) s = s5 at *
  have hnd := hopeful_cids_nodup hg5.1.wf
  have hw : ∀ w ∈ s5.hopeful, w ∈ s5.cands ∧ w.st = .hopeful := fun w hw => mem_hopeful.1 hw
  by_cases hfit : nEl s5 + nHop s5 ≤ s5.seats
  · rw [foldElectOrDefeat_fit A _ hnd hg5.1.wf hw hfit]
    obtain ⟨_, a6, _⟩ := foldElectAll A hg5 s5.hopeful "Elect remaining" hnd hw
    obtain ⟨w1, _⟩ := countsS_foldElect (S := S) A hg5.1.wf s5.hopeful "Elect remaining" false hnd hw
    have := hopS_le_nHop (S := S) (s5.hopeful.foldl (fun acc c => acc.elect A c.cid "Elect remaining" false) s5)
    unfold nHop at a6 this
    omega
  · -- the seats are all taken
    have hfl : s.seats ≤ nEl s := by
      unfold stdGuard St.seatsLeft at hguard
      simp only [Bool.and_eq_false_iff, decide_eq_false_iff_not, not_lt] at hguard
      unfold nHop nEl at *
      rcases hguard with h1 | h1 <;> omega
    exact ((hfull hfl).trans (le_of_eq v2.symm)).trans (elS_le_foldElectOrDefeat A hg5.1.wf _ hnd hw)

/-- **C05, wigm / wigm-prf with single exclusions** -/
theorem wigm_coalition (hA : LawfulArith A) (hqc : QuotaComplete A) (hu : 0 ≤ u) (hlow : RewLower A u (rewMulDiv A))
    (o : WigmOpts) (hz : o.batchZero = false) (hnb : o.prfBatch = false) (hex : o.prf = true → A.exact = false)
    (s0 t : St α) (h0 : GStart A (wigmQuota A o s0) s0) (hc : CStart A S m kk k u (wigmQuota A o s0) s0)
    (h : wigmCount A o s0 = some t) (hcr : t.crash = none) : kk ≤ elS S t := by
  rw [wigmCount_eq] at h
  obtain ⟨s4, hl, rfl⟩ := Option.map_eq_some_iff.1 h
  obtain ⟨hg4, halive, hfull⟩ := CInv.loop A hA hu hc (GInv.wigmInit A hA o h0) _ (wigmBody A o) _
    (fun s hG hC hq hg => ⟨(wigmBody_spec A hA o hz hex hG hg).1,
      CInv.wigmBody A hA hqc hu hlow hc.kk_le o hz hnb hex hG.inv hC hq, ((stepRel_frame A).wigmBody o s).1⟩) hl
  rw [epilogue_crash] at hcr
  -- the single-exclusion configurations never leave the loop by `break`
  exact epilogue_elS A hg4 (loopN_exit_guard stdGuard _ (wigmBody_cont A o ⟨hz, hnb⟩) _ _ _ hl hcr) halive hfull

end Droop
