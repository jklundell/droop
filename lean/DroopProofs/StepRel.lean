import DroopProofs.Loop

/-! # Relations that every step of a Gregory count respects

Several facts of the form "between the state a step starts in and the state it ends in, such-and-such is kept" (the log
only grows; quota, seats and ballot count stay; the round counter never goes back) hold for one reason: the relation is
reflexive, transitive, and respected by the handful of primitive writes every rule is built from. `StepRel` names that
reason; this file walks the moves the rules share, the wigm round, the common epilogue and the fuelled loop for any such
relation. -/
namespace Droop
variable {α : Type} (A : Arith α)

theorem wigmCount_eq (o : WigmOpts) (s0 : St α) :
    wigmCount A o s0
      = (loopN stdGuard (wigmBody A o) (2 * s0.cands.length + 3) (wigmInit A o s0)).map (epilogueElectOrDefeat A) := by
  unfold wigmCount
  cases loopN stdGuard (wigmBody A o) (2 * s0.cands.length + 3) (wigmInit A o s0) <;> rfl

theorem scotCount_eq (s0 : St α) :
    scotCount A s0 = (loopN (fun _ => true) (scotBody A) (2 * s0.cands.length + 3) (scotInit A s0)).map (scotEpilogue A) := by
  unfold scotCount
  cases loopN (fun _ => true) (scotBody A) (2 * s0.cands.length + 3) (scotInit A s0) <;> rfl

theorem mplsCount_eq (s0 : St α) :
    mplsCount A s0 = (loopN (fun _ => true) (mplsBody A) (2 * s0.cands.length + 4) (mplsInit A s0)).map (mplsEpilogue A) := by
  unfold mplsCount
  cases loopN (fun _ => true) (mplsBody A) (2 * s0.cands.length + 4) (mplsInit A s0) <;> rfl

structure StepRel (R : St α → St α → Prop) : Prop where
  refl : ∀ s, R s s
  trans : ∀ {s t u}, R s t → R t u → R s u
  logAct : ∀ s tag verb subj, R s (s.logAct A tag verb subj)
  upd : ∀ s cid f, (∀ c, (f c).cid = c.cid) → R s (s.upd cid f)
  setCrash : ∀ s k, R s (s.setCrash k)
  setSurplus : ∀ s v, R s (s.setSurplus v)
  nextRound : ∀ s : St α, R s { s with round := s.round + 1 }
  transferAll : ∀ s cids rew, R s (Droop.transferAll A s cids rew)

namespace StepRel
variable {A} {R : St α → St α → Prop} (hR : StepRel A R)
include hR

theorem foldl {β : Type} (f : St α → β → St α) (hf : ∀ s x, R s (f s x)) (l : List β) (s : St α) : R s (l.foldl f s) := by
  induction l generalizing s with
  | nil => exact hR.refl s
  | cons x xs ih => exact hR.trans (hf s x) (ih _)

theorem newRound (s : St α) : R s (s.newRound A) := hR.trans (hR.nextRound s) (hR.logAct _ _ _ _)
theorem elect (s : St α) (cid : Nat) (verb : String) (p : Bool) : R s (s.elect A cid verb p) :=
  hR.trans (hR.upd s cid _ (by intro _; rfl)) (hR.logAct _ _ _ _)
theorem defeat (s : St α) (cid : Nat) (verb : String) : R s (s.defeat A cid verb) :=
  hR.trans (hR.upd s cid _ (by intro _; rfl)) (hR.logAct _ _ _ _)
theorem unpendLog (s : St α) (cid : Nat) (verb : String) : R s (s.unpendLog A cid verb) :=
  hR.trans (hR.upd s cid _ (by intro _; rfl)) (hR.logAct _ _ _ _)

theorem unpendSilent (s : St α) (cid : Nat) : R s (s.unpendSilent cid) := hR.upd s cid _ (by intro _; rfl)
theorem setVote (s : St α) (cid : Nat) (v : α) : R s (s.setVote cid v) := hR.upd s cid _ (by intro _; rfl)

theorem foldElect (l : List (Cand α)) (verb : Cand α → String) (p : Cand α → Bool) (s : St α) :
    R s (l.foldl (fun acc c => acc.elect A c.cid (verb c) (p c)) s) :=
  hR.foldl (fun (acc : St α) (c : Cand α) => acc.elect A c.cid (verb c) (p c)) (fun t c => hR.elect t c.cid _ _) l s
theorem foldDefeat (l : List (Cand α)) (verb : Cand α → String) (s : St α) :
    R s (l.foldl (fun acc c => acc.defeat A c.cid (verb c)) s) :=
  hR.foldl (fun (acc : St α) (c : Cand α) => acc.defeat A c.cid (verb c)) (fun t c => hR.defeat t c.cid _) l s
theorem foldUnpend (l : List (Cand α)) (s : St α) : R s (l.foldl (fun acc c => acc.unpendSilent c.cid) s) :=
  hR.foldl (fun (acc : St α) (c : Cand α) => acc.unpendSilent c.cid) (fun t c => hR.upd t c.cid _ (by intro _; rfl)) l s

theorem electWinners (hasQ : St α → Cand α → Bool) (pend : St α → Cand α → Bool) (verb : St α → Cand α → String)
    (s : St α) : R s (Droop.electWinners A hasQ pend verb s) :=
  hR.foldElect _ (verb s) (pend s) s

theorem transferSurplus (s : St α) (hc : Cand α) (rew : α → α → α → α) (verb : String) :
    R s (Droop.transferSurplus A s hc rew verb) :=
  hR.trans (hR.transferAll s _ _) (hR.trans (hR.upd _ _ _ (by intro _; rfl)) (hR.logAct _ _ _ _))

theorem transferDefeated (s : St α) (cids : List Nat) (verb : String) : R s (Droop.transferDefeated A s cids verb) :=
  hR.trans (hR.transferAll s _ _) (hR.trans
    (hR.foldl (fun (acc : St α) (c : Nat) => acc.setVote c A.zero) (fun t c => hR.upd t c _ (by intro _; rfl)) cids _) (hR.logAct _ _ _ _))

theorem breakTie (s : St α) (tied : List (Cand α)) (verb : String) : R s (Droop.breakTie A s tied verb).1 := by
  unfold Droop.breakTie
  split
  · exact hR.setCrash s _
  · exact hR.refl s
  · exact hR.logAct s _ _ _

/-- a fuelled loop relates its start to what it returns, given that every round does -/
theorem loopN (guard : St α → Bool) (body : St α → St α × Flow) (hb : ∀ s, R s (body s).1)
    (fuel : Nat) (s t : St α) (h : Droop.loopN guard body fuel s = some t) : R s t :=
  loopN_rel (fun _ => True) R hR.refl hR.trans (fun _ _ _ _ => trivial) (fun s _ _ => hb s) fuel s t trivial h

theorem wigmSurplusStep (s : St α) : R s (Droop.wigmSurplusStep A s) := by
  unfold Droop.wigmSurplusStep
  split
  · exact hR.refl s
  · rename_i hv _
    have hb := hR.breakTie s (s.pendingL.filter (fun c => A.eq c.vote hv)) "Break tie (surplus)"
    split
    · rename_i s1 hc heq
      rw [heq] at hb
      exact hR.trans hb (hR.trans (hR.unpendLog _ _ _) (hR.transferSurplus _ _ _ _))
    · rename_i s1 heq
      rw [heq] at hb; exact hb

theorem wigmDefeatStep (o : WigmOpts) (s : St α) : R s (Droop.wigmDefeatStep A o s) := by
  unfold Droop.wigmDefeatStep
  split
  · exact hR.refl s
  · rename_i lv _
    dsimp only
    split
    · exact hR.trans (hR.foldDefeat _ (fun _ => _) s)
        (hR.foldl (fun (acc : St α) (c : Cand α) => Droop.transferDefeated A acc [c.cid] "Transfer defeated")
          (fun t c => hR.transferDefeated t _ _) _ _)
    · have hb := hR.breakTie s (s.hopeful.filter (fun c => A.eq c.vote lv)) "Break tie (defeat)"
      split
      · rename_i s1 lc heq
        rw [heq] at hb
        exact hR.trans hb (hR.trans (hR.defeat _ _ _) (hR.transferDefeated _ _ _))
      · rename_i s1 heq
        rw [heq] at hb; exact hb

theorem wigmBatchStep (s : St α) (sure : List (Cand α)) : R s (Droop.wigmBatchStep A s sure).1 := by
  have h1 : R s (wigmDefeatSure A s sure) := hR.foldDefeat _ (fun _ => _) s
  unfold Droop.wigmBatchStep
  split
  · exact h1
  · exact hR.trans h1 (hR.transferDefeated _ _ _)

theorem wigmAfterElect (o : WigmOpts) (s : St α) : R s (Droop.wigmAfterElect A o s).1 := by
  unfold Droop.wigmAfterElect
  split
  · exact hR.wigmBatchStep s _
  · split
    · exact hR.wigmSurplusStep s
    · split
      · exact hR.wigmDefeatStep o s
      · exact hR.refl s

theorem wigmBody (o : WigmOpts) (s : St α) : R s (Droop.wigmBody A o s).1 :=
  hR.trans (hR.newRound s) (hR.trans (hR.electWinners _ _ _ _) (hR.wigmAfterElect o _))

theorem epilogue (s : St α) : R s (epilogueElectOrDefeat A s) := by
  unfold epilogueElectOrDefeat
  dsimp only
  refine hR.trans (hR.foldUnpend s.pendingL s) (hR.foldl _ ?_ _ _)
  intro acc c
  split
  · exact hR.elect _ _ _ _
  · exact hR.defeat _ _ _

theorem wigmCount (o : WigmOpts) (s0 t : St α) (h : Droop.wigmCount A o s0 = some t) : R (wigmInit A o s0) t := by
  rw [wigmCount_eq] at h
  obtain ⟨s4, hl, rfl⟩ := Option.map_eq_some_iff.1 h
  exact hR.trans (hR.loopN _ _ (hR.wigmBody o) _ _ _ hl) (hR.epilogue s4)

end StepRel
end Droop
