import DroopProofs.GuardedLaws
import DroopProofs.Lawful

/-! # The Guarded and Rational arithmetics are lawful too -/
namespace Droop

theorem guarded_lawful (p g : Nat) : LawfulArith (guardedArith p g) := by
  have hS := pow10_pos (p + g)
  refine
    { add_eq := fun _ _ => rfl, sub_eq := fun _ _ => rfl, zero_eq := rfl, one_pos := hS,
      ofInt_eq := fun n => by simp [guardedArith],
      mulV_ofInt := ?_,
      rew_nonneg := fun w s v hw hs hv => rewInt_nonneg (pow10 (p + g)) w s v hS hw hs hv,
      rew_le := fun w s v _ _ hv => rewInt_le (pow10 (p + g)) w s v hS hv,
      muldiv_nonneg := ?_, muldiv_le := ?_, ge_sound := ?_, gt_sound := ?_ }
  · intro w m
    show pdiv (w * (m * pow10 (p + g))) (pow10 (p + g)) = w * m
    rw [← mul_assoc]; exact pdiv_mul_cancel _ _ hS
  -- `muldiv` is asked to round down; with guard digits it rounds down whatever it is asked
  · intro w s v hw hs hv
    show 0 ≤ divmodRound (if g == 0 then Round.down else Round.down) (w * s) v
    rw [ite_self]
    exact divmodRound_down_nonneg _ v (mul_nonneg hw hs) hv
  · intro w s v _ _ hv
    show divmodRound (if g == 0 then Round.down else Round.down) (w * s) v * v ≤ w * s
    rw [ite_self]
    exact divmodRound_down_mul_le _ v hv
  -- `exact = false` means no guard digits: the comparison is Fixed's
  · intro a b hex h
    have hg : g = 0 := by simpa [guardedArith] using hex
    subst hg
    rw [guarded_g0_eq_fixed] at h
    exact of_decide_eq_true ((fixed_ge p a b).symm.trans h)
  · intro a b h
    have := (guarded_gt_iff p g a b).1 h
    have := geps_pos g
    omega

theorem rational_lawful : LawfulArith rationalArith := by
  -- `(w * s) / v` and `muldiv w s v` are the same exact quotient
  have nonneg : ∀ w s v : ℚ, 0 ≤ w → 0 ≤ s → 0 < v → 0 ≤ (if (v == 0) = true then 0 else w * s / v) := by
    intro w s v hw hs hv
    rw [if_neg (by simpa using ne_of_gt hv)]
    exact div_nonneg (mul_nonneg hw hs) (le_of_lt hv)
  have le : ∀ w s v : ℚ, 0 ≤ w → 0 ≤ s → 0 < v → (if (v == 0) = true then 0 else w * s / v) * v ≤ w * s := by
    intro w s v _ _ hv
    rw [if_neg (by simpa using ne_of_gt hv), div_mul_cancel₀ _ (ne_of_gt hv)]
  refine
    { add_eq := fun _ _ => rfl, sub_eq := fun _ _ => rfl, zero_eq := rfl, one_pos := by simp [rationalArith],
      ofInt_eq := fun n => by simp [rationalArith],
      mulV_ofInt := fun w m => rfl, rew_nonneg := nonneg, rew_le := le, muldiv_nonneg := nonneg, muldiv_le := le,
      ge_sound := ?_, gt_sound := ?_ }
  · intro a b hex _
    simp [rationalArith] at hex
  · intro a b h
    simp only [Arith.gt, rationalArith, ratCmp] at h
    by_contra hle
    have hle' : a ≤ b := not_lt.1 hle
    by_cases h1 : a < b
    · simp [h1] at h
    · have hab : a = b := le_antisymm hle' (not_lt.1 h1)
      simp [hab] at h

end Droop
