import DroopModel.Gregory

/-! # What a ballot transfer cannot change

`TallyBlind π` / `TransferBlind π`: a reading `π` of the state that crediting votes / moving ballots leaves alone — every field
of `St` but `cands`, `ballots`, `exhausted`, and the skeleton `St.skel` (ids, statuses, pending flags).  `moveBallot` is what
`transferAll` does to one ballot. -/
namespace Droop
variable {α : Type} (A : Arith α)

/-- the part of a candidate that transfers never touch -/
def Cand.skel (c : Cand α) : Nat × Nat × Nat × Bool × CState × Bool := (c.cid, c.order, c.tie, c.undeclared, c.st, c.pending)
def St.skel (s : St α) : List (Nat × Nat × Nat × Bool × CState × Bool) := s.cands.map Cand.skel

@[simp] theorem upd_vote_skel (s : St α) (cid : Nat) (g : Cand α → α) :
    (s.upd cid (fun c => { c with vote := g c })).skel = s.skel := by
  unfold St.skel St.upd
  simp only [List.map_map]
  apply List.map_congr_left
  intro c _
  simp only [Function.comp]
  split <;> rfl

@[simp] theorem addVote_skel (s : St α) (cid : Nat) (v : α) : (s.addVote A cid v).skel = s.skel :=
  upd_vote_skel s cid _
@[simp] theorem setVote_skel (s : St α) (cid : Nat) (v : α) : (s.setVote cid v).skel = s.skel :=
  upd_vote_skel s cid _

theorem isHopeful_of_skel {s t : St α} (h : s.skel = t.skel) (cid : Nat) : s.isHopeful cid = t.isHopeful cid := by
  unfold St.isHopeful
  have : ∀ (l : List (Cand α)), l.any (fun c => c.cid == cid && c.st == .hopeful)
      = (l.map Cand.skel).any (fun k => k.1 == cid && k.2.2.2.2.1 == .hopeful) := by
    intro l; induction l with
    | nil => rfl
    | cons c cs ih => simp [List.any_cons, ih, Cand.skel]
  rw [this, this]
  unfold St.skel at h
  rw [h]

theorem foldl_proj {β γ : Type} (π : St α → γ) (f : St α → β → St α) (hf : ∀ s x, π (f s x) = π s) (l : List β) (s : St α) :
    π (l.foldl f s) = π s := by
  induction l generalizing s with
  | nil => rfl
  | cons x xs ih => rw [List.foldl_cons, ih, hf]

/-- A reading of the state that looks at no tally: crediting votes to a candidate cannot change it. -/
structure TallyBlind {β : Type} (π : St α → β) : Prop where
  vote : ∀ (s : St α) (cid : Nat) (g : Cand α → α), π (s.upd cid (fun c => { c with vote := g c })) = π s

/-- A reading of the state that ballot transfers cannot change: it looks at no tally, at no ballot and not at the
    exhausted pile.  Every field of `St` other than `cands`, `ballots`, `exhausted` is one, and so is the skeleton. -/
structure TransferBlind {β : Type} (π : St α → β) : Prop extends TallyBlind π where
  exhausted : ∀ (s : St α) (e : α), π { s with exhausted := e } = π s
  ballots : ∀ (s : St α) (bs : List (Ballot α)), π { s with ballots := bs } = π s

namespace TallyBlind
variable {A} {β : Type} {π : St α → β} (h : TallyBlind π)
include h

theorem addVote (s : St α) (cid : Nat) (v : α) : π (s.addVote A cid v) = π s := h.vote s cid _
theorem setVote (s : St α) (cid : Nat) (v : α) : π (s.setVote cid v) = π s := h.vote s cid _

theorem foldl_setVote (cids : List Nat) (v : α) (s : St α) : π (cids.foldl (fun acc c => acc.setVote c v) s) = π s := by
  induction cids generalizing s with
  | nil => rfl
  | cons c cs ih => rw [List.foldl_cons, ih, h.setVote]

theorem foldl_firstStep (bs : List (Ballot α)) (s : St α) :
    π (bs.foldl (fun s b => match b.top with
                            | some c => s.addVote A c (bvote A b)
                            | none => s) s) = π s := by
  induction bs generalizing s with
  | nil => rfl
  | cons b bs ih =>
    rw [List.foldl_cons, ih]
    split
    · exact h.addVote _ _ _
    · rfl

theorem firstCount (s : St α) : π (firstCount A s) = π s := h.foldl_firstStep s.ballots s

end TallyBlind

namespace TransferBlind
variable {A} {β : Type} {π : St α → β} (h : TransferBlind π)
include h

theorem transferBallot (s : St α) (b : Ballot α) : π (transferBallot A s b).1 = π s := by
  unfold Droop.transferBallot
  split
  · exact h.addVote _ _ _
  · exact h.exhausted _ _

theorem tstep (cids : List Nat) (rew : α → α) (acc : St α × List (Ballot α)) (b : Ballot α) :
    π (tstep A cids rew acc b).1 = π acc.1 := by
  unfold Droop.tstep
  split
  · split
    · exact h.transferBallot _ _
    · rfl
  · rfl

theorem foldl_tstep (cids : List Nat) (rew : α → α) (bs : List (Ballot α)) (acc : St α × List (Ballot α)) :
    π (bs.foldl (Droop.tstep A cids rew) acc).1 = π acc.1 := by
  induction bs generalizing acc with
  | nil => rfl
  | cons b bs ih => rw [List.foldl_cons, ih, h.tstep]

theorem transferAll (s : St α) (cids : List Nat) (rew : α → α) : π (transferAll A s cids rew) = π s :=
  (h.ballots _ _).trans (h.foldl_tstep cids rew s.ballots (s, []))

end TransferBlind

theorem TallyBlind.ballots : TallyBlind (α := α) St.ballots := ⟨fun _ _ _ => rfl⟩
theorem TallyBlind.exhausted : TallyBlind (α := α) St.exhausted := ⟨fun _ _ _ => rfl⟩
theorem TransferBlind.skel : TransferBlind (α := α) St.skel := ⟨⟨upd_vote_skel⟩, fun _ _ => rfl, fun _ _ => rfl⟩
theorem TransferBlind.acts : TransferBlind (α := α) St.acts := ⟨⟨fun _ _ _ => rfl⟩, fun _ _ => rfl, fun _ _ => rfl⟩
theorem TransferBlind.crash : TransferBlind (α := α) St.crash := ⟨⟨fun _ _ _ => rfl⟩, fun _ _ => rfl, fun _ _ => rfl⟩
theorem TransferBlind.round : TransferBlind (α := α) St.round := ⟨⟨fun _ _ _ => rfl⟩, fun _ _ => rfl, fun _ _ => rfl⟩
theorem TransferBlind.rounds : TransferBlind (α := α) St.rounds := ⟨⟨fun _ _ _ => rfl⟩, fun _ _ => rfl, fun _ _ => rfl⟩
theorem TransferBlind.seats : TransferBlind (α := α) St.seats := ⟨⟨fun _ _ _ => rfl⟩, fun _ _ => rfl, fun _ _ => rfl⟩
theorem TransferBlind.nballots : TransferBlind (α := α) St.nballots := ⟨⟨fun _ _ _ => rfl⟩, fun _ _ => rfl, fun _ _ => rfl⟩
theorem TransferBlind.quota : TransferBlind (α := α) St.quota := ⟨⟨fun _ _ _ => rfl⟩, fun _ _ => rfl, fun _ _ => rfl⟩
theorem TransferBlind.method : TransferBlind (α := α) St.method := ⟨⟨fun _ _ _ => rfl⟩, fun _ _ => rfl, fun _ _ => rfl⟩

theorem tstep_skel (cids : List Nat) (rew : α → α) (acc : St α × List (Ballot α)) (b : Ballot α) :
    (tstep A cids rew acc b).1.skel = acc.1.skel := TransferBlind.skel.tstep cids rew acc b
theorem transferAll_skel (s : St α) (cids : List Nat) (rew : α → α) :
    (transferAll A s cids rew).skel = s.skel := TransferBlind.skel.transferAll s cids rew

/-- the ballot after transfer depends on the state only through its skeleton -/
theorem transferBallot_snd (s : St α) (b : Ballot α) :
    (transferBallot A s b).2 = advanceTo (fun cid => s.isHopeful cid) b := by
  unfold transferBallot
  split <;> rfl

/-- what `transferAll` does to one ballot, stated without the fold -/
def moveBallot (s : St α) (cids : List Nat) (rew : α → α) (b : Ballot α) : Ballot α :=
  match b.top with
  | some c => if cids.contains c then advanceTo (fun cid => s.isHopeful cid) { b with w := rew b.w } else b
  | none => b

theorem tstep_snd (cids : List Nat) (rew : α → α) (s : St α) (acc : St α × List (Ballot α)) (b : Ballot α)
    (h : acc.1.skel = s.skel) :
    (tstep A cids rew acc b).2 = moveBallot s cids rew b :: acc.2 := by
  unfold tstep moveBallot
  cases hb : b.top with
  | none => rfl
  | some c =>
    by_cases hc : cids.contains c = true
    · simp only [hc, if_true, transferBallot_snd]
      have : (fun cid => acc.1.isHopeful cid) = (fun cid => s.isHopeful cid) := by
        funext cid; exact isHopeful_of_skel h cid
      rw [this]
    · simp only [hc]
      rfl

theorem foldl_tstep_snd (cids : List Nat) (rew : α → α) (s : St α) (bs : List (Ballot α))
    (acc : St α × List (Ballot α)) (h : acc.1.skel = s.skel) :
    (bs.foldl (tstep A cids rew) acc).2 = (bs.map (moveBallot s cids rew)).reverse ++ acc.2 := by
  induction bs generalizing acc with
  | nil => simp
  | cons b bs ih =>
    simp only [List.foldl_cons, List.map_cons, List.reverse_cons, List.append_assoc, List.singleton_append]
    rw [ih _ (by rw [tstep_skel]; exact h), tstep_snd A cids rew s acc b h]

theorem transferAll_ballots (s : St α) (cids : List Nat) (rew : α → α) :
    (transferAll A s cids rew).ballots = s.ballots.map (moveBallot s cids rew) := by
  have := foldl_tstep_snd A cids rew s s.ballots (s, []) rfl
  simp [transferAll, this]

end Droop
