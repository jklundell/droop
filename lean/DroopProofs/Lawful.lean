import DroopProofs.FixedLaws
import DroopProofs.Tally

/-! # LawfulArith: what the counting proofs need from an arithmetic; Fixed is lawful -/
namespace Droop

/-- the facts about an arithmetic dictionary used by the Gregory invariants -/
structure LawfulArith {α : Type} [CommRing α] [LinearOrder α] [IsStrictOrderedRing α] (A : Arith α) : Prop where
  add_eq : ∀ a b, A.add a b = a + b
  sub_eq : ∀ a b, A.sub a b = a - b
  zero_eq : A.zero = 0
  one_pos : 0 < A.one
  ofInt_eq : ∀ n : Int, A.ofInt n = (n : α) * A.one
  /-- weight × multiplier is exact -/
  mulV_ofInt : ∀ (w : α) (m : Int), A.mulV w (A.ofInt m) = w * (m : α)
  /-- surplus re-weighting `(w * s) / v` never rounds up and never goes negative -/
  rew_nonneg : ∀ w s v : α, 0 ≤ w → 0 ≤ s → 0 < v → 0 ≤ A.divV (A.mulV w s) v
  rew_le : ∀ w s v : α, 0 ≤ w → 0 ≤ s → 0 < v → A.divV (A.mulV w s) v * v ≤ w * s
  muldiv_nonneg : ∀ w s v : α, 0 ≤ w → 0 ≤ s → 0 < v → 0 ≤ A.muldiv .down w s v
  muldiv_le : ∀ w s v : α, 0 ≤ w → 0 ≤ s → 0 < v → A.muldiv .down w s v * v ≤ w * s
  /-- `>=` as `hasQuota` uses it when the arithmetic is not exact (Fixed; Guarded only without guard digits, where there is no tolerance) -/
  ge_sound : ∀ a b, A.exact = false → A.ge a b = true → b ≤ a
  gt_sound : ∀ a b, A.gt a b = true → b < a

theorem lawfulAdd_of {α : Type} [CommRing α] [LinearOrder α] [IsStrictOrderedRing α] {A : Arith α}
    (h : LawfulArith A) : LawfulAdd A := ⟨h.add_eq, h.sub_eq, h.zero_eq⟩

/-! Fixed and Guarded compute on integers scaled by `S = 10^p` (`10^(p+g)`): a product is `(w * s) // S`, a quotient `(a * S) // v`,
and `muldiv` one floor division. The four inequalities below are what `LawfulArith` asks of them, for any positive `S`. -/

theorem rewInt_nonneg (S w s v : Int) (hS : 0 < S) (hw : 0 ≤ w) (hs : 0 ≤ s) (hv : 0 < v) :
    0 ≤ (if (v == 0) = true then 0 else pdiv (pdiv (w * s) S * S) v) := by
  rw [if_neg (by simpa using ne_of_gt hv)]
  exact pdiv_nonneg _ _ (mul_nonneg (pdiv_nonneg _ _ (mul_nonneg hw hs) hS) (le_of_lt hS)) hv

theorem rewInt_le (S w s v : Int) (hS : 0 < S) (hv : 0 < v) :
    (if (v == 0) = true then 0 else pdiv (pdiv (w * s) S * S) v) * v ≤ w * s := by
  rw [if_neg (by simpa using ne_of_gt hv)]
  exact le_trans (pdiv_mul_le _ _ hv) (pdiv_mul_le _ _ hS)

theorem divmodRound_down_nonneg (n v : Int) (hn : 0 ≤ n) (hv : 0 < v) : 0 ≤ divmodRound .down n v := by
  have hv0 : (v == 0) = false := by simpa using ne_of_gt hv
  simp only [divmodRound, hv0, Bool.false_eq_true, if_false]
  exact pdiv_nonneg _ _ hn hv

theorem divmodRound_down_mul_le (n v : Int) (hv : 0 < v) : divmodRound .down n v * v ≤ n := by
  have hv0 : (v == 0) = false := by simpa using ne_of_gt hv
  simp only [divmodRound, hv0, Bool.false_eq_true, if_false]
  exact pdiv_mul_le _ _ hv

theorem fixed_lawful (p : Nat) : LawfulArith (fixedArith p) := by
  have hS := pow10_pos p
  refine
    { add_eq := fun _ _ => rfl, sub_eq := fun _ _ => rfl, zero_eq := rfl, one_pos := hS,
      ofInt_eq := fun n => by simp [fixedArith],
      mulV_ofInt := ?_,
      rew_nonneg := fun w s v hw hs hv => rewInt_nonneg (pow10 p) w s v hS hw hs hv,
      rew_le := fun w s v _ _ hv => rewInt_le (pow10 p) w s v hS hv,
      muldiv_nonneg := fun w s v hw hs hv => divmodRound_down_nonneg _ v (mul_nonneg hw hs) hv,
      muldiv_le := fun w s v _ _ hv => divmodRound_down_mul_le _ v hv,
      ge_sound := fun a b _ h => of_decide_eq_true (fixed_ge p a b ▸ h),
      gt_sound := fun a b h => of_decide_eq_true (fixed_gt p a b ▸ h) }
  intro w m
  show pdiv (w * (m * pow10 p)) (pow10 p) = w * m
  rw [← mul_assoc]; exact pdiv_mul_cancel _ _ hS

end Droop
