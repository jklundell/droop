import DroopProofs.PyInt

/-! # C12: Fixed computes the exact result rounded toward minus infinity (or one unit up), and compares the stored integers -/
namespace Droop
open Int

/-- the rational number denoted by a Fixed value with `_value = a` at precision `p` -/
def toRatF (p : Nat) (a : Int) : ℚ := (a : ℚ) / (pow10 p : ℚ)

theorem pow10_ne_zero (p : Nat) : (pow10 p : ℚ) ≠ 0 := by
  have := pow10_pos p
  exact_mod_cast (ne_of_gt this)

theorem pow10_posQ (p : Nat) : (0 : ℚ) < (pow10 p : ℚ) := by exact_mod_cast pow10_pos p

theorem fixed_ofInt (p : Nat) (n : Int) : toRatF p ((fixedArith p).ofInt n) = n := by
  simp only [fixedArith, toRatF]
  push_cast
  exact mul_div_cancel_right₀ _ (pow10_ne_zero p)

theorem fixed_add (p : Nat) (a b : Int) : toRatF p ((fixedArith p).add a b) = toRatF p a + toRatF p b := by
  simp [fixedArith, toRatF]; ring

theorem fixed_sub (p : Nat) (a b : Int) : toRatF p ((fixedArith p).sub a b) = toRatF p a - toRatF p b := by
  simp [fixedArith, toRatF]; ring

/-- `a * b` : exact product rounded down to p places -/
theorem fixed_mulV_floor (p : Nat) (a b : Int) :
    (fixedArith p).mulV a b = ⌊toRatF p a * toRatF p b * (pow10 p : ℚ)⌋ := by
  have h := pdiv_eq_floor (a * b) (pow10 p) (ne_of_gt (pow10_pos p))
  simp only [fixedArith]
  rw [h]
  congr 1
  unfold toRatF
  have := pow10_ne_zero p
  push_cast
  field_simp

/-- `a / b` : exact quotient rounded down to p places -/
theorem fixed_divV_floor (p : Nat) (a b : Int) (hb : b ≠ 0) :
    (fixedArith p).divV a b = ⌊toRatF p a / toRatF p b * (pow10 p : ℚ)⌋ := by
  have h := pdiv_eq_floor (a * pow10 p) b hb
  simp only [fixedArith, beq_iff_eq, hb, if_false]
  rw [h]
  congr 1
  unfold toRatF
  have := pow10_ne_zero p
  have hbq : (b : ℚ) ≠ 0 := by exact_mod_cast hb
  push_cast
  field_simp

/-- rounding requested explicitly: down = floor; up = floor, plus one unit iff the result is inexact -/
theorem divmodRound_down (num den : Int) (hd : den ≠ 0) :
    divmodRound .down num den = ⌊(num : ℚ) / (den : ℚ)⌋ := by
  simp [divmodRound, hd, pdiv_eq_floor num den hd]

theorem divmodRound_up (num den : Int) (hd : den ≠ 0) :
    divmodRound .up num den =
      if ((⌊(num : ℚ) / (den : ℚ)⌋ : ℤ) : ℚ) = (num : ℚ) / (den : ℚ) then ⌊(num : ℚ) / (den : ℚ)⌋
      else ⌊(num : ℚ) / (den : ℚ)⌋ + 1 := by
  have hz := pmod_eq_zero_iff num den hd
  rw [pdiv_eq_floor num den hd] at hz
  by_cases h : pmod num den = 0
  · have := hz.1 h
    simp [divmodRound, hd, h, this, pdiv_eq_floor num den hd]
  · have hne : ¬ ((⌊(num : ℚ) / (den : ℚ)⌋ : ℤ) : ℚ) = (num : ℚ) / (den : ℚ) := fun e => h (hz.2 e)
    simp [divmodRound, hd, h, hne, pdiv_eq_floor num den hd]

theorem fixed_mul_down (p : Nat) (a b : Int) : (fixedArith p).mul .down a b = pdiv (a * b) (pow10 p) := by
  have hS : pow10 p ≠ 0 := ne_of_gt (pow10_pos p)
  show divmodRound .down (a * b) (pow10 p) = _
  unfold divmodRound
  have h0 : (pow10 p == 0) = false := by simpa using hS
  simp [h0]

theorem fixed_mul_up_exact (p : Nat) : (fixedArith p).mul .up (pow10 p) (pow10 p) = pow10 p := by
  have hS := pow10_pos p
  have hS0 : pow10 p ≠ 0 := ne_of_gt hS
  show divmodRound .up (pow10 p * pow10 p) (pow10 p) = _
  unfold divmodRound
  have h0 : (pow10 p == 0) = false := by simpa using hS0
  have hm : pmod (pow10 p * pow10 p) (pow10 p) = 0 := by
    unfold pmod
    simp [Int.mul_emod_left]
  simp [h0, hm, pdiv_mul_cancel _ _ hS]

theorem intCmp_spec (a b : Int) :
    a < b ∧ intCmp a b = -1 ∨ a = b ∧ intCmp a b = 0 ∨ b < a ∧ intCmp a b = 1 := by
  unfold intCmp
  rcases lt_trichotomy a b with h | h | h
  · exact .inl ⟨h, if_pos h⟩
  · subst h; exact .inr (.inl ⟨rfl, by simp⟩)
  · exact .inr (.inr ⟨h, by rw [if_neg (by omega), if_neg (by simp; omega)]⟩)

theorem fixed_cmp_ops (p : Nat) (a b : Int) :
    (fixedArith p).eq a b = decide (a = b) ∧ (fixedArith p).lt a b = decide (a < b) ∧ (fixedArith p).le a b = decide (a ≤ b)
    ∧ (fixedArith p).gt a b = decide (a > b) ∧ (fixedArith p).ge a b = decide (a ≥ b) := by
  have hc : (fixedArith p).cmp a b = intCmp a b := rfl
  simp only [Arith.eq, Arith.lt, Arith.le, Arith.gt, Arith.ge, hc]
  rcases intCmp_spec a b with ⟨h, e⟩ | ⟨h, e⟩ | ⟨h, e⟩ <;> rw [e] <;> simp <;> omega

theorem fixed_eq (p : Nat) (a b : Int) : (fixedArith p).eq a b = decide (a = b) := (fixed_cmp_ops p a b).1
theorem fixed_lt (p : Nat) (a b : Int) : (fixedArith p).lt a b = decide (a < b) := (fixed_cmp_ops p a b).2.1
theorem fixed_le (p : Nat) (a b : Int) : (fixedArith p).le a b = decide (a ≤ b) := (fixed_cmp_ops p a b).2.2.1
theorem fixed_gt (p : Nat) (a b : Int) : (fixedArith p).gt a b = decide (a > b) := (fixed_cmp_ops p a b).2.2.2.1
theorem fixed_ge (p : Nat) (a b : Int) : (fixedArith p).ge a b = decide (a ≥ b) := (fixed_cmp_ops p a b).2.2.2.2

/-- Python's builtin `min` / `max` over a comparison `sel y m` ("`y` goes before `m`") that implies the order `le`, is irreflexive and
    still holds of a reference further on: the fold returns a member that is not after the first one and that no member goes before.
    (`le := (· ≥ ·)` for `max`.) -/
theorem foldl_pick_spec {β : Type} (le : β → β → Prop) (hr : ∀ a, le a a) (ht : ∀ a b c, le a b → le b c → le a c)
    (sel : β → β → Bool) (h1 : ∀ y m, sel y m = true → le y m)
    (h2 : ∀ y m m', sel y m' = true → le m' m → sel y m = true) (h3 : ∀ y, sel y y = false) (l : List β) (x : β) :
    le (l.foldl (fun m y => if sel y m then y else m) x) x ∧ l.foldl (fun m y => if sel y m then y else m) x ∈ x :: l
    ∧ ∀ y ∈ l, sel y (l.foldl (fun m y => if sel y m then y else m) x) = false := by
  induction l generalizing x with
  | nil => exact ⟨hr _, by simp, fun y hy => nomatch hy⟩
  | cons a as ih =>
    obtain ⟨i1, i2, i3⟩ := ih (if sel a x then a else x)
    rw [List.foldl_cons]
    by_cases ha : sel a x = true
    · rw [if_pos ha] at i1 i2 i3 ⊢
      refine ⟨ht _ _ _ i1 (h1 _ _ ha), ?_, ?_⟩
      · rcases List.mem_cons.1 i2 with e | e
        · rw [e]; simp
        · exact List.mem_cons_of_mem _ (List.mem_cons_of_mem _ e)
      · intro y hy
        rcases List.mem_cons.1 hy with rfl | hy
        -- the new reference itself: were it before the result, it would be before itself
        · exact Bool.eq_false_iff.2 fun hc => absurd (h2 _ _ _ hc i1) (by rw [h3]; exact Bool.false_ne_true)
        · exact i3 y hy
    · rw [if_neg ha] at i1 i2 i3 ⊢
      refine ⟨i1, ?_, ?_⟩
      · rcases List.mem_cons.1 i2 with e | e
        · rw [e]; simp
        · exact List.mem_cons_of_mem _ (List.mem_cons_of_mem _ e)
      · intro y hy
        rcases List.mem_cons.1 hy with rfl | hy
        · exact Bool.eq_false_iff.2 fun hc => ha (h2 _ _ _ hc i1)
        · exact i3 y hy

/-- comparisons agree with the exact values -/
theorem fixed_cmp (p : Nat) (a b : Int) :
    ((fixedArith p).cmp a b = -1 ↔ toRatF p a < toRatF p b) ∧
    ((fixedArith p).cmp a b = 0 ↔ toRatF p a = toRatF p b) ∧
    ((fixedArith p).cmp a b = 1 ↔ toRatF p a > toRatF p b) := by
  have hp := pow10_posQ p
  have key : ∀ x y : Int, toRatF p x < toRatF p y ↔ x < y := by
    intro x y; unfold toRatF
    rw [div_lt_div_iff_of_pos_right hp]; exact_mod_cast Iff.rfl
  have keq : ∀ x y : Int, toRatF p x = toRatF p y ↔ x = y := by
    intro x y; unfold toRatF
    rw [div_left_inj' (ne_of_gt hp)]; exact_mod_cast Iff.rfl
  simp only [fixedArith, intCmp, gt_iff_lt]
  rw [key, keq, key]
  refine ⟨?_, ?_, ?_⟩ <;> by_cases h1 : a < b <;> by_cases h2 : a = b <;> simp [h1, h2] <;> omega

end Droop
