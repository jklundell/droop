import DroopProofs.RunScot

/-! # CfER (cfer, cfer-batch) at run level: termination, seats, forward-only record (C01, C09) -/
namespace Droop
variable {α : Type} [CommRing α] [LinearOrder α] [IsStrictOrderedRing α] (A : Arith α)

theorem cferSurplusOne_eq {s : St α} (hwf : s.WF) (c : Cand α) (x : Cand α) (hxm : x ∈ s.cands) (hxc : x.cid = c.cid) :
    cferSurplusOne A s c = transferSurplus A (s.unpendLog A c.cid "Transfer surplus") x (rewMulDiv A) "Surplus transferred" := by
  unfold cferSurplusOne
  cases hf : s.cand? c.cid with
  | none =>
    exfalso
    have := (cand?_isSome_iff s c.cid).2 ⟨x, hxm, hxc⟩
    rw [hf] at this; cases this
  | some cur =>
    obtain ⟨hcm, hcc⟩ := cand?_mem hf
    have hcx : cur = x := nodup_cid_eq hwf hcm hxm (hcc.trans hxc.symm)
    rw [hcx]

theorem cferSurplusOne_spec (hA : LawfulArith A) {s : St α} (hE : InvE A s) (hM : Mon s) (c : Cand α)
    (hp : ∃ x ∈ s.cands, x.cid = c.cid ∧ x.st = .elected ∧ x.pending = true) :
    InvE A (cferSurplusOne A s c) ∧ Mon (cferSurplusOne A s c)
    ∧ (cferSurplusOne A s c).skel = (s.unpendLog A c.cid "Transfer surplus").skel
    ∧ Frame s (cferSurplusOne A s c) ∧ Ext s (cferSurplusOne A s c)
    ∧ mu (cferSurplusOne A s c) < mu s ∧ sumHE (cferSurplusOne A s c) = sumHE s := by
  obtain ⟨hI1, hsk⟩ := hE.1.cferSurplusOne A hA c hp
  obtain ⟨x, hxm, hxc, hxe, hxp⟩ := hp
  have huniq : ∀ y ∈ s.cands, y.cid = c.cid → y = x := fun y hy hyc => nodup_cid_eq hE.1.wf hy hxm (hyc.trans hxc.symm)
  have heq := cferSurplusOne_eq A hE.1.wf c x hxm hxc
  refine ⟨⟨hI1, ?_⟩, ?_, hsk, ?_, ?_, ?_, ?_⟩
  · rw [heq]
    have hq : (s.unpendLog A c.cid "Transfer surplus").quota ≤ x.vote := by
      unfold St.unpendLog; rw [logAct_quota]
      exact hE.1.pq x hxm hxe hxp
    exact EHQ.transferSurplus A hA (rewMulDiv A) (rewMulDiv_law A hA) (hE.1.unpendLog A c.cid _)
      (EHQ.unpendLog A hE.2 c.cid _) x _ hq
  · rw [heq]
    apply Mon.transferSurplus
    apply hM.unpendLog A
    intro y hy hyc; rw [huniq y hy hyc]; exact hxe
  · rw [heq]; exact (frame_unpendLog A _ _ _).trans ((stepRel_frame A).transferSurplus _ _ _ _)
  · rw [heq]; exact ((stepRel_ext A).unpendLog _ _ _).trans ((stepRel_ext A).transferSurplus _ _ _ _)
  · rw [mu_of_skel hsk, ← hxc]
    exact mu_unpendLog_lt A s x _ hE.1.wf hxm hxe hxp
  · rw [sumHE_of_skel hsk]
    have := counts_unpendLog A s c.cid "Transfer surplus"
    unfold sumHE; omega

theorem foldSurplus_spec (hA : LawfulArith A) (rem : List (Cand α)) {s : St α} (hE : InvE A s) (hM : Mon s)
    (hnd : (rem.map (·.cid)).Nodup) (hp : StillPending s rem) :
    InvE A (rem.foldl (cferSurplusOne A) s) ∧ Mon (rem.foldl (cferSurplusOne A) s)
    ∧ Frame s (rem.foldl (cferSurplusOne A) s) ∧ Ext s (rem.foldl (cferSurplusOne A) s)
    ∧ mu (rem.foldl (cferSurplusOne A) s) + rem.length ≤ mu s
    ∧ sumHE (rem.foldl (cferSurplusOne A) s) = sumHE s := by
  induction rem generalizing s with
  | nil => exact ⟨hE, hM, Frame.refl s, Ext.refl s, by simp, rfl⟩
  | cons c cs ih =>
    simp only [List.foldl_cons]
    simp only [List.map_cons, List.nodup_cons, List.mem_map, not_exists, not_and] at hnd
    obtain ⟨a1, a2, a3, a4, a5, a6, a7⟩ := cferSurplusOne_spec A hA hE hM c (hp c (by simp))
    obtain ⟨b1, b2, b4, b5, b6, b7⟩ := ih a1 a2 hnd.2
      (stillPending_step A c cs a3 (fun c' hc' e => hnd.1 c' hc' e) (fun c' hc' => hp c' (by simp [hc'])))
    refine ⟨b1, b2, a4.trans b4, a5.trans b5, ?_, b7.trans a7⟩
    simp only [List.length_cons]; omega

theorem cferSurplusAll_spec (hA : LawfulArith A) {s : St α} (hE : InvE A s) (hM : Mon s) :
    InvE A (cferSurplusAll A s) ∧ Mon (cferSurplusAll A s) ∧ Frame s (cferSurplusAll A s) ∧ Ext s (cferSurplusAll A s)
    ∧ mu (cferSurplusAll A s) + s.pendingL.length ≤ mu s ∧ sumHE (cferSurplusAll A s) = sumHE s := by
  unfold cferSurplusAll
  apply foldSurplus_spec A hA s.pendingL hE hM (pendingL_cids_nodup hE.1.wf)
  intro c hc
  obtain ⟨a, b, d⟩ := mem_pendingL.1 hc
  exact ⟨c, a, rfl, b, d⟩

/-- the count is over: the conservation bundle and a forward-only record hold, and unless the crash flag is up exactly
    `seats` candidates are elected and nobody is left hopeful -/
def Done (t : St α) : Prop := Good A t ∧ (t.crash = none → nEl t = t.seats ∧ nHop t = 0)

theorem Done.of_crash {t : St α} (hg : Good A t) (hc : t.crash.isSome = true) : Done A t :=
  ⟨hg, fun h => by rw [h] at hc; simp at hc⟩

theorem cferElectAll_spec {s : St α} (hg : Good A s) (h0 : nEl s = 0) (hle : nHop s ≤ s.seats) (hge : s.seats ≤ nHop s) :
    Done A (cferElectAll A s).1 ∧ Ext s (cferElectAll A s).1 := by
  unfold cferElectAll
  dsimp only
  obtain ⟨g, a, b, f, x, _, _⟩ := foldElectAll A hg s.hopeful "Elect all" (hopeful_cids_nodup hg.1.wf)
    (fun w hw => mem_hopeful.1 hw)
  refine ⟨⟨g, fun _ => ⟨?_, ?_⟩⟩, x⟩
  · show nEl _ = St.seats _
    rw [b, f.2.1]; unfold nHop at *; omega
  · unfold nHop at *; omega

theorem cferSeatsFull_spec {s : St α} (hg : Good A s) (hfull : nEl s = s.seats) :
    Done A (cferSeatsFull A s).1 ∧ Ext s (cferSeatsFull A s).1 := by
  unfold cferSeatsFull
  have hg5 := hg.foldUnpend A
  obtain ⟨u1, u2, u3⟩ := counts_foldUnpend s.pendingL s
  have hx5 : Ext s (s.pendingL.foldl (fun acc c => acc.unpendSilent c.cid) s) :=
    ext_foldl (fun (acc : St α) (c : Cand α) => acc.unpendSilent c.cid) (fun t c => (stepRel_ext A).unpendSilent t c.cid) _ _
  dsimp only
  generalize s.pendingL.foldl (fun acc c => acc.unpendSilent c.cid) s = s5 at *
  obtain ⟨g, a, b, f, x, _, _⟩ := foldDefeatAll A hg5 s5.hopeful "Defeat remaining" (hopeful_cids_nodup hg5.1.wf)
    (fun w hw => mem_hopeful.1 hw)
  refine ⟨⟨g, fun _ => ⟨?_, ?_⟩⟩, hx5.trans x⟩
  · show nEl _ = St.seats _
    rw [b, f.2.1, u2, u3]; exact hfull
  · unfold nHop at *; omega

theorem cferFinish_brk_spec {s : St α} (hg : Good A s) (hle : nHop s + nEl s ≤ s.seats) (hge : s.seats ≤ sumHE s) :
    let t := (s.pendingL.foldl (fun acc c => acc.elect A c.cid "Elect pending" false) s).hopeful.foldl
        (fun acc c => acc.elect A c.cid "Elect remaining" false)
        (s.pendingL.foldl (fun acc c => acc.elect A c.cid "Elect pending" false) s)
    Done A t ∧ Ext s t := by
  obtain ⟨g1, a1, b1, f1, x1, _⟩ := foldElectNP_elected A hg s.pendingL "Elect pending" (by
    intro c hc x hx hxc
    obtain ⟨hcm, hce, _⟩ := mem_pendingL.1 hc
    rw [nodup_cid_eq hg.1.wf hx hcm hxc]; exact hce)
  dsimp only
  generalize s.pendingL.foldl (fun acc c => acc.elect A c.cid "Elect pending" false) s = s1 at *
  obtain ⟨g, a, b, f, x, _, _⟩ := foldElectAll A g1 s1.hopeful "Elect remaining" (hopeful_cids_nodup g1.1.wf)
    (fun w hw => mem_hopeful.1 hw)
  refine ⟨⟨g, fun _ => ⟨?_, ?_⟩⟩, x1.trans x⟩
  · show nEl _ = St.seats _
    rw [b, f.2.1, f1.2.1]; unfold sumHE at hge; unfold nHop at *; omega
  · unfold nHop at *; omega

theorem EHQ.foldDefeat {s : St α} (h : ElectedHoldQuota s) (ws : List (Cand α)) (verb : String) :
    ElectedHoldQuota (ws.foldl (fun acc c => acc.defeat A c.cid verb) s) := by
  induction ws generalizing s with
  | nil => exact h
  | cons w ws ih => simp only [List.foldl_cons]; exact ih (EHQ.defeat A h w.cid verb)

/-- "for c in sorted(defeats): c.defeat(msg)" over distinct hopeful candidates: what the transfer that follows needs -/
theorem defeatMany_spec {s : St α} (hE : InvE A s) (hM : Mon s) (ws ws' : List (Cand α)) (verb : String)
    (hperm : ws'.Perm ws) (hnd : (ws.map (·.cid)).Nodup) (hw : ∀ w ∈ ws, w ∈ s.hopeful) :
    let t := ws'.foldl (fun acc c => acc.defeat A c.cid verb) s
    InvE A t ∧ Mon t ∧ JustDefeated A t (ws.map (·.cid))
    ∧ (∀ cid ∈ ws.map (·.cid), ∀ c ∈ t.cands, c.cid = cid → c.st ≠ .elected)
    ∧ nHop t + ws.length = nHop s ∧ nEl t = nEl s ∧ Frame s t ∧ Ext s t ∧ t.crash = s.crash
    ∧ mu t + ws.length ≤ mu s := by
  have hnd' : (ws'.map (·.cid)).Nodup := (hperm.map _).nodup_iff.2 hnd
  have hw' : ∀ w ∈ ws', w ∈ s.cands ∧ w.st = .hopeful := fun w hw1 => mem_hopeful.1 (hw w (hperm.subset hw1))
  obtain ⟨g, a, b, f, x, c, m⟩ := foldDefeatAll A ⟨hE.1, hM⟩ ws' verb hnd' hw'
  have hj := justDefeated_foldDefeat A hE.1 ws ws' verb hperm hnd hw
  have hlen : ws'.length = ws.length := hperm.length_eq
  refine ⟨⟨g.1, EHQ.foldDefeat A hE.2 ws' verb⟩, g.2, hj, ?_, by omega, b, f, x, c, by omega⟩
  intro cid hcid c' hc' hcc
  obtain ⟨w, hwm, rfl⟩ := List.mem_map.1 hcid
  have hmem := foldDefeat_mem A ws' verb s hnd' (fun w' hw1 => (hw' w' hw1).1) w (hperm.symm.subset hwm)
  have : c' = ({ w with st := .defeated } : Cand α) := nodup_cid_eq g.1.wf hc' hmem hcc
  rw [this]; simp

theorem cferFinishDefeats_spec (hA : LawfulArith A) {s : St α} (hE : InvE A s) (hM : Mon s) (defeats : List (Cand α))
    (hj : JustDefeated A s (defeats.map (·.cid)))
    (hne : ∀ cid ∈ defeats.map (·.cid), ∀ c ∈ s.cands, c.cid = cid → c.st ≠ .elected)
    (hge : s.seats ≤ sumHE s) :
    Ext s (cferFinishDefeats A s defeats).1
    ∧ ((cferFinishDefeats A s defeats).2 = .brk → Done A (cferFinishDefeats A s defeats).1)
    ∧ ((cferFinishDefeats A s defeats).2 = .cont →
        InvE A (cferFinishDefeats A s defeats).1 ∧ Mon (cferFinishDefeats A s defeats).1
        ∧ Frame s (cferFinishDefeats A s defeats).1 ∧ mu (cferFinishDefeats A s defeats).1 = mu s
        ∧ sumHE (cferFinishDefeats A s defeats).1 = sumHE s ∧ s.seats < sumHE s) := by
  have hI := hE.1.cferFinishDefeats A hA defeats hj
  unfold cferFinishDefeats at hI ⊢
  by_cases hle : s.hopeful.length + s.elected.length ≤ s.seats
  · rw [if_pos hle] at hI ⊢
    obtain ⟨hd, hx⟩ := cferFinish_brk_spec A ⟨hE.1, hM⟩ hle hge
    refine ⟨hx, fun _ => hd, ?_⟩
    intro hc; cases hc
  · rw [if_neg hle] at hI ⊢
    refine ⟨(stepRel_ext A).transferDefeated _ _ _, ?_, ?_⟩
    · intro hc; cases hc
    intro _
    refine ⟨⟨hI, ?_⟩, ?_, ?_, ?_, ?_, ?_⟩
    · exact EHQ.transferDefeated A hA hE.1 hE.2 _ _ hne
    · exact Mon.transferDefeated A hM _ _
    · exact (stepRel_frame A).transferDefeated _ _ _
    · exact mu_transferDefeated A _ _ _
    · exact sumHE_transferDefeated A _ _ _
    · unfold sumHE nHop nEl; omega

theorem cferBatch_go_enough (s : St α) (surplus : α) (cands : List (Cand α)) (nE : Nat) (top : Option (Cand α)) :
    ∀ (fuel t : Nat) (best : List (Cand α)),
      (best = [] ∨ (s.seats ≤ (cands.length - best.length) + nE ∧ best.length ≤ cands.length)) →
      (cferBatch.go A s surplus cands nE top t fuel best = []
        ∨ (s.seats ≤ (cands.length - (cferBatch.go A s surplus cands nE top t fuel best).length) + nE
            ∧ (cferBatch.go A s surplus cands nE top t fuel best).length ≤ cands.length)) := by
  intro fuel
  induction fuel with
  | zero => intro t best hb; unfold cferBatch.go; exact hb
  | succ n ih =>
    intro t best hb
    unfold cferBatch.go
    dsimp only
    split
    · exact hb
    · rename_i hlt
      split
      · split
        · exact hb
        · rename_i hen
          split
          · exact ih _ _ hb
          · split
            · apply ih
              right
              have hl : (cands.take (t + 1)).length = t + 1 := by
                rw [List.length_take]; omega
              rw [hl]
              omega
            · exact ih _ _ hb
      · exact hb

theorem cferBatch_enough (s : St α) (hne : cferBatch A s ≠ []) :
    s.seats ≤ (nHop s - (cferBatch A s).length) + nEl s ∧ (cferBatch A s).length ≤ nHop s := by
  have hlen : (byVote A false s.hopeful).length = nHop s := (pySorted_perm _ _ _).length_eq
  have := cferBatch_go_enough A s (A.sum (s.pendingL.map (fun c => A.sub c.vote s.quota))) (byVote A false s.hopeful)
    s.elected.length (byVote A false s.hopeful).getLast? (byVote A false s.hopeful).length 0 [] (Or.inl rfl)
  unfold cferBatch at hne ⊢
  dsimp only at hne ⊢
  rcases this with h | h
  · exact absurd h hne
  · obtain ⟨h1, h2⟩ := h
    unfold nEl
    constructor <;> omega

/-- what the part of a round after the election step hands back, relative to the state `s` it started from -/
def RoundOK (s : St α) (r : St α × Flow) : Prop :=
  Ext s r.1 ∧ (r.2 = .brk → Done A r.1)
  ∧ (r.2 = .cont → InvE A r.1 ∧ Mon r.1 ∧ Frame s r.1 ∧ r.1.seats < sumHE r.1
      ∧ (mu r.1 < mu s ∨ r.1.crash.isSome = true))

theorem cferDefeatBatch_spec (hA : LawfulArith A) {s : St α} (hE : InvE A s) (hM : Mon s) (defeats : List (Cand α))
    (hsub : ∀ w ∈ defeats, w ∈ s.hopeful) (hnd : (defeats.map (·.cid)).Nodup) (hne : defeats ≠ [])
    (hen : s.seats ≤ (nHop s - defeats.length) + nEl s) (hlen : defeats.length ≤ nHop s) :
    RoundOK A s (cferDefeatBatch A s defeats) := by
  unfold cferDefeatBatch
  obtain ⟨a1, a2, a3, a4, a5, a6, a7, a8, _, a10⟩ := defeatMany_spec A hE hM defeats (byBallotOrder defeats) "Defeat batch"
    (pySorted_perm _ _ _) hnd hsub
  generalize (byBallotOrder defeats).foldl (fun acc c => acc.defeat A c.cid "Defeat batch") s = s1 at *
  have hge : s1.seats ≤ sumHE s1 := by rw [a7.2.1]; unfold sumHE; omega
  obtain ⟨b1, b2, b3⟩ := cferFinishDefeats_spec A hA a1 a2 defeats a3 a4 hge
  refine ⟨a8.trans b1, b2, ?_⟩
  intro hc
  obtain ⟨c1, c2, c3, c4, c5, c6⟩ := b3 hc
  refine ⟨c1, c2, a7.trans c3, ?_, Or.inl ?_⟩
  · rw [c3.2.1, c5]; exact c6
  · have : 0 < defeats.length := List.length_pos_of_ne_nil hne
    rw [c4]; omega

theorem cferDefeatLow_cases (s : St α) :
    (minVoteOf A s.hopeful = none ∧ cferDefeatLow A s = (s.setCrash "ValueError", .brk)) ∨
    ∃ tied : List (Cand α), (∀ c ∈ tied, c ∈ s.hopeful) ∧
      (((breakTie A s tied "Break tie (defeat)").2 = none
          ∧ cferDefeatLow A s = ((breakTie A s tied "Break tie (defeat)").1, .brk)) ∨
       (∃ lc, (breakTie A s tied "Break tie (defeat)").2 = some lc
          ∧ cferDefeatLow A s = cferFinishDefeats A ((breakTie A s tied "Break tie (defeat)").1.defeat A lc.cid "Defeat") [lc])) := by
  unfold cferDefeatLow
  cases hm : minVoteOf A s.hopeful with
  | none => left; exact ⟨rfl, rfl⟩
  | some lv =>
    right
    refine ⟨s.hopeful.filter (fun c => A.eq c.vote lv), fun c hc => (List.mem_filter.1 hc).1, ?_⟩
    dsimp only
    cases hb : breakTie A s (s.hopeful.filter (fun c => A.eq c.vote lv)) "Break tie (defeat)" with
    | mk s1 oc =>
      cases oc with
      | none => left; exact ⟨rfl, rfl⟩
      | some lc => right; exact ⟨lc, rfl, rfl⟩

theorem cferDefeatLow_spec (hA : LawfulArith A) {s : St α} (hE : InvE A s) (hM : Mon s) (hgt : s.seats < sumHE s) :
    RoundOK A s (cferDefeatLow A s) := by
  rcases cferDefeatLow_cases A s with ⟨_, e⟩ | ⟨tied, hsub, ⟨hb, e⟩ | ⟨lc, hb, e⟩⟩
  · rw [e]
    refine ⟨ext_setCrash s _, fun _ => Done.of_crash A ⟨hE.1.setCrash A _, hM.setCrash _⟩ (setCrash_isSome s _), ?_⟩
    intro hc; cases hc
  · rw [e]
    refine ⟨(stepRel_ext A).breakTie s _ _, fun _ => Done.of_crash A ⟨hE.1.breakTie A _ _, hM.breakTie A _ _⟩
      (breakTie_none_crash A s tied _ hb), ?_⟩
    intro hc; cases hc
  · rw [e]
    have hfr := breakTie_frame A s tied "Break tie (defeat)"
    have hE1 : InvE A (breakTie A s tied "Break tie (defeat)").1 := ⟨hE.1.breakTie A _ _, EHQ.breakTie A hE.2 _ _⟩
    have hM1 := hM.breakTie A tied "Break tie (defeat)"
    have hF1 := (stepRel_frame A).breakTie s tied "Break tie (defeat)"
    have hX1 := (stepRel_ext A).breakTie s tied "Break tie (defeat)"
    have hmu1 := mu_breakTie A s tied "Break tie (defeat)"
    have hS1 := sumHE_breakTie A s tied "Break tie (defeat)"
    have hlm := breakTie_mem A s tied "Break tie (defeat)" lc hb
    have hl1 : lc ∈ (breakTie A s tied "Break tie (defeat)").1.hopeful := by
      obtain ⟨hcs, hch⟩ := mem_hopeful.1 (hsub lc hlm)
      apply mem_hopeful.2
      rw [hfr.1]; exact ⟨hcs, hch⟩
    generalize (breakTie A s tied "Break tie (defeat)").1 = s1 at *
    obtain ⟨a1, a2, a3, a4, a5, a6, a7, a8, _, a10⟩ := defeatMany_spec A hE1 hM1 [lc] [lc] "Defeat" (List.Perm.refl _)
      (by simp) (by intro w hw; simp at hw; rw [hw]; exact hl1)
    simp only [List.foldl_cons, List.foldl_nil, List.map_cons, List.map_nil, List.length_cons, List.length_nil] at a1 a2 a3 a4 a5 a6 a7 a8 a10
    have hge : (s1.defeat A lc.cid "Defeat").seats ≤ sumHE (s1.defeat A lc.cid "Defeat") := by
      rw [a7.2.1, hF1.2.1]; unfold sumHE at hgt hS1 ⊢; omega
    obtain ⟨b1, b2, b3⟩ := cferFinishDefeats_spec A hA a1 a2 [lc] (by simpa using a3) (by simpa using a4) hge
    refine ⟨hX1.trans (a8.trans b1), b2, ?_⟩
    intro hc
    obtain ⟨c1, c2, c3, c4, c5, c6⟩ := b3 hc
    refine ⟨c1, c2, hF1.trans (a7.trans c3), ?_, Or.inl ?_⟩
    · rw [c3.2.1, c5]; exact c6
    · rw [c4]; omega

theorem cferAfterElect_spec (hA : LawfulArith A) (batch : Bool) {s : St α} (hE : InvE A s) (hM : Mon s)
    (hD : DroopQuota A s) (hgt : s.seats < sumHE s) : RoundOK A s (cferAfterElect A batch s) := by
  have hel : nEl s ≤ s.seats := elected_le_seats A hE.1 hE.2 hD
  unfold cferAfterElect
  by_cases hfull : s.elected.length ≥ s.seats
  · rw [if_pos hfull]
    obtain ⟨hd, hx⟩ := cferSeatsFull_spec A (s := s) ⟨hE.1, hM⟩ (by unfold nEl at *; omega)
    refine ⟨hx, fun _ => hd, ?_⟩
    intro hc; cases hc
  · rw [if_neg hfull]
    by_cases hb : (if batch then cferBatch A s else []).isEmpty = false
    · simp only [hb, Bool.not_false, if_true]
      cases batch with
      | false => simp at hb
      | true =>
        simp only [if_true] at hb ⊢
        have hne : cferBatch A s ≠ [] := by intro e; rw [e] at hb; simp at hb
        obtain ⟨h1, h2⟩ := cferBatch_enough A s hne
        exact cferDefeatBatch_spec A hA hE hM _ (cferBatch_hopeful A s) (cferBatch_nodup A s hE.1.wf) hne h1 h2
    · have hb' : (if batch then cferBatch A s else []).isEmpty = true := by simpa using hb
      simp only [hb', Bool.not_true, Bool.false_eq_true, if_false]
      by_cases hp : s.pendingL.isEmpty = false
      · simp only [hp, Bool.not_false, if_true]
        obtain ⟨a1, a2, a3, a4, a5, a6⟩ := cferSurplusAll_spec A hA hE hM
        refine ⟨a4, ?_, ?_⟩
        · intro hc; cases hc
        · intro _
          refine ⟨a1, a2, a3, ?_, Or.inl ?_⟩
          · show (cferSurplusAll A s).seats < sumHE (cferSurplusAll A s)
            rw [a3.2.1, a6]; exact hgt
          · have : 0 < s.pendingL.length := by
              cases hl : s.pendingL with
              | nil => rw [hl] at hp; simp at hp
              | cons x xs => simp
            show mu (cferSurplusAll A s) < mu s
            omega
      · have hp' : s.pendingL.isEmpty = true := by simpa using hp
        simp only [hp', Bool.not_true, Bool.false_eq_true, if_false]
        exact cferDefeatLow_spec A hA hE hM hgt

/-- round invariant of the CfER driver: before round 1 nobody is elected (round 1 may elect everybody at once), afterwards
    more candidates are left than seats -/
def CferInv (s : St α) : Prop := GInv A s ∧ (s.round = 0 → nEl s = 0) ∧ (s.round ≠ 0 → s.seats < sumHE s)

variable {A} in
theorem CferInv.inv {s : St α} (h : CferInv A s) : Inv A s := h.1.1.1
variable {A} in
theorem CferInv.wf {s : St α} (h : CferInv A s) : s.WF := h.1.1.1.wf

theorem cferBody_spec (hA : LawfulArith A) (hex : A.exact = false) (batch : Bool) {s : St α} (h : CferInv A s) :
    Ext s (cferBody A batch s).1 ∧ ((cferBody A batch s).2 = .brk → Done A (cferBody A batch s).1)
    ∧ ((cferBody A batch s).2 = .cont → InvE A (cferBody A batch s).1 ∧ Mon (cferBody A batch s).1
        ∧ Frame s (cferBody A batch s).1 ∧ (cferBody A batch s).1.seats < sumHE (cferBody A batch s).1
        ∧ (mu (cferBody A batch s).1 < mu s ∨ (cferBody A batch s).1.crash.isSome = true)) := by
  have hG := h.1.newRound A
  obtain ⟨⟨_, _, _, hJ⟩, hr0, hr1⟩ := h
  have hF1 := frame_newRound A s
  have hrnd := round_newRound A s
  have hcnt1 : nHop (s.newRound A) = nHop s ∧ nEl (s.newRound A) = nEl s := by
    unfold St.newRound; rw [nHop_logAct, nEl_logAct]; exact ⟨rfl, rfl⟩
  refine ⟨(stepRel_ext A).cferBody batch s, ?_⟩
  unfold cferBody
  by_cases hfirst : ((s.newRound A).round == 1 && decide ((s.newRound A).hopeful.length ≤ (s.newRound A).seats)) = true
  · rw [if_pos hfirst]
    simp only [Bool.and_eq_true, beq_iff_eq, decide_eq_true_eq] at hfirst
    have h0 := hr0 (by omega)
    have hen : s.seats ≤ nHop s := by unfold sumHE at hJ; omega
    obtain ⟨hd, _⟩ := cferElectAll_spec A (s := s.newRound A) ⟨hG.1.1, hG.2.1⟩ (by rw [hcnt1.2]; exact h0)
      (by unfold nHop; exact hfirst.2) (by rw [hF1.2.1, hcnt1.1]; exact hen)
    exact ⟨fun _ => hd, fun hc => by unfold cferElectAll at hc; cases hc⟩
  · rw [if_neg hfirst]
    have hgt1 : (s.newRound A).seats < sumHE (s.newRound A) := by
      rw [hF1.2.1, sumHE_newRound]
      by_cases hs0 : s.round = 0
      · have h0 := hr0 hs0
        have hen : s.seats ≤ nHop s := by unfold sumHE at hJ; omega
        have hone : ((s.newRound A).round == 1) = true := by rw [hrnd, hs0]; rfl
        simp only [hone, Bool.true_and, decide_eq_true_eq, not_le] at hfirst
        have : nHop s = (s.newRound A).hopeful.length := hcnt1.1.symm
        rw [hF1.2.1] at hfirst
        unfold sumHE; omega
      · exact hr1 hs0
    obtain ⟨h2, hmu2, hS2⟩ := GInv.electWinners A hG (hasQuotaGE A) (fun st c => A.gt c.vote st.quota)
      (fun st c => if A.gt c.vote st.quota then "Elect, transfer pending" else "Elect")
      (fun c hc => hasQuotaGE_sound A hA hex _ c hc)
    have hF2 := (stepRel_frame A).electWinners (hasQuotaGE A) (fun st c => A.gt c.vote st.quota)
      (fun st c => if A.gt c.vote st.quota then "Elect, transfer pending" else "Elect") (s.newRound A)
    rw [mu_newRound] at hmu2
    change GInv A (cferElect A (s.newRound A)) at h2
    change mu (cferElect A (s.newRound A)) ≤ mu s at hmu2
    change sumHE (cferElect A (s.newRound A)) = _ at hS2
    change Frame _ (cferElect A (s.newRound A)) at hF2
    obtain ⟨_, b2, b3⟩ := cferAfterElect_spec A hA batch h2.1 h2.2.1 h2.2.2.1 (by rw [hF2.2.1, hS2]; exact hgt1)
    refine ⟨b2, fun hc => ?_⟩
    obtain ⟨c1, c2, c3, c4, c5⟩ := b3 hc
    refine ⟨c1, c2, hF1.trans (hF2.trans c3), c4, ?_⟩
    rcases c5 with c5 | c5
    · left; omega
    · right; exact c5

/-- what a Gregory rule is handed: `Init`, a positive quota, nobody elected yet, at least as many candidates standing as
    seats, the round counter at zero; `droop` is the Droop condition `nballots < (seats+1)·quota` on the rule's quota -/
structure GStart (q : α) (s0 : St α) : Prop where
  init : Init A s0
  quota_pos : 0 < q
  fresh : ∀ c ∈ s0.cands, c.st ≠ .elected
  enough : s0.seats ≤ nHop s0
  round0 : s0.round = 0
  droop : ((s0.nballots : Int) : α) * A.one < ((s0.seats + 1 : Nat) : α) * q

theorem GStart.facts (hA : LawfulArith A) {q : α} {s0 : St α} (h : GStart A q s0) :
    GInv A (gInit A q s0) ∧ nEl (gInit A q s0) = 0 ∧ mu (gInit A q s0) + 2 ≤ 2 * s0.cands.length + 3
    ∧ (gInit A q s0).round = 0 ∧ Ext s0 (gInit A q s0) := by
  obtain ⟨a, b, c⟩ := gInit_inv A hA q h.init h.quota_pos h.fresh h.enough h.droop
  exact ⟨a, b, c, (gInit_facts A q s0).2.2.2.2.1.trans h.round0, (gInit_facts A q s0).2.2.2.2.2.1⟩

theorem cferInit_eq (s0 : St α) :
    cferInit A s0 = gInit A (A.add (A.divV (A.ofInt s0.nballots) (A.ofInt (s0.seats + 1))) A.eps) s0 := rfl

abbrev cferQuota (s0 : St α) : α := A.add (A.divV (A.ofInt s0.nballots) (A.ofInt (s0.seats + 1))) A.eps

theorem CferInv.init (hA : LawfulArith A) {s0 : St α} (h : GStart A (cferQuota A s0) s0) : CferInv A (cferInit A s0) := by
  rw [cferInit_eq]
  obtain ⟨a1, a5, _, a6, _⟩ := h.facts A hA
  exact ⟨a1, fun _ => a5, fun hne => absurd a6 hne⟩

theorem CferInv.step (hA : LawfulArith A) (hex : A.exact = false) (batch : Bool) {s : St α} (h : CferInv A s)
    (hc : (cferBody A batch s).2 = .cont) : CferInv A (cferBody A batch s).1 := by
  obtain ⟨c1, c2, c3, c4, _⟩ := (cferBody_spec A hA hex batch h).2.2 hc
  have hr : (s.newRound A).round ≤ (cferBody A batch s).1.round := (stepRel_round A).cferAfterRound batch s
  rw [round_newRound] at hr
  exact ⟨⟨c1, c2, h.1.2.2.1.of_frame A c3, Nat.le_of_lt c4⟩, fun h0 => by omega, fun _ => c4⟩

theorem cfer_count_spec (hA : LawfulArith A) (hex : A.exact = false) (batch : Bool) (s0 : St α)
    (h0 : GStart A (cferQuota A s0) s0) :
    ∃ t, cferCount A batch s0 = some t ∧ Mon t ∧ Ext s0 t ∧ (t.crash = none → nEl t = t.seats ∧ nHop t = 0) := by
  have hfuel : mu (cferInit A s0) + 2 ≤ 2 * s0.cands.length + 3 := by rw [cferInit_eq]; exact (h0.facts A hA).2.2.1
  have hX0 : Ext s0 (cferInit A s0) := by rw [cferInit_eq]; exact (h0.facts A hA).2.2.2.2
  obtain ⟨t, ht, hres⟩ := loopN_run mu (CferInv A) (Done A) (fun _ => true) (cferBody A batch)
    (fun s hs _ => ⟨fun hc => ⟨hs.step A hA hex batch hc, ((cferBody_spec A hA hex batch hs).2.2 hc).2.2.2.2⟩,
      fun hc => (cferBody_spec A hA hex batch hs).2.1 hc⟩) _ _ (CferInv.init A hA h0) hfuel
  refine ⟨t, ht, ?_, hX0.trans ((stepRel_ext A).cferCount batch s0 t ht), ?_⟩
  · rcases hres with ⟨hP, _⟩ | hQ
    · exact hP.1.2.1
    · exact hQ.1.2
  · rcases hres with ⟨_, hs | hs⟩ | hQ
    · intro hcr; rw [hcr] at hs; simp at hs
    · simp at hs
    · exact hQ.2

theorem cferCount_terminates (hA : LawfulArith A) (hex : A.exact = false) (batch : Bool) (s0 : St α)
    (h0 : GStart A (cferQuota A s0) s0) : ∃ t, cferCount A batch s0 = some t := by
  obtain ⟨t, ht, _⟩ := cfer_count_spec A hA hex batch s0 h0
  exact ⟨t, ht⟩

/-- C01 / C09, cfer and cfer-batch: whatever the count returns has a forward-only, append-only record, and unless the
    crash flag is up exactly `seats` candidates are elected and nobody is left hopeful -/
theorem cfer_result (hA : LawfulArith A) (hex : A.exact = false) (batch : Bool) (s0 t : St α)
    (h0 : GStart A (cferQuota A s0) s0) (h : cferCount A batch s0 = some t) :
    Mon t ∧ Ext s0 t ∧ (t.crash = none → nEl t = t.seats ∧ nHop t = 0) := by
  obtain ⟨t', ht', hr⟩ := cfer_count_spec A hA hex batch s0 h0
  cases Option.some.inj (ht'.symm.trans h)
  exact hr

theorem cfer_seats_filled (hA : LawfulArith A) (hex : A.exact = false) (batch : Bool) (s0 : St α)
    (h0 : GStart A (cferQuota A s0) s0) :
    ∃ t, cferCount A batch s0 = some t ∧ (t.crash = none → nEl t = t.seats ∧ nHop t = 0) := by
  obtain ⟨t, ht, _, _, hf⟩ := cfer_count_spec A hA hex batch s0 h0
  exact ⟨t, ht, hf⟩

end Droop
