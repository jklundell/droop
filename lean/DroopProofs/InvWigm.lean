import DroopProofs.GStep

/-! # Tie-breaks and the two stage shapes; the surplus step and the exclusion step of wigm / wigm-prf

A stage that acts on one candidate has the shape `Picks`: nothing to do; or a tie-break that raises the crash flag; or a
tie-break followed by an action on a member of the list. What such a step keeps, that it makes progress and what it does to
the counts follow from the shape, from what every tie-break satisfies (`TieBreak`), and from facts about the action alone —
for the two actions the rules use, the surplus transfer of a pending candidate and the exclusion of a hopeful one. -/
namespace Droop
variable {α : Type} [CommRing α] [LinearOrder α] [IsStrictOrderedRing α] (A : Arith α)

/-- what the rules use of a tie-break `bt` applied in state `s` (`bt tied` = state after, candidate picked): it leaves the
    candidates alone, is a `GStep`, picks a member of the tied list, and picks nobody only with the crash flag up -/
structure TieBreak (s : St α) (bt : List (Cand α) → St α × Option (Cand α)) : Prop where
  cands : ∀ tied, (bt tied).1.cands = s.cands
  gstep : Inv A s → ∀ tied, GStep A s (bt tied).1
  crash : ∀ tied, (bt tied).2 = none → (bt tied).1.crash.isSome = true
  mem : ∀ tied c, (bt tied).2 = some c → c ∈ tied

theorem tieBreak_breakTie (s : St α) (verb : String) : TieBreak A s (fun tied => breakTie A s tied verb) :=
  ⟨fun tied => (breakTie_frame A s tied verb).1, fun h tied => gstep_breakTie A h tied verb,
    fun tied => breakTie_none_crash A s tied verb, fun tied c => breakTie_mem A s tied verb c⟩

namespace TieBreak
variable {A} {s : St α} {bt : List (Cand α) → St α × Option (Cand α)} (hT : TieBreak A s bt)
include hT
theorem pendingL (tied : List (Cand α)) : (bt tied).1.pendingL = s.pendingL := by unfold St.pendingL; rw [hT.cands]
theorem hopeful (tied : List (Cand α)) : (bt tied).1.hopeful = s.hopeful := by unfold St.hopeful; rw [hT.cands]
theorem mu (tied : List (Cand α)) : Droop.mu (bt tied).1 = Droop.mu s := mu_of_skel (by unfold St.skel; rw [hT.cands])
theorem sumHE (tied : List (Cand α)) : Droop.sumHE (bt tied).1 = Droop.sumHE s :=
  sumHE_of_skel (by unfold St.skel; rw [hT.cands])
end TieBreak

/-- `t` comes from `s` by picking a member of `l` through the tie-break `bt` and doing `act` to it -/
def Picks (s : St α) (bt : List (Cand α) → St α × Option (Cand α)) (l : List (Cand α)) (act : St α → Cand α → St α)
    (t : St α) : Prop :=
  (l = [] ∧ t = s) ∨ ∃ tied : List (Cand α), ((bt tied).2 = none ∧ t = (bt tied).1) ∨ ∃ c ∈ l, t = act (bt tied).1 c

namespace Picks
variable {A} {s t : St α} {bt : List (Cand α) → St α × Option (Cand α)} {l : List (Cand α)} {act : St α → Cand α → St α}

/-- a relation that holds from `s` to itself and to the state after a tie-break, and that the tie-break does not disturb
    on the left, holds across the step if it holds across the action -/
theorem rel (hp : Picks s bt l act t) (R : St α → St α → Prop) (hrefl : R s s)
    (hbt : ∀ tied, R s (bt tied).1) (hleft : ∀ tied b, R (bt tied).1 b → R s b)
    (hact : ∀ tied, ∀ c ∈ l, R (bt tied).1 (act (bt tied).1 c)) : R s t := by
  rcases hp with ⟨_, rfl⟩ | ⟨tied, ⟨_, rfl⟩ | ⟨c, hc, rfl⟩⟩
  · exact hrefl
  · exact hbt tied
  · exact hleft tied _ (hact tied c hc)

theorem step (hp : Picks s bt l act t) (hT : TieBreak A s bt) (h : Inv A s)
    (hact : ∀ tied, ∀ c ∈ l, GStep A (bt tied).1 (act (bt tied).1 c)) : GStep A s t :=
  hp.rel (GStep A) (GStep.refl h) (hT.gstep h) (fun tied _ hb => (hT.gstep h tied).trans hb) hact

/-- if the list is not empty and the action lowers the measure, the step lowers it or raises the crash flag -/
theorem progress (hp : Picks s bt l act t) (hT : TieBreak A s bt) (hne : l ≠ [])
    (hact : ∀ tied, ∀ c ∈ l, mu (act (bt tied).1 c) < mu (bt tied).1) : mu t < mu s ∨ t.crash.isSome = true := by
  rcases hp with ⟨h0, _⟩ | ⟨tied, ⟨hn, rfl⟩ | ⟨c, hc, rfl⟩⟩
  · exact absurd h0 hne
  · exact Or.inr (hT.crash tied hn)
  · have := hact tied c hc
    rw [hT.mu] at this
    exact Or.inl this

section stages
variable (A) {v1 v2 : String}

theorem surplus_gstep (hA : LawfulArith A) {rew0 : α → α → α → α} (hrew0 : RewLaw rew0)
    (hp : Picks s bt s.pendingL (fun s1 hc => transferSurplus A (s1.unpendLog A hc.cid v1) hc rew0 v2) t)
    (hT : TieBreak A s bt) (h : Inv A s) : GStep A s t :=
  hp.step hT h (fun tied _ hm =>
    gstep_surplusOf A hA _ hrew0 (hT.gstep h tied).inv (by rw [hT.pendingL]; exact hm) _ _)

theorem surplus_progress {rew0 : α → α → α → α}
    (hp : Picks s bt s.pendingL (fun s1 hc => transferSurplus A (s1.unpendLog A hc.cid v1) hc rew0 v2) t)
    (hT : TieBreak A s bt) (h : Inv A s) (hne : s.pendingL ≠ []) : mu t < mu s ∨ t.crash.isSome = true :=
  hp.progress hT hne (fun tied _ hm => mu_surplusOf_lt A (hT.gstep h tied).inv (by rw [hT.pendingL]; exact hm) _ _ _)

theorem surplus_sumHE {rew0 : α → α → α → α}
    (hp : Picks s bt s.pendingL (fun s1 hc => transferSurplus A (s1.unpendLog A hc.cid v1) hc rew0 v2) t)
    (hT : TieBreak A s bt) : sumHE t = sumHE s :=
  hp.rel (fun a b => sumHE b = sumHE a) rfl hT.sumHE (fun tied _ hb => hb.trans (hT.sumHE tied))
    (fun _ hc _ => sumHE_surplusOf A _ hc _ _ _)

theorem defeat_gstep (hA : LawfulArith A)
    (hp : Picks s bt s.hopeful (fun s1 lc => transferDefeated A (s1.defeat A lc.cid v1) [lc.cid] v2) t)
    (hT : TieBreak A s bt) (h : Inv A s) : GStep A s t :=
  hp.step hT h (fun tied _ hm => gstep_defeatOne A hA (hT.gstep h tied).inv (by rw [hT.hopeful]; exact hm) _ _)

theorem defeat_progress
    (hp : Picks s bt s.hopeful (fun s1 lc => transferDefeated A (s1.defeat A lc.cid v1) [lc.cid] v2) t)
    (hT : TieBreak A s bt) (h : Inv A s) (hne : s.hopeful ≠ []) : mu t < mu s ∨ t.crash.isSome = true :=
  hp.progress hT hne (fun tied _ hm => mu_defeatOne_lt A (hT.gstep h tied).inv (by rw [hT.hopeful]; exact hm) _ _)

/-- a single exclusion lowers hopeful + elected by at most one -/
theorem defeat_sumHE
    (hp : Picks s bt s.hopeful (fun s1 lc => transferDefeated A (s1.defeat A lc.cid v1) [lc.cid] v2) t)
    (hT : TieBreak A s bt) (h : Inv A s) : sumHE s ≤ sumHE t + 1 :=
  hp.rel (fun a b => sumHE a ≤ sumHE b + 1) (Nat.le_succ _)
    (fun tied => by rw [hT.sumHE]; exact Nat.le_succ _)
    (fun tied _ hb => by rw [hT.sumHE] at hb; exact hb)
    (fun tied _ hm => Nat.le_of_eq (sumHE_defeatOne A (hT.gstep h tied).inv (by rw [hT.hopeful]; exact hm) _ _).symm)

end stages
end Picks

theorem wigmSurplusStep_picks (s : St α) :
    Picks s (fun tied => breakTie A s tied "Break tie (surplus)") s.pendingL
      (fun s1 hc => transferSurplus A (s1.unpendLog A hc.cid "Transfer high surplus") hc (rewMulDiv A) "Surplus transferred")
      (wigmSurplusStep A s) := by
  unfold wigmSurplusStep
  split
  · rename_i hm
    refine Or.inl ⟨?_, rfl⟩
    cases hl : s.pendingL with
    | nil => rfl
    | cons c cs => rw [hl] at hm; cases hm
  · rename_i hv _
    refine Or.inr ⟨s.pendingL.filter (fun c => A.eq c.vote hv), ?_⟩
    split
    · rename_i s1 hc heq
      have hmem := breakTie_mem A s _ _ hc (by rw [heq])
      exact Or.inr ⟨hc, (List.mem_filter.1 hmem).1, by dsimp only; rw [heq]⟩
    · rename_i s1 heq
      exact Or.inl ⟨by dsimp only; rw [heq], by dsimp only; rw [heq]⟩

theorem wigmDefeatStep_picks (o : WigmOpts) (hz : o.batchZero = false) (s : St α) :
    Picks s (fun tied => breakTie A s tied "Break tie (defeat)") s.hopeful
      (fun s1 lc => transferDefeated A (s1.defeat A lc.cid "Defeat") [lc.cid] "Transfer defeated")
      (wigmDefeatStep A o s) := by
  unfold wigmDefeatStep
  split
  · rename_i hm
    refine Or.inl ⟨?_, rfl⟩
    cases hl : s.hopeful with
    | nil => rfl
    | cons c cs => rw [hl] at hm; cases hm
  · rename_i lv _
    simp only [hz, Bool.and_false, Bool.false_and, Bool.false_eq_true, if_false]
    refine Or.inr ⟨s.hopeful.filter (fun c => A.eq c.vote lv), ?_⟩
    split
    · rename_i s1 lc heq
      have hmem := breakTie_mem A s _ _ lc (by rw [heq])
      exact Or.inr ⟨lc, (List.mem_filter.1 hmem).1, by dsimp only; rw [heq]⟩
    · rename_i s1 heq
      exact Or.inl ⟨by dsimp only; rw [heq], by dsimp only; rw [heq]⟩

theorem gstep_wigmSurplusStep (hA : LawfulArith A) {s : St α} (h : Inv A s) : GStep A s (wigmSurplusStep A s) :=
  (wigmSurplusStep_picks A s).surplus_gstep A hA (rewMulDiv_law A hA) (tieBreak_breakTie A s _) h

theorem gstep_wigmDefeatStep (hA : LawfulArith A) (o : WigmOpts) (hz : o.batchZero = false) {s : St α} (h : Inv A s) :
    GStep A s (wigmDefeatStep A o s) :=
  (wigmDefeatStep_picks A o hz s).defeat_gstep A hA (tieBreak_breakTie A s _) h

theorem Inv.wigmSurplusStep (hA : LawfulArith A) {s : St α} (h : Inv A s) : Inv A (Droop.wigmSurplusStep A s) :=
  (gstep_wigmSurplusStep A hA h).inv

theorem Inv.wigmDefeatStep1 (hA : LawfulArith A) (o : WigmOpts) (hz : o.batchZero = false) {s : St α} (h : Inv A s) :
    Inv A (Droop.wigmDefeatStep A o s) :=
  (gstep_wigmDefeatStep A hA o hz h).inv

theorem wigmSurplusStep_progress {s : St α} (hI : Inv A s) (hp : s.pendingL ≠ []) :
    mu (wigmSurplusStep A s) < mu s ∨ (wigmSurplusStep A s).crash.isSome = true :=
  (wigmSurplusStep_picks A s).surplus_progress A (tieBreak_breakTie A s _) hI hp

theorem wigmDefeatStep_progress (o : WigmOpts) (hz : o.batchZero = false) {s : St α} (hI : Inv A s)
    (hh : s.hopeful ≠ []) :
    mu (wigmDefeatStep A o s) < mu s ∨ (wigmDefeatStep A o s).crash.isSome = true :=
  (wigmDefeatStep_picks A o hz s).defeat_progress A (tieBreak_breakTie A s _) hI hh

theorem sumHE_wigmSurplusStep (s : St α) : sumHE (wigmSurplusStep A s) = sumHE s :=
  (wigmSurplusStep_picks A s).surplus_sumHE A (tieBreak_breakTie A s _)

theorem sumHE_wigmDefeatStep (o : WigmOpts) (hz : o.batchZero = false) {s : St α} (hI : Inv A s) :
    sumHE s ≤ sumHE (wigmDefeatStep A o s) + 1 :=
  (wigmDefeatStep_picks A o hz s).defeat_sumHE A (tieBreak_breakTie A s _) hI

end Droop
