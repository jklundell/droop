import DroopProofs.InvTransfer

/-! # Numbers read off the statuses: the termination measure and the counts

`mu` = 2·|hopeful| + |pending| drops with every election, exclusion and un-pending and is blind to everything else;
`nHop`, `nEl` and their sum `sumHE` count hopeful and elected candidates. -/
namespace Droop
variable {α : Type} [CommRing α] [LinearOrder α] [IsStrictOrderedRing α] (A : Arith α)

def rkSkel (k : Nat × Nat × Nat × Bool × CState × Bool) : Nat :=
  match k.2.2.2.2.1 with
  | .hopeful => 2
  | .elected => if k.2.2.2.2.2 then 1 else 0
  | _ => 0

def mu (s : St α) : Nat := (s.skel.map rkSkel).sum

def rk (c : Cand α) : Nat := rkSkel c.skel

theorem mu_eq (s : St α) : mu s = (s.cands.map rk).sum := by
  unfold mu St.skel rk; rw [List.map_map]; rfl

theorem mu_of_skel {s t : St α} (h : t.skel = s.skel) : mu t = mu s := by unfold mu; rw [h]

theorem mu_logAct (s : St α) (tag verb : String) (subj : List Nat) : mu (s.logAct A tag verb subj) = mu s := by
  apply mu_of_skel; unfold St.skel; rw [logAct_cands]
theorem mu_newRound (s : St α) : mu (s.newRound A) = mu s := by
  unfold St.newRound; rw [mu_logAct]; rfl
theorem mu_setCrash (s : St α) (k : String) : mu (s.setCrash k) = mu s := by
  unfold St.setCrash; split <;> rfl

theorem natsum_map_le {β} (l : List β) (f g : β → Nat) (h : ∀ x ∈ l, f x ≤ g x) :
    (l.map f).sum ≤ (l.map g).sum := by
  induction l with
  | nil => simp
  | cons a l ih =>
    simp only [List.map_cons, List.sum_cons]
    have := h a (by simp)
    have := ih (fun x hx => h x (by simp [hx]))
    omega

theorem natsum_map_lt {β} (l : List β) (f g : β → Nat) (h : ∀ x ∈ l, f x ≤ g x)
    (a : β) (ha : a ∈ l) (hlt : f a < g a) : (l.map f).sum < (l.map g).sum := by
  induction l with
  | nil => simp at ha
  | cons b l ih =>
    simp only [List.map_cons, List.sum_cons]
    have hb := h b (by simp)
    have hl := natsum_map_le l f g (fun x hx => h x (by simp [hx]))
    rcases List.mem_cons.mp ha with rfl | hin
    · omega
    · have := ih (fun x hx => h x (by simp [hx])) hin
      omega

theorem mu_upd_le (s : St α) (f : Cand α → Cand α) (a : Cand α) (hwf : s.WF) (ha : a ∈ s.cands)
    (hle : rk (f a) ≤ rk a) : mu (s.upd a.cid f) ≤ mu s := by
  rw [mu_eq, mu_eq]; unfold St.upd
  simp only [List.map_map]
  apply natsum_map_le
  intro c hc
  simp only [Function.comp]
  split
  · rename_i h
    have : c = a := nodup_cid_eq hwf hc ha (by simpa using h)
    subst this; exact hle
  · exact Nat.le_refl _

theorem mu_upd_lt (s : St α) (f : Cand α → Cand α) (a : Cand α) (hwf : s.WF) (ha : a ∈ s.cands)
    (hlt : rk (f a) < rk a) : mu (s.upd a.cid f) < mu s := by
  rw [mu_eq, mu_eq]; unfold St.upd
  simp only [List.map_map]
  apply natsum_map_lt _ _ _ _ a ha
  · simp [Function.comp, hlt]
  · intro c hc
    simp only [Function.comp]
    split
    · rename_i h
      have : c = a := nodup_cid_eq hwf hc ha (by simpa using h)
      subst this; exact Nat.le_of_lt hlt
    · exact Nat.le_refl _

theorem rk_hopeful {c : Cand α} (h : c.st = .hopeful) : rk c = 2 := by
  unfold rk rkSkel Cand.skel; simp [h]
theorem rk_pending {c : Cand α} (h : c.st = .elected) (hp : c.pending = true) : rk c = 1 := by
  unfold rk rkSkel Cand.skel; simp [h, hp]
theorem rk_elected_le (c : Cand α) (p : Bool) : rk ({ c with st := .elected, pending := p } : Cand α) ≤ 1 := by
  unfold rk rkSkel Cand.skel; simp; split <;> omega
theorem rk_defeated (c : Cand α) : rk ({ c with st := .defeated } : Cand α) = 0 := by
  unfold rk rkSkel Cand.skel; simp
theorem rk_unpend_elected {c : Cand α} (h : c.st = .elected) : rk ({ c with pending := false } : Cand α) = 0 := by
  unfold rk rkSkel Cand.skel; simp [h]

theorem mu_elect_lt (s : St α) (a : Cand α) (verb : String) (p : Bool) (hwf : s.WF) (ha : a ∈ s.cands)
    (hh : a.st = .hopeful) : mu (s.elect A a.cid verb p) < mu s := by
  unfold St.elect; rw [mu_logAct]
  apply mu_upd_lt s _ a hwf ha
  rw [rk_hopeful hh]; exact Nat.lt_of_le_of_lt (rk_elected_le a p) (by omega)

theorem mu_defeat_lt (s : St α) (a : Cand α) (verb : String) (hwf : s.WF) (ha : a ∈ s.cands)
    (hh : a.st = .hopeful) : mu (s.defeat A a.cid verb) < mu s := by
  unfold St.defeat; rw [mu_logAct]
  apply mu_upd_lt s _ a hwf ha
  rw [rk_hopeful hh, rk_defeated]; omega

theorem mu_unpendLog_lt (s : St α) (a : Cand α) (verb : String) (hwf : s.WF) (ha : a ∈ s.cands)
    (he : a.st = .elected) (hp : a.pending = true) : mu (s.unpendLog A a.cid verb) < mu s := by
  unfold St.unpendLog; rw [mu_logAct]
  apply mu_upd_lt s _ a hwf ha
  rw [rk_pending he hp, rk_unpend_elected he]; omega

theorem mu_transferAll (s : St α) (cids : List Nat) (rew : α → α) : mu (transferAll A s cids rew) = mu s :=
  mu_of_skel (transferAll_skel A s cids rew)

theorem mu_transferSurplus (s : St α) (hc : Cand α) (rew : α → α → α → α) (verb : String) :
    mu (transferSurplus A s hc rew verb) = mu s := by
  unfold transferSurplus; dsimp only
  rw [mu_logAct]
  exact (mu_of_skel (setVote_skel _ _ _)).trans (mu_transferAll A s _ _)

theorem mu_foldl_setVote (l : List Nat) (s : St α) : mu (l.foldl (fun acc c => acc.setVote c A.zero) s) = mu s :=
  mu_of_skel (TransferBlind.skel.toTallyBlind.foldl_setVote l A.zero s)

theorem mu_transferDefeated (s : St α) (cids : List Nat) (verb : String) :
    mu (transferDefeated A s cids verb) = mu s := by
  unfold transferDefeated; dsimp only
  rw [mu_logAct, mu_foldl_setVote, mu_transferAll]

theorem mu_breakTie (s : St α) (tied : List (Cand α)) (verb : String) : mu (breakTie A s tied verb).1 = mu s := by
  apply mu_of_skel; unfold St.skel; rw [(breakTie_frame A s tied verb).1]

def nHop (s : St α) : Nat := s.hopeful.length
def nEl (s : St α) : Nat := s.elected.length

theorem count_upd_unique (p : Cand α → Bool) (l : List (Cand α)) (a : Cand α) (f : Cand α → Cand α)
    (hnd : (l.map (·.cid)).Nodup) (ha : a ∈ l) :
    ((l.map (fun c => if c.cid == a.cid then f c else c)).filter p).length + (if p a then 1 else 0)
      = (l.filter p).length + (if p (f a) then 1 else 0) := by
  induction l with
  | nil => simp at ha
  | cons x xs ih =>
    simp only [List.map_cons, List.nodup_cons, List.mem_map, not_exists, not_and] at hnd
    rcases List.mem_cons.mp ha with rfl | ha'
    · have hrest : xs.map (fun c => if c.cid == a.cid then f c else c) = xs := by
        have : xs.map (fun c => if c.cid == a.cid then f c else c) = xs.map id := by
          apply List.map_congr_left
          intro c hc
          have hne : (c.cid == a.cid) = false := by
            have : c.cid ≠ a.cid := fun e => hnd.1 c hc e
            simp [this]
          simp only [hne, Bool.false_eq_true, if_false, id]
        simpa using this
      have haa : (a.cid == a.cid) = true := by simp
      simp only [List.map_cons, haa, if_true, hrest, List.filter_cons]
      by_cases h1 : p a = true <;> by_cases h2 : p (f a) = true <;>
        simp only [h1, h2, if_true, if_false, List.length_cons, Bool.false_eq_true]
    · have hx : x.cid ≠ a.cid := fun e => hnd.1 a ha' e.symm
      have hxe : (x.cid == a.cid) = false := by simp [hx]
      have ih' := ih hnd.2 ha'
      simp only [List.map_cons, hxe, Bool.false_eq_true, if_false, List.filter_cons]
      by_cases h3 : p x = true
      · simp only [h3, if_true, List.length_cons]; omega
      · simp only [h3, Bool.false_eq_true, if_false]; exact ih'

theorem nHop_logAct (s : St α) (tag verb : String) (subj : List Nat) : nHop (s.logAct A tag verb subj) = nHop s := by
  unfold nHop St.hopeful; rw [logAct_cands]
theorem nEl_logAct (s : St α) (tag verb : String) (subj : List Nat) : nEl (s.logAct A tag verb subj) = nEl s := by
  unfold nEl St.elected; rw [logAct_cands]

def St.stl (s : St α) : List CState := s.cands.map (·.st)

theorem counts_of_stl {s t : St α} (h : t.stl = s.stl) : nHop t = nHop s ∧ nEl t = nEl s := by
  have key : ∀ (u : St α) (st : CState), (u.cands.filter (fun c => c.st == st)).length
      = (u.stl.filter (fun k => k == st)).length := by
    intro u st
    unfold St.stl
    rw [List.filter_map, List.length_map]
    rfl
  unfold nHop nEl St.hopeful St.elected
  rw [key t, key s, key t, key s, h]
  exact ⟨rfl, rfl⟩

theorem stl_of_skel {s t : St α} (h : t.skel = s.skel) : t.stl = s.stl := by
  have : ∀ (u : St α), u.stl = u.skel.map (fun k => k.2.2.2.2.1) := by
    intro u; unfold St.stl St.skel; rw [List.map_map]; rfl
  rw [this, this, h]

theorem counts_of_skel {s t : St α} (h : t.skel = s.skel) : nHop t = nHop s ∧ nEl t = nEl s :=
  counts_of_stl (stl_of_skel h)

theorem counts_elect (s : St α) (a : Cand α) (verb : String) (p : Bool) (hwf : s.WF) (ha : a ∈ s.cands)
    (hh : a.st = .hopeful) :
    nHop (s.elect A a.cid verb p) + 1 = nHop s ∧ nEl (s.elect A a.cid verb p) = nEl s + 1 := by
  unfold St.elect
  rw [nHop_logAct, nEl_logAct]
  unfold nHop nEl St.hopeful St.elected St.upd
  have h1 := count_upd_unique (fun c => c.st == .hopeful) s.cands a (fun c => { c with st := .elected, pending := p }) hwf ha
  have h2 := count_upd_unique (fun c => c.st == .elected) s.cands a (fun c => { c with st := .elected, pending := p }) hwf ha
  have e1 : (a.st == CState.hopeful) = true := by rw [hh]; rfl
  have e2 : (a.st == CState.elected) = false := by rw [hh]; rfl
  have e3 : (CState.elected == CState.hopeful) = false := rfl
  have e4 : (CState.elected == CState.elected) = true := rfl
  simp only [e1, e2, e3, e4, if_true, Bool.false_eq_true, if_false] at h1 h2
  constructor <;> omega

theorem counts_defeat (s : St α) (a : Cand α) (verb : String) (hwf : s.WF) (ha : a ∈ s.cands) (hh : a.st = .hopeful) :
    nHop (s.defeat A a.cid verb) + 1 = nHop s ∧ nEl (s.defeat A a.cid verb) = nEl s := by
  unfold St.defeat
  rw [nHop_logAct, nEl_logAct]
  unfold nHop nEl St.hopeful St.elected St.upd
  have h1 := count_upd_unique (fun c => c.st == .hopeful) s.cands a (fun c => { c with st := .defeated }) hwf ha
  have h2 := count_upd_unique (fun c => c.st == .elected) s.cands a (fun c => { c with st := .defeated }) hwf ha
  have e1 : (a.st == CState.hopeful) = true := by rw [hh]; rfl
  have e2 : (a.st == CState.elected) = false := by rw [hh]; rfl
  have e3 : (CState.defeated == CState.hopeful) = false := rfl
  have e4 : (CState.defeated == CState.elected) = false := rfl
  simp only [e1, e2, e3, e4, if_true, Bool.false_eq_true, if_false] at h1 h2
  constructor <;> omega

theorem stl_upd_keep_st (s : St α) (cid : Nat) (f : Cand α → Cand α) (hf : ∀ c, (f c).st = c.st) :
    (s.upd cid f).stl = s.stl := by
  unfold St.stl St.upd
  rw [List.map_map]
  apply List.map_congr_left
  intro c _
  simp only [Function.comp]
  split
  · exact hf c
  · rfl

theorem counts_unpendSilent (s : St α) (cid : Nat) :
    nHop (s.unpendSilent cid) = nHop s ∧ nEl (s.unpendSilent cid) = nEl s :=
  counts_of_stl (stl_upd_keep_st s cid _ (fun _ => rfl))

theorem counts_unpendLog (s : St α) (cid : Nat) (verb : String) :
    nHop (s.unpendLog A cid verb) = nHop s ∧ nEl (s.unpendLog A cid verb) = nEl s := by
  unfold St.unpendLog
  rw [nHop_logAct, nEl_logAct]
  exact counts_of_stl (stl_upd_keep_st s cid _ (fun _ => rfl))

def sumHE (s : St α) : Nat := nHop s + nEl s

theorem sumHE_of_skel {s t : St α} (h : t.skel = s.skel) : sumHE t = sumHE s := by
  unfold sumHE; rw [(counts_of_skel h).1, (counts_of_skel h).2]
theorem sumHE_logAct (s : St α) (tag verb : String) (subj : List Nat) : sumHE (s.logAct A tag verb subj) = sumHE s := by
  unfold sumHE; rw [nHop_logAct, nEl_logAct]
theorem sumHE_newRound (s : St α) : sumHE (s.newRound A) = sumHE s := by
  unfold St.newRound; rw [sumHE_logAct]; rfl
theorem sumHE_breakTie (s : St α) (tied : List (Cand α)) (verb : String) : sumHE (breakTie A s tied verb).1 = sumHE s := by
  apply sumHE_of_skel; unfold St.skel; rw [(breakTie_frame A s tied verb).1]

theorem sumHE_transferSurplus (s : St α) (hc : Cand α) (rew : α → α → α → α) (verb : String) :
    sumHE (transferSurplus A s hc rew verb) = sumHE s := by
  unfold transferSurplus; dsimp only
  rw [sumHE_logAct]
  exact (sumHE_of_skel (setVote_skel _ _ _)).trans (sumHE_of_skel (transferAll_skel A s _ _))

theorem sumHE_foldl_setVote (l : List Nat) (s : St α) : sumHE (l.foldl (fun acc c => acc.setVote c A.zero) s) = sumHE s :=
  sumHE_of_skel (TransferBlind.skel.toTallyBlind.foldl_setVote l A.zero s)

theorem sumHE_transferDefeated (s : St α) (cids : List Nat) (verb : String) :
    sumHE (transferDefeated A s cids verb) = sumHE s := by
  unfold transferDefeated; dsimp only
  rw [sumHE_logAct, sumHE_foldl_setVote]
  exact sumHE_of_skel (transferAll_skel A s _ _)

theorem mu_le_two_mul (s : St α) : mu s ≤ 2 * s.cands.length := by
  rw [mu_eq]
  induction s.cands with
  | nil => simp
  | cons c cs ih =>
    simp only [List.map_cons, List.sum_cons, List.length_cons]
    have : rk c ≤ 2 := by
      unfold rk rkSkel; split
      · omega
      · split <;> omega
      · omega
    omega

theorem guard_strict (s : St α) (hg : stdGuard s = true) : s.seats < sumHE s := by
  unfold stdGuard St.seatsLeft at hg
  simp only [Bool.and_eq_true, decide_eq_true_eq] at hg
  unfold sumHE nHop nEl
  omega

theorem counts_foldUnpend (l : List (Cand α)) (s : St α) :
    nHop (l.foldl (fun acc c => acc.unpendSilent c.cid) s) = nHop s
    ∧ nEl (l.foldl (fun acc c => acc.unpendSilent c.cid) s) = nEl s
    ∧ (l.foldl (fun acc c => acc.unpendSilent c.cid) s).seats = s.seats := by
  induction l generalizing s with
  | nil => exact ⟨rfl, rfl, rfl⟩
  | cons c cs ih =>
    simp only [List.foldl_cons]
    obtain ⟨a1, a2, a3⟩ := ih (s.unpendSilent c.cid)
    have := counts_unpendSilent s c.cid
    exact ⟨a1.trans this.1, a2.trans this.2, a3⟩

end Droop
