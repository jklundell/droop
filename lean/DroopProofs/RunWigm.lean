import DroopProofs.RunCfer

/-! # wigm, wigm-prf, wigm-prf-batch: what the run-level theorems of `RunZero.lean` need about the batch exclusion of
sure losers (it never takes more candidates than can be spared), the common epilogue and the start -/
namespace Droop
variable {α : Type} [CommRing α] [LinearOrder α] [IsStrictOrderedRing α] (A : Arith α)

theorem scanGroups_bound (surplus : α) (maxDefeat : Int) :
    ∀ (suffix pre : List (List (Cand α))) (vote : α) (maxg : Option Nat),
      (∀ m, maxg = some m → (((pre ++ suffix).take (m + 1)).flatten.length : Int) ≤ maxDefeat) →
      ∀ m, scanGroups A surplus maxDefeat suffix pre.length pre.flatten.length vote maxg = some m →
        (((pre ++ suffix).take (m + 1)).flatten.length : Int) ≤ maxDefeat := by
  intro suffix
  induction suffix with
  | nil => intro pre vote maxg h m hm; unfold scanGroups at hm; exact h m hm
  | cons grp tl ih =>
    intro pre vote maxg h m hm
    cases tl with
    | nil => unfold scanGroups at hm; exact h m hm
    | cons nxt rest =>
      unfold scanGroups at hm
      by_cases hgt : ((pre.flatten.length + grp.length : Nat) : Int) > maxDefeat
      · rw [if_pos hgt] at hm; exact h m hm
      · rw [if_neg hgt] at hm
        dsimp only at hm
        have e1 : (pre ++ [grp]).length = pre.length + 1 := by simp
        have e2 : (pre ++ [grp]).flatten.length = pre.flatten.length + grp.length := by simp
        have e3 : pre ++ grp :: nxt :: rest = (pre ++ [grp]) ++ nxt :: rest := by simp
        rw [← e1, ← e2] at hm
        rw [e3]
        apply ih (pre ++ [grp]) _ _ _ m hm
        intro m' hm'
        have htake : (((pre ++ [grp]) ++ nxt :: rest).take (pre.length + 1)) = pre ++ [grp] := by
          rw [← e1]; exact List.take_left
        have hthis : ((((pre ++ [grp]) ++ nxt :: rest).take (pre.length + 1)).flatten.length : Int) ≤ maxDefeat := by
          rw [htake, e2]; omega
        cases hn : nxt.head? with
        | none =>
          rw [hn] at hm'; dsimp only at hm'
          rw [← e3]; exact h m' hm'
        | some c0 =>
          rw [hn] at hm'; dsimp only at hm'
          split at hm'
          · cases hm'; exact hthis
          · rw [← e3]; exact h m' hm'

theorem batchDefeatGroups_bound (s : St α) (surplus : α) :
    ((batchDefeatGroups A s surplus).length : Int) ≤ (s.hopeful.length : Int) - s.seatsLeft
    ∨ batchDefeatGroups A s surplus = [] := by
  unfold batchDefeatGroups
  dsimp only
  split
  · rename_i g hg
    left
    have := scanGroups_bound A surplus ((s.hopeful.length : Int) - s.seatsLeft)
      (sortedGroups A surplus (byVote A false s.hopeful)) [] A.zero none (by intro m hm; cases hm) g
      (by simpa using hg)
    simpa using this
  · right; rfl

theorem wigmBatchStep_spec (hA : LawfulArith A) {s : St α} (hE : InvE A s) (hM : Mon s) (sure : List (Cand α))
    (hsub : ∀ w ∈ sure, w ∈ s.hopeful) (hnd : (sure.map (·.cid)).Nodup) (hne : sure ≠ [])
    (hb : (sure.length : Int) ≤ (s.hopeful.length : Int) - s.seatsLeft) (hle : nEl s ≤ s.seats) :
    InvE A (wigmBatchStep A s sure).1 ∧ Mon (wigmBatchStep A s sure).1 ∧ Frame s (wigmBatchStep A s sure).1
    ∧ Ext s (wigmBatchStep A s sure).1 ∧ (wigmBatchStep A s sure).1.seats ≤ sumHE (wigmBatchStep A s sure).1
    ∧ mu (wigmBatchStep A s sure).1 < mu s
    ∧ ((wigmBatchStep A s sure).2 = .brk →
        ((wigmBatchStep A s sure).1.hopeful.length : Int) ≤ (wigmBatchStep A s sure).1.seatsLeft) := by
  have hI := hE.1.wigmBatchStep A hA sure hsub hnd
  unfold wigmBatchStep at hI ⊢
  unfold wigmDefeatSure at hI ⊢
  obtain ⟨a1, a2, a3, a4, a5, a6, a7, a8, _, a10⟩ := defeatMany_spec A hE hM sure (byBallotOrder sure) "Defeat sure loser"
    (pySorted_perm _ _ _) hnd hsub
  generalize (byBallotOrder sure).foldl (fun acc c => acc.defeat A c.cid "Defeat sure loser") s = s1 at *
  have hpos : 0 < sure.length := List.length_pos_of_ne_nil hne
  have hge : s1.seats ≤ sumHE s1 := by
    rw [a7.2.1]; unfold sumHE St.seatsLeft nHop nEl at *; omega
  by_cases hfin : ((s1.hopeful.length : Int) ≤ s1.seatsLeft)
  · have hd : decide ((s1.hopeful.length : Int) ≤ s1.seatsLeft) = true := by simpa using hfin
    rw [if_pos hd] at hI ⊢
    dsimp only
    exact ⟨a1, a2, a7, a8, hge, by omega, fun _ => hfin⟩
  · have hd : ¬ (decide ((s1.hopeful.length : Int) ≤ s1.seatsLeft) = true) := by simpa using hfin
    rw [if_neg hd] at hI ⊢
    dsimp only at hI ⊢
    refine ⟨⟨hI, EHQ.transferDefeated A hA a1.1 a1.2 _ _ a4⟩, Mon.transferDefeated A a2 _ _,
      a7.trans ((stepRel_frame A).transferDefeated _ _ _), a8.trans ((stepRel_ext A).transferDefeated _ _ _), ?_, ?_, ?_⟩
    · rw [((stepRel_frame A).transferDefeated _ _ _).2.1, sumHE_transferDefeated]; exact hge
    · rw [mu_transferDefeated]; omega
    · intro hc; cases hc

theorem epilogue_good {s : St α} (hg : Good A s) : Good A (epilogueElectOrDefeat A s) := by
  unfold epilogueElectOrDefeat
  dsimp only
  have hg5 := hg.foldUnpend A
  generalize s.pendingL.foldl (fun acc c => acc.unpendSilent c.cid) s = s5 at *
  exact foldl_hopefuls (fun _ t => Good A t)
    (fun acc c => if acc.elected.length < acc.seats then acc.elect A c.cid "Elect remaining" false
      else acc.defeat A c.cid "Defeat remaining")
    (by
      intro n t w hP hwm hwh
      split
      · exact ⟨hP.elect A w _ false hwm hwh (fun hp => by cases hp), fun c hc hne => mem_elect_of_ne A hc _ _ _ hne⟩
      · exact ⟨hP.defeat A w _ hwm hwh, fun c hc hne => mem_defeat_of_ne A hc _ _ hne⟩)
    s5.hopeful (hopeful_cids_nodup hg5.1.wf) (fun w hw => mem_hopeful.1 hw) hg5

theorem epilogue_crash (s : St α) : (epilogueElectOrDefeat A s).crash = s.crash := by
  unfold epilogueElectOrDefeat
  dsimp only
  rw [← crash_foldUnpend s.pendingL s]
  generalize s.pendingL.foldl (fun acc c => acc.unpendSilent c.cid) s = s5
  have : ∀ (l : List (Cand α)) (v : St α), (l.foldl (fun acc c =>
      if acc.elected.length < acc.seats then acc.elect A c.cid "Elect remaining" false
      else acc.defeat A c.cid "Defeat remaining") v).crash = v.crash := by
    intro l; induction l with
    | nil => intro v; rfl
    | cons c cs ih =>
      intro v; simp only [List.foldl_cons]; rw [ih]
      split
      · exact crash_elect A v c.cid _ _
      · exact crash_defeat A v c.cid _
  exact this _ _

theorem wigmInit_eq (o : WigmOpts) (s0 : St α) : wigmInit A o s0 = gInit A (wigmQuota A o s0) s0 := rfl

theorem GInv.wigmInit (hA : LawfulArith A) (o : WigmOpts) {s0 : St α} (h : GStart A (wigmQuota A o s0) s0) :
    GInv A (wigmInit A o s0) := by
  rw [wigmInit_eq]; exact (h.facts A hA).1

end Droop
