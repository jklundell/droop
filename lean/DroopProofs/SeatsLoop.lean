import DroopProofs.AppendOnly
import DroopProofs.Seats

/-! # Quota, seats and ballot count are constants of a count

`Frame s t` says the three numbers the Droop condition reads are those of `s`; it holds for the primitive writes, is a
`StepRel` instance, and carries the Droop condition from state to state (`DroopQuota.of_frame`). -/
namespace Droop
variable {α : Type} [CommRing α] [LinearOrder α] [IsStrictOrderedRing α] (A : Arith α)

/-- the three numbers the Droop condition reads do not change -/
def Frame (s t : St α) : Prop := t.quota = s.quota ∧ t.seats = s.seats ∧ t.nballots = s.nballots

theorem Frame.refl (s : St α) : Frame s s := ⟨rfl, rfl, rfl⟩
theorem Frame.trans {s t u : St α} (h1 : Frame s t) (h2 : Frame t u) : Frame s u :=
  ⟨h2.1.trans h1.1, h2.2.1.trans h1.2.1, h2.2.2.trans h1.2.2⟩

theorem Reach.frame {s t : St α} (h : Reach s t) : Frame s t := ⟨h.quota, h.seats, h.nballots⟩

theorem frame_logAct (s : St α) (tag verb : String) (subj : List Nat) : Frame s (s.logAct A tag verb subj) :=
  (reach_logAct A s tag verb subj).frame
theorem frame_upd (s : St α) (cid : Nat) (f : Cand α → Cand α) : Frame s (s.upd cid f) := ⟨rfl, rfl, rfl⟩
theorem frame_newRound (s : St α) : Frame s (s.newRound A) := (reach_newRound A s).frame
theorem frame_elect (s : St α) (cid : Nat) (verb : String) (p : Bool) : Frame s (s.elect A cid verb p) :=
  (reach_elect A s cid verb p).frame
theorem frame_defeat (s : St α) (cid : Nat) (verb : String) : Frame s (s.defeat A cid verb) := (reach_defeat A s cid verb).frame
theorem frame_unpendLog (s : St α) (cid : Nat) (verb : String) : Frame s (s.unpendLog A cid verb) :=
  (reach_unpendLog A s cid verb).frame
theorem frame_setCrash (s : St α) (k : String) : Frame s (s.setCrash k) := (reach_setCrash s k).frame
theorem frame_transferAll (s : St α) (cids : List Nat) (rew : α → α) : Frame s (transferAll A s cids rew) :=
  (reach_transferAll A s cids rew).frame

theorem frame_foldl {β : Type} (f : St α → β → St α) (hf : ∀ s x, Frame s (f s x)) (l : List β) (s : St α) :
    Frame s (l.foldl f s) := by
  induction l generalizing s with
  | nil => exact Frame.refl s
  | cons x xs ih => exact Frame.trans (hf s x) (ih _)

theorem stepRel_frame : StepRel A (Frame (α := α)) :=
  ⟨Frame.refl, Frame.trans, frame_logAct A, fun s cid f _ => frame_upd s cid f, frame_setCrash, fun _ _ => ⟨rfl, rfl, rfl⟩,
    fun _ => ⟨rfl, rfl, rfl⟩, frame_transferAll A⟩

theorem frame_wigmBody (o : WigmOpts) (s : St α) : Frame s (wigmBody A o s).1 := (stepRel_frame A).wigmBody o s

theorem DroopQuota.of_frame {s t : St α} (h : DroopQuota A s) (f : Frame s t) : DroopQuota A t := by
  unfold DroopQuota at *; rw [f.1, f.2.1, f.2.2]; exact h

end Droop
