import DroopProofs.QpqFig
import DroopProofs.QpqLow

/-! # C05 for QPQ, one seat: the first round elects the candidate ranked first on more than half of the ballots

The first round starts with a restart: every ballot goes back to its first preference with contribution 0.  The tally then gives
each hopeful candidate its first-preference count as quotient (`count / (1 + 0)`), and the quota is `ballots / 2`, rounded down in
the last guarded digit.  The majority candidate's quotient is a whole unit above every other quotient and above the quota by more
than the tolerance of the guarded comparisons, so it is the one elected. -/
namespace Droop

/-- first preferences for candidate `k`, and all ballots, counted with multipliers -/
def fpI (bs : List (Ballot Int)) (k : Nat) : Int := (bs.map (fun b => if b.rank.head? = some k then (b.mult : Int) else 0)).sum
def nI (bs : List (Ballot Int)) : Int := (bs.map (fun b => (b.mult : Int))).sum

theorem fpI_nonneg (bs : List (Ballot Int)) (k : Nat) : 0 ≤ fpI bs k := by
  unfold fpI
  apply List.sum_nonneg
  intro x hx
  obtain ⟨b, _, rfl⟩ := List.mem_map.1 hx
  split
  · exact Int.natCast_nonneg _
  · exact le_refl _

theorem fpI_two (bs : List (Ballot Int)) (k w : Nat) (h : k ≠ w) : fpI bs k + fpI bs w ≤ nI bs := by
  unfold fpI nI
  induction bs with
  | nil => simp
  | cons b bs ih =>
    simp only [List.map_cons, List.sum_cons]
    have hm : (0 : Int) ≤ (b.mult : Int) := Int.natCast_nonneg _
    by_cases h1 : b.rank.head? = some k
    · have h2 : ¬ b.rank.head? = some w := by rw [h1]; intro e; exact h (Option.some.inj e)
      rw [if_pos h1, if_neg h2]; omega
    · rw [if_neg h1]
      by_cases h2 : b.rank.head? = some w
      · rw [if_pos h2]; omega
      · rw [if_neg h2]; omega

/-- a state no round has touched: a restart is due, distinct ids, everybody hopeful or withdrawn, every ballot starts with a
    hopeful candidate -/
structure QFresh (q : QSt Int) : Prop where
  restart : q.restart = true
  wf : q.s.WF
  stat : ∀ c ∈ q.s.cands, c.st = .hopeful ∨ c.st = .withdrawn
  ballots : ∀ b ∈ q.s.ballots, ∃ r rs, b.rank = r :: rs ∧ q.s.isHopeful r = true

def resetB (b : Ballot Int) : Ballot Int := { b with idx := 0, w := 0, residual := 0 }

theorem resetB_top (b : Ballot Int) : (resetB b).top = b.rank.head? := by
  unfold resetB Ballot.top
  simp only
  cases b.rank <;> rfl

section
variable (p g : Nat)

theorem qR2_fresh_cands (q : QSt Int) (h : QFresh q) : (qR2 (guardedArith p g) q).cands = q.s.cands := by
  rw [(qR2_fields _ q).1, if_pos h.restart]
  unfold unElect
  conv_rhs => rw [← List.map_id q.s.cands]
  apply List.map_congr_left
  intro c hc
  have : ¬ ((c.st == CState.elected) = true) := by
    rcases h.stat c hc with e | e <;> rw [e] <;> decide
  rw [if_neg this]; rfl

theorem qR2_fresh_ballots (q : QSt Int) (h : QFresh q) : (qR2 (guardedArith p g) q).ballots = q.s.ballots.map resetB := by
  rw [(qR2_fields _ q).2.1, if_pos h.restart]
  apply List.map_congr_left
  intro b hb
  obtain ⟨r, rs, hr, hh⟩ := h.ballots b hb
  have hcont : (qR2 (guardedArith p g) q).isHopeful r = true := by
    unfold St.isHopeful at hh ⊢
    rw [qR2_fresh_cands p g q h]; exact hh
  unfold qAdvance advanceTo resetB
  simp only [hr, List.drop_zero, List.findIdx?_cons, hcont, if_true, Nat.add_zero]
  rfl

/-- a sum over reset ballots, term by term -/
theorem sum_map_resetB (bs : List (Ballot Int)) (F G : Ballot Int → Int) (h : ∀ b ∈ bs, F (resetB b) = G b) :
    ((bs.map resetB).map F).sum = (bs.map G).sum := by
  rw [List.map_map]
  exact congrArg List.sum (List.map_congr_left h)

theorem sum_map_mul_const (bs : List (Ballot Int)) (f : Ballot Int → Int) (S : Int) :
    (bs.map (fun b => f b * S)).sum = (bs.map f).sum * S := by
  induction bs with
  | nil => simp
  | cons b bs ih => simp only [List.map_cons, List.sum_cons, ih, add_mul]

theorem fresh_topMg (bs : List (Ballot Int)) (k : Nat) :
    topMg (guardedArith p g) (bs.map resetB) k = fpI bs k * pow10 (p + g) := by
  unfold topMg fpI
  rw [← sum_map_mul_const]
  exact sum_map_resetB bs _ _ (fun b _ => by rw [resetB_top]; split; rfl; simp)

theorem fresh_topWg (bs : List (Ballot Int)) (k : Nat) : topWg (bs.map resetB) k = 0 := by
  unfold topWg
  rw [sum_map_resetB bs _ (fun _ => 0) (fun b _ => by split; exact zero_mul _; rfl)]
  exact List.sum_map_zero

theorem fresh_exhWg (bs : List (Ballot Int)) : exhWg (bs.map resetB) = 0 := by
  unfold exhWg
  rw [sum_map_resetB bs _ (fun _ => 0) (fun b _ => by split; exact zero_mul _; rfl)]
  exact List.sum_map_zero

theorem fresh_activeMg (bs : List (Ballot Int)) (hne : ∀ b ∈ bs, b.rank ≠ []) :
    activeMg (guardedArith p g) (bs.map resetB) = nI bs * pow10 (p + g) := by
  unfold activeMg nI
  rw [← sum_map_mul_const]
  refine sum_map_resetB bs _ _ (fun b hb => ?_)
  have : ¬ b.rank.head? = none := by
    cases hr : b.rank with
    | nil => exact absurd hr (hne b hb)
    | cons r rs => simp
  rw [resetB_top, if_neg this]
  rfl

/-- in the decision state of the first round every hopeful candidate's quotient is its first-preference count -/
theorem fresh_quot (q : QSt Int) (h : QFresh q) (c : Cand Int) (hc : c ∈ (qR5 (guardedArith p g) q).hopeful) :
    qQuot (guardedArith p g) c = fpI q.s.ballots c.cid * pow10 (p + g) := by
  have hS := pow10_pos (p + g)
  obtain ⟨fv, ft, fq⟩ := qR5_figures_gen (guardedArith p g) (guarded_lawful p g) q h.wf c hc
  rw [qR2_fresh_ballots p g q h, fresh_topMg] at fv
  rw [qR2_fresh_ballots p g q h, fresh_topWg] at ft
  unfold qQuot
  rw [fq, fv, ft]
  show (if (pow10 (p + g) + 0 == 0) = true then (0 : Int) else pdiv (fpI q.s.ballots c.cid * pow10 (p + g) * pow10 (p + g)) (pow10 (p + g) + 0)) = _
  have hne : ¬ ((pow10 (p + g) + 0 == 0) = true) := by simp; omega
  rw [if_neg hne, add_zero]
  exact pdiv_mul_cancel _ _ hS

/-- ... and the quota, with one seat, is at most half the ballots -/
theorem fresh_quota (q : QSt Int) (h : QFresh q) (hseats : q.s.seats = 1) :
    2 * (qR5 (guardedArith p g) q).quota ≤ nI q.s.ballots * pow10 (p + g) := by
  have hS := pow10_pos (p + g)
  have hq := qR5_quota_gen (guardedArith p g) (guarded_lawful p g) q
  have hne : ∀ b ∈ q.s.ballots, b.rank ≠ [] := by
    intro b hb
    obtain ⟨r, rs, hr, _⟩ := h.ballots b hb
    rw [hr]; simp
  rw [qR2_fresh_ballots p g q h, fresh_activeMg p g _ hne, fresh_exhWg, qR2_seats, hseats] at hq
  rw [hq]
  show 2 * (if ((((1 + 1 : Nat) : Int)) * pow10 (p + g) - 0 == 0) = true then (0 : Int)
      else pdiv (nI q.s.ballots * pow10 (p + g) * pow10 (p + g)) ((((1 + 1 : Nat) : Int)) * pow10 (p + g) - 0)) ≤ _
  have h2 : (((1 + 1 : Nat) : Int)) * pow10 (p + g) - 0 = 2 * pow10 (p + g) := by push_cast; ring
  rw [h2]
  have hne2 : ¬ ((2 * pow10 (p + g) == 0) = true) := by simp; omega
  rw [if_neg hne2]
  have hle := pdiv_mul_le (nI q.s.ballots * pow10 (p + g) * pow10 (p + g)) (2 * pow10 (p + g)) (by omega)
  -- quota * (2S) ≤ nS * S, so 2 * quota ≤ nS
  have : 2 * pdiv (nI q.s.ballots * pow10 (p + g) * pow10 (p + g)) (2 * pow10 (p + g)) * pow10 (p + g)
      ≤ nI q.s.ballots * pow10 (p + g) * pow10 (p + g) := by
    calc 2 * pdiv (nI q.s.ballots * pow10 (p + g) * pow10 (p + g)) (2 * pow10 (p + g)) * pow10 (p + g)
        = pdiv (nI q.s.ballots * pow10 (p + g) * pow10 (p + g)) (2 * pow10 (p + g)) * (2 * pow10 (p + g)) := by ring
      _ ≤ _ := hle
  exact le_of_mul_le_mul_right this hS


theorem breakTie_some {α : Type} (A : Arith α) (s : St α) (tied : List (Cand α)) (verb : String) (hne : tied ≠ []) :
    ∃ c, (breakTie A s tied verb).2 = some c := by
  unfold breakTie
  match tied, hne with
  | [c], _ => exact ⟨c, rfl⟩
  | x :: y :: rest, _ =>
    simp only
    have hx : x ∈ byTieOrder (x :: y :: rest) := (mem_pySorted _ _ _ _).2 (List.mem_cons_self ..)
    cases hb : byTieOrder (x :: y :: rest) with
    | nil => rw [hb] at hx; cases hx
    | cons z zs => exact ⟨z, rfl⟩

/-- under guarded comparisons a round with a hopeful candidate always takes a decision -/
theorem qDecide_flow_cont (q1 : QSt Int) (s5 : St Int) (hne : s5.hopeful ≠ []) :
    (qDecide (guardedArith p g) q1 s5).2 = .cont := by
  rcases qDecide_cases (guardedArith p g) q1 s5 with ⟨hn, _⟩ | ⟨hd, hs, v, verb, s6, _, hv, hb, _⟩ | ⟨_, _, _, _, _, _, _, _, _, e⟩
      | ⟨_, _, _, _, _, _, _, _, _, e⟩
  · exact absurd hn hne
  · -- the value the tie is about is some hopeful candidate's quotient, and that candidate is tied
    exfalso
    have hvm : v ∈ (qQuot (guardedArith p g) hd) :: hs.map (qQuot (guardedArith p g)) := by
      rcases hv with rfl | rfl
      · exact (guarded_pyMax p g _ _).2.1
      · exact (guarded_pyMin p g _ _).2.1
    obtain ⟨d, hdm, hde⟩ : ∃ d ∈ hd :: hs, qQuot (guardedArith p g) d = v := by
      rcases List.mem_cons.1 hvm with e | e
      · exact ⟨hd, List.mem_cons_self .., e.symm⟩
      · obtain ⟨d, hd', hde⟩ := List.mem_map.1 e
        exact ⟨d, List.mem_cons_of_mem _ hd', hde⟩
    have hdt : d ∈ (hd :: hs).filter (fun c => (guardedArith p g).eq (qQuot (guardedArith p g) c) v) :=
      List.mem_filter.2 ⟨hdm, by rw [hde]; exact guarded_eq_refl p g v⟩
    obtain ⟨c, hc⟩ := breakTie_some (guardedArith p g) s5 _ verb (List.ne_nil_of_mem hdt)
    rw [hb] at hc
    cases hc
  · rw [e]; rfl
  · rw [e]; rfl

theorem mem_stsig_iff {α : Type} (s : St α) (i : Nat) (st : CState) : (i, st) ∈ stsig s ↔ ∃ c ∈ s.cands, c.cid = i ∧ c.st = st := by
  unfold stsig
  constructor
  · intro h
    obtain ⟨c, hc, he⟩ := List.mem_map.1 h
    exact ⟨c, hc, by cases he; rfl, by cases he; rfl⟩
  · rintro ⟨c, hc, rfl, rfl⟩
    exact List.mem_map.2 ⟨c, hc, rfl⟩

theorem first_round_elects (q : QSt Int) (h : QFresh q) (hseats : q.s.seats = 1) (hp : 4 * geps g ≤ pow10 (p + g)) (w : Nat)
    (hw : (w, CState.hopeful) ∈ stsig q.s) (hmaj : nI q.s.ballots < 2 * fpI q.s.ballots w) :
    (qpqBody (guardedArith p g) q).2 = .cont ∧ (w, CState.elected) ∈ stsig (qpqBody (guardedArith p g) q).1.s
      ∧ nEl (qpqBody (guardedArith p g) q).1.s = 1 := by
  have hS := pow10_pos (p + g)
  have hgp := geps_pos g
  rw [qpqBody_eq]
  have h5 : stsig (qR5 (guardedArith p g) q) = stsig q.s := by
    rw [(qR5_stsig (guardedArith p g) q).1]
    exact stsig_of_cands (qR2_fresh_cands p g q h)
  have hwf5 : (qR5 (guardedArith p g) q).WF := WF_of_stsig h5 h.wf
  obtain ⟨m, hm5, hmw, hmh⟩ := (mem_stsig_iff _ w .hopeful).1 (by rw [h5]; exact hw)
  have hmhop : m ∈ (qR5 (guardedArith p g) q).hopeful := mem_hopeful.2 ⟨hm5, hmh⟩
  have hne : (qR5 (guardedArith p g) q).hopeful ≠ [] := fun e => by rw [e] at hmhop; cases hmhop
  have hcont := qDecide_flow_cont p g (qQ1 (guardedArith p g) q) (qR5 (guardedArith p g) q) hne
  have hqm : qQuot (guardedArith p g) m = fpI q.s.ballots w * pow10 (p + g) := by
    rw [fresh_quot p g q h m hmhop, hmw]
  have hquota := fresh_quota p g q h hseats
  -- whoever is not `w` has a quotient a whole unit lower
  have hlow : ∀ d ∈ (qR5 (guardedArith p g) q).hopeful, d.cid ≠ w →
      qQuot (guardedArith p g) d + pow10 (p + g) ≤ fpI q.s.ballots w * pow10 (p + g) := by
    intro d hd hdw
    rw [fresh_quot p g q h d hd]
    have := fpI_two q.s.ballots d.cid w hdw
    have h1 : fpI q.s.ballots d.cid + 1 ≤ fpI q.s.ballots w := by omega
    have := Int.mul_le_mul_of_nonneg_right h1 (le_of_lt hS)
    linarith
  have hnE : nEl (qR5 (guardedArith p g) q) = 0 := ((qR5_counts _ q).1 h.restart).2
  have hbig : (nI q.s.ballots + 1) * pow10 (p + g) ≤ 2 * fpI q.s.ballots w * pow10 (p + g) :=
    Int.mul_le_mul_of_nonneg_right (by omega) (le_of_lt hS)
  have hdec := qpq_round_decision p g (qQ1 (guardedArith p g) q) (qR5 (guardedArith p g) q) (qR5_stsig _ q).2 hcont
  have hcnt := qDecide_cont (guardedArith p g) (qQ1 (guardedArith p g) q) (qR5 (guardedArith p g) q) hwf5 (qR5_stsig _ q).2 hcont
  rcases hdec with ⟨c, hc, hel, hr, _, hall⟩ | ⟨c, hc, _, _, hall, _⟩
  · have hcw : c.cid = w := by
      by_contra hne'
      have h1 := hlow c hc hne'
      have h2 := hall m hmhop
      rw [hqm] at h2
      omega
    refine ⟨hcont, by rw [← hcw]; exact hel, ?_⟩
    rcases hcnt.2 with ⟨_, _, b⟩ | ⟨r, _, _⟩
    · rw [b, hnE]
    · rw [r] at hr; cases hr
  · exfalso
    have h2 := hall m hmhop
    rw [hqm] at h2
    nlinarith

end
end Droop
