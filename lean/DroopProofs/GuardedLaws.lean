import DroopProofs.FixedLaws

/-! # C13: the Guarded comparison (equal within half a unit of the declared precision, else the order of the stored values;
with no guard digits it is Fixed's) and what the comparison statistics `maxDiff` / `minDiff` bound -/
namespace Droop

theorem geps_pos (g : Nat) : 0 < geps g := by
  unfold geps
  split
  · omega
  · have : 0 ≤ pow10 g / 2 := Int.ediv_nonneg (le_of_lt (pow10_pos g)) (by omega)
    rename_i h
    have hne : pow10 g / 2 ≠ 0 := by simpa using h
    omega

/-- `x < geps g ↔ 2x < 10^g` : "less than half a unit of the declared precision" (for every g, also g = 0) -/
theorem lt_geps_iff (g : Nat) (x : Int) (hx : 0 ≤ x) : x < geps g ↔ 2 * x < pow10 g := by
  unfold geps
  cases g with
  | zero =>
    have : pow10 0 = 1 := by simp [pow10]
    simp [this]; omega
  | succ n =>
    have h10 : pow10 (n+1) = 10 * pow10 n := by simp [pow10, pow_succ, mul_comm]
    have hp := pow10_pos n
    have hdiv : pow10 (n+1) / 2 = 5 * pow10 n := by rw [h10]; omega
    rw [hdiv]
    have hne : (5 * pow10 n == 0) = false := by
      simp only [beq_eq_false_iff_ne, ne_eq]; omega
    simp only [hne, Bool.false_eq_true, if_false]
    rw [h10]
    constructor <;> intro h <;> omega

/-- **what `Guarded.__cmp__` decides**: below by at least the tolerance, within it, or above by at least it -/
theorem guardedCmp_spec (g : Nat) (a b : Int) :
    a + geps g ≤ b ∧ guardedCmp g a b = -1 ∨ |a - b| < geps g ∧ guardedCmp g a b = 0 ∨ b + geps g ≤ a ∧ guardedCmp g a b = 1 := by
  have hg := geps_pos g
  unfold guardedCmp
  simp only [Int.natCast_natAbs]
  by_cases h1 : |a - b| < geps g
  · exact .inr (.inl ⟨h1, if_pos h1⟩)
  · rw [if_neg h1]
    rw [abs_lt, not_and_or] at h1
    by_cases h2 : a > b
    · exact .inr (.inr ⟨by omega, if_pos h2⟩)
    · exact .inl ⟨by omega, if_neg h2⟩

/-- exactly one of <, ==, > -/
theorem guarded_trichotomy (g : Nat) (a b : Int) :
    guardedCmp g a b = -1 ∨ guardedCmp g a b = 0 ∨ guardedCmp g a b = 1 := by
  rcases guardedCmp_spec g a b with ⟨-, e⟩ | ⟨-, e⟩ | ⟨-, e⟩
  exacts [.inl e, .inr (.inl e), .inr (.inr e)]

/-! In the corollaries below `habs` lets `omega` read the middle case of `guardedCmp_spec`. -/

theorem guardedCmp_eq_zero_iff (g : Nat) (a b : Int) : guardedCmp g a b = 0 ↔ |a - b| < geps g := by
  have hg := geps_pos g
  have habs := abs_lt (a := a - b) (b := geps g)
  rcases guardedCmp_spec g a b with ⟨h, e⟩ | ⟨h, e⟩ | ⟨h, e⟩ <;> rw [e] <;> omega

/-- tolerance law: equal exactly when the stored values differ by less than half a unit of precision -/
theorem guarded_cmp_eq_iff (g : Nat) (a b : Int) : guardedCmp g a b = 0 ↔ 2 * |a - b| < pow10 g := by
  rw [← lt_geps_iff g _ (abs_nonneg _)]
  exact guardedCmp_eq_zero_iff g a b

/-- outside the tolerance: the order of the stored values -/
theorem guarded_cmp_order (g : Nat) (a b : Int) (h : ¬ 2 * |a - b| < pow10 g) :
    (guardedCmp g a b = 1 ↔ a > b) ∧ (guardedCmp g a b = -1 ↔ a < b) := by
  have hg := geps_pos g
  have habs := abs_lt (a := a - b) (b := geps g)
  rw [← lt_geps_iff g _ (abs_nonneg _)] at h
  rcases guardedCmp_spec g a b with ⟨h', e⟩ | ⟨h', e⟩ | ⟨h', e⟩ <;> rw [e] <;> omega

/-- with no guard digits the comparison is the exact one -/
theorem guarded_cmp_g0 (a b : Int) : guardedCmp 0 a b = intCmp a b := by
  have hg : geps 0 = 1 := by decide
  have habs := abs_lt (a := a - b) (b := geps 0)
  rcases guardedCmp_spec 0 a b with ⟨h, e⟩ | ⟨h, e⟩ | ⟨h, e⟩ <;> rcases intCmp_spec a b with ⟨h', e'⟩ | ⟨h', e'⟩ | ⟨h', e'⟩ <;>
    rw [e, e'] <;> omega

/-- guard = 0: every operation of Guarded is the operation of Fixed (only the class name differs) -/
theorem guarded_g0_eq_fixed (p : Nat) :
    guardedArith p 0 = { fixedArith p with name := "guarded" } := by
  unfold guardedArith fixedArith
  simp only [Nat.add_zero, beq_self_eq_true, if_true, bne_self_eq_false]
  congr 1
  funext a b
  exact guarded_cmp_g0 a b

/-! ## the comparisons in stored units: `<`, `>`, `==` leave a gap of `geps g`, and so do Python's `min` / `max` over them -/

theorem guarded_lt_iff (p g : Nat) (a b : Int) : (guardedArith p g).lt a b = true ↔ a + geps g ≤ b := by
  have hg := geps_pos g
  have habs := abs_lt (a := a - b) (b := geps g)
  show decide (guardedCmp g a b < 0) = true ↔ _
  rw [decide_eq_true_iff]
  rcases guardedCmp_spec g a b with ⟨h, e⟩ | ⟨h, e⟩ | ⟨h, e⟩ <;> rw [e] <;> omega

theorem guarded_gt_iff (p g : Nat) (a b : Int) : (guardedArith p g).gt a b = true ↔ b + geps g ≤ a := by
  have hg := geps_pos g
  have habs := abs_lt (a := a - b) (b := geps g)
  show decide (guardedCmp g a b > 0) = true ↔ _
  rw [decide_eq_true_iff]
  rcases guardedCmp_spec g a b with ⟨h, e⟩ | ⟨h, e⟩ | ⟨h, e⟩ <;> rw [e] <;> omega

theorem guarded_eq_iff (p g : Nat) (a b : Int) : (guardedArith p g).eq a b = true ↔ |a - b| < geps g := by
  show (guardedCmp g a b == 0) = true ↔ _
  rw [beq_iff_eq]
  exact guardedCmp_eq_zero_iff g a b

/-- Python's `min` under the guarded `<`: a member of the list that no member is `<` than -/
theorem guarded_pyMin (p g : Nat) : ∀ (l : List Int) (x : Int),
    (guardedArith p g).pyMin x l ≤ x ∧ (guardedArith p g).pyMin x l ∈ x :: l
    ∧ ∀ y ∈ l, (guardedArith p g).pyMin x l < y + geps g := by
  intro l x
  have hg := geps_pos g
  obtain ⟨h1, h2, h3⟩ := foldl_pick_spec (· ≤ ·) le_refl (fun _ _ _ => le_trans) (guardedArith p g).lt
    (fun y m h => by rw [guarded_lt_iff] at h; omega)
    (fun y m m' h hm => by rw [guarded_lt_iff] at h ⊢; omega) (fun y => by rw [Bool.eq_false_iff, Ne, guarded_lt_iff]; omega) l x
  exact ⟨h1, h2, fun y hy => by have := h3 y hy; rw [Bool.eq_false_iff, Ne, guarded_lt_iff] at this; exact not_le.1 this⟩

/-- Python's `max` under the guarded `>` -/
theorem guarded_pyMax (p g : Nat) : ∀ (l : List Int) (x : Int),
    x ≤ (guardedArith p g).pyMax x l ∧ (guardedArith p g).pyMax x l ∈ x :: l
    ∧ ∀ y ∈ l, y < (guardedArith p g).pyMax x l + geps g := by
  intro l x
  have hg := geps_pos g
  obtain ⟨h1, h2, h3⟩ := foldl_pick_spec (· ≥ ·) le_refl (fun _ _ _ => ge_trans) (guardedArith p g).gt
    (fun y m h => by rw [guarded_gt_iff] at h; omega)
    (fun y m m' h hm => by rw [guarded_gt_iff] at h ⊢; omega) (fun y => by rw [Bool.eq_false_iff, Ne, guarded_gt_iff]; omega) l x
  exact ⟨h1, h2, fun y hy => by have := h3 y hy; rw [Bool.eq_false_iff, Ne, guarded_gt_iff] at this; exact not_le.1 this⟩

section
variable (p g : Nat)

theorem guarded_eq_refl (a : Int) : (guardedArith p g).eq a a = true := by
  rw [guarded_eq_iff]; simp [geps_pos]

end

/-! ## the comparison statistics (third clause of C13, at the level of the comparisons themselves)

`statsRun g s pairs` is what `Guarded.maxDiff` / `Guarded.minDiff` hold after the comparisons `pairs`.  They bound every
comparison made: a pair that compared equal differs by at most `maxDiff`; a pair that compared unequal differs by at least
`minDiff`.  In particular, when `maxDiff = 0` after a count, every comparison the count made had the outcome an exact comparison
of the stored values has (`stats_clear_exact`). -/

theorem statsStep_max_mono (g : Nat) (s : CmpStats) (ab : Int × Int) : s.maxDiff ≤ (statsStep g s ab).maxDiff := by
  unfold statsStep; simp only; split <;> omega

theorem statsStep_min_anti (g : Nat) (s : CmpStats) (ab : Int × Int) : (statsStep g s ab).minDiff ≤ s.minDiff := by
  unfold statsStep; simp only; split <;> omega

theorem statsRun_max_mono (g : Nat) (s : CmpStats) (l : List (Int × Int)) : s.maxDiff ≤ (statsRun g s l).maxDiff := by
  unfold statsRun
  induction l generalizing s with
  | nil => exact le_refl _
  | cons x xs ih => simp only [List.foldl_cons]; exact le_trans (statsStep_max_mono g s x) (ih _)

theorem statsRun_min_anti (g : Nat) (s : CmpStats) (l : List (Int × Int)) : (statsRun g s l).minDiff ≤ s.minDiff := by
  unfold statsRun
  induction l generalizing s with
  | nil => exact le_refl _
  | cons x xs ih => simp only [List.foldl_cons]; exact le_trans (ih _) (statsStep_min_anti g s x)

theorem stats_maxDiff_bounds (g : Nat) (s : CmpStats) (l : List (Int × Int)) (ab : Int × Int) (hm : ab ∈ l)
    (he : guardedCmp g ab.1 ab.2 = 0) : |ab.1 - ab.2| ≤ (statsRun g s l).maxDiff := by
  have habs : ((ab.1 - ab.2).natAbs : Int) = |ab.1 - ab.2| := Int.natCast_natAbs _
  induction l generalizing s with
  | nil => cases hm
  | cons x xs ih =>
    have hrun : statsRun g s (x :: xs) = statsRun g (statsStep g s x) xs := rfl
    rw [hrun]
    rcases List.mem_cons.1 hm with rfl | hin
    · refine le_trans ?_ (statsRun_max_mono g _ xs)
      have hlt : |ab.1 - ab.2| < geps g := by
        rw [lt_geps_iff g _ (abs_nonneg _)]; exact (guarded_cmp_eq_iff g _ _).1 he
      unfold statsStep
      simp only [habs]
      split <;> omega
    · exact ih _ hin

theorem stats_minDiff_bounds (g : Nat) (s : CmpStats) (l : List (Int × Int)) (ab : Int × Int) (hm : ab ∈ l)
    (he : guardedCmp g ab.1 ab.2 ≠ 0) : (statsRun g s l).minDiff ≤ |ab.1 - ab.2| := by
  have habs : ((ab.1 - ab.2).natAbs : Int) = |ab.1 - ab.2| := Int.natCast_natAbs _
  induction l generalizing s with
  | nil => cases hm
  | cons x xs ih =>
    have hrun : statsRun g s (x :: xs) = statsRun g (statsStep g s x) xs := rfl
    rw [hrun]
    rcases List.mem_cons.1 hm with rfl | hin
    · refine le_trans (statsRun_min_anti g _ xs) ?_
      have hge : ¬ |ab.1 - ab.2| < geps g := by
        rw [lt_geps_iff g _ (abs_nonneg _)]; intro h; exact he ((guarded_cmp_eq_iff g _ _).2 h)
      unfold statsStep
      simp only [habs]
      split <;> omega
    · exact ih _ hin

/-- **clear statistics: every comparison was exact.**  If `maxDiff` is still 0 after the comparisons `l` (from the state
    `Guarded.initialize` leaves), each of them had the outcome of the exact comparison of the stored values -/
theorem stats_clear_exact (p g : Nat) (l : List (Int × Int)) (h0 : (statsRun g (statsInit p g) l).maxDiff = 0)
    (ab : Int × Int) (hm : ab ∈ l) : guardedCmp g ab.1 ab.2 = intCmp ab.1 ab.2 := by
  by_cases he : guardedCmp g ab.1 ab.2 = 0
  · have hb := stats_maxDiff_bounds g (statsInit p g) l ab hm he
    rw [h0] at hb
    have : ab.1 = ab.2 := by
      have := abs_nonneg (ab.1 - ab.2)
      have h0' : |ab.1 - ab.2| = 0 := le_antisymm hb this
      have := abs_eq_zero.1 h0'
      omega
    rw [he, this]; unfold intCmp; simp
  · have hno : ¬ 2 * |ab.1 - ab.2| < pow10 g := fun h => he ((guarded_cmp_eq_iff g _ _).2 h)
    obtain ⟨h1, h2⟩ := guarded_cmp_order g ab.1 ab.2 hno
    rcases guarded_trichotomy g ab.1 ab.2 with hc | hc | hc
    · have := h2.1 hc; rw [hc]; unfold intCmp; simp [this]
    · exact absurd hc he
    · have := h1.1 hc; rw [hc]; unfold intCmp
      have h3 : ¬ ab.1 < ab.2 := by omega
      have h4 : ¬ ab.1 = ab.2 := by omega
      simp [h3, h4]

/-- non-vacuity: a sequence with a sub-tolerance difference is recorded whichever operand is larger -/
example : (statsRun 4 (statsInit 2 4) [(100, 3434), (7, 7), (90000, 10)]).maxDiff = 3334 := by decide
example : (statsRun 4 (statsInit 2 4) [(7, 7), (90000, 10)]).maxDiff = 0 := by decide

end Droop
