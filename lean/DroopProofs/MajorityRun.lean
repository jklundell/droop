import DroopProofs.Majority
import DroopProofs.RunZero

/-! # C05, one seat, at run level: whoever holds a quota at the first election step is elected when the count ends

For each Gregory driver: if a hopeful candidate `w` of the state the main loop starts in passes the rule's quota test
there, the state the count returns has `w` elected. Nothing about the count after the first election step is used except
that the log only grows and the record is forward-only. -/
namespace Droop
variable {α : Type} [CommRing α] [LinearOrder α] [IsStrictOrderedRing α] (A : Arith α)

theorem hopeful_newRound (s : St α) : (s.newRound A).hopeful = s.hopeful := by
  unfold St.newRound St.hopeful; rw [logAct_cands]

theorem quota_newRound (s : St α) : (s.newRound A).quota = s.quota := by
  unfold St.newRound; rw [logAct_quota]

theorem scotInit_crash (s0 : St α) : (scotInit A s0).crash = s0.crash := by
  unfold scotInit
  rw [crash_logAct]
  show (firstCount A _).crash = _
  rw [firstCount_eq, foldl_fcStep_crash]; rfl

theorem scot_first_elected (hA : LawfulArith A) (hex : A.exact = false) (s0 t : St α) (h0 : ScotStart A s0)
    (hc0 : s0.crash = none) (h : scotCount A s0 = some t)
    (w : Cand α) (hw : w ∈ (scotInit A s0).hopeful) (hq : hasQuotaGE A (scotInit A s0) w = true) :
    ∃ x ∈ t.cands, x.cid = w.cid ∧ x.st = .elected := by
  have hM := (scot_record_monotone A hA hex s0 t h0 h).1
  rw [scotCount_eq] at h
  obtain ⟨s4, hl, rfl⟩ := Option.map_eq_some_iff.1 h
  refine first_elected_of_loop (fun _ => true) (scotBody A) (scotEpilogue A) (stepRel_ext A).scotBody
    (stepRel_ext A).scotEpilogue (2 * s0.cands.length + 2) _ s4 (by rw [scotInit_crash]; exact hc0) rfl hl hM
    (r := scotElect A (scotInit A s0)) (shown_electWinners A _ _ _ _ w hw hq) ?_
  unfold scotBody
  split
  · exact Ext.refl _
  · exact ((stepRel_ext A).scotRound _).trans ((stepRel_ext A).scotStage _)

theorem pendingL_nil_of_nEl {s : St α} (h : nEl s = 0) : s.pendingL = [] := by
  unfold nEl St.elected at h
  have h0 : s.cands.filter (fun c => c.st == .elected) = [] := List.eq_nil_of_length_eq_zero h
  unfold St.pendingL
  rw [List.filter_eq_nil_iff] at h0 ⊢
  intro c hc hcc
  simp only [Bool.and_eq_true] at hcc
  exact h0 c hc hcc.1

theorem wigm_first_elected (o : WigmOpts) (s0 t : St α) (h : wigmCount A o s0 = some t) (hM : Mon t)
    (hc : (wigmInit A o s0).crash = none) (hel : nEl (wigmInit A o s0) = 0) (hseats : (wigmInit A o s0).seats = 1)
    (w : Cand α) (hw : w ∈ (wigmInit A o s0).hopeful)
    (hq : (if o.prf then hasQuotaGE A else hasQuotaX A) ((wigmInit A o s0).newRound A) w = true) :
    ∃ x ∈ t.cands, x.cid = w.cid ∧ x.st = .elected := by
  rw [wigmCount_eq] at h
  obtain ⟨s4, hl, rfl⟩ := Option.map_eq_some_iff.1 h
  by_cases hg : stdGuard (wigmInit A o s0) = true
  · refine first_elected_of_loop stdGuard (wigmBody A o) (epilogueElectOrDefeat A) ((stepRel_ext A).wigmBody o)
      (stepRel_ext A).epilogue (2 * s0.cands.length + 2) _ s4 hc hg hl hM
      (r := wigmElect A o ((wigmInit A o s0).newRound A))
      (shown_electWinners A _ _ _ _ w (by rw [hopeful_newRound]; exact hw) hq) ?_
    unfold wigmBody; exact (stepRel_ext A).wigmAfterElect o _
  · -- a single candidate standing: the loop is not entered and the epilogue elects that candidate
    have hgf : stdGuard (wigmInit A o s0) = false := by simpa using hg
    have hs4 : s4 = wigmInit A o s0 :=
      loopN_guard_false stdGuard (wigmBody A o) (2 * s0.cands.length + 2) _ _ hc hgf hl
    generalize wigmInit A o s0 = s1 at *
    subst hs4
    have hlen : s4.hopeful.length ≤ 1 := by
      unfold stdGuard St.seatsLeft at hgf
      unfold nEl at hel
      simp only [Bool.and_eq_false_iff, decide_eq_false_iff_not, not_lt] at hgf
      rw [hel, hseats] at hgf
      rcases hgf with h1 | h1
      · omega
      · omega
    have hhop : s4.hopeful = [w] := by
      cases hh : s4.hopeful with
      | nil => rw [hh] at hw; cases hw
      | cons a l =>
        rw [hh] at hw hlen
        cases l with
        | nil => simp only [List.mem_singleton] at hw; rw [hw]
        | cons b l' => simp at hlen
    have hpend := pendingL_nil_of_nEl hel
    have hep : epilogueElectOrDefeat A s4 = s4.elect A w.cid "Elect remaining" false := by
      unfold epilogueElectOrDefeat
      dsimp only
      rw [hpend]
      simp only [List.foldl_nil]
      rw [hhop]
      simp only [List.foldl_cons, List.foldl_nil]
      have : s4.elected.length < s4.seats := by unfold nEl at hel; rw [hel, hseats]; omega
      rw [if_pos this]
    rw [hep]
    obtain ⟨x, hx, hxw⟩ := elect_has A s4 w.cid "Elect remaining" false w.cid ⟨w, (mem_hopeful.1 hw).1, rfl⟩
    exact ⟨x, hx, hxw, elect_sets A s4 w.cid _ _ x hx hxw⟩

theorem cfer_first_elected (hA : LawfulArith A) (hex : A.exact = false) (batch : Bool) (s0 t : St α)
    (h0 : GStart A (cferQuota A s0) s0) (hc0 : s0.crash = none) (h : cferCount A batch s0 = some t)
    (w : Cand α) (hw : w ∈ (cferInit A s0).hopeful) (hq : hasQuotaGE A ((cferInit A s0).newRound A) w = true) :
    ∃ x ∈ t.cands, x.cid = w.cid ∧ x.st = .elected := by
  have hM := (cfer_result A hA hex batch s0 t h0 h).1
  unfold cferCount at h
  have hcr : (cferInit A s0).crash = none := by rw [cferInit_eq, gInit_crash]; exact hc0
  have hw' : w ∈ ((cferInit A s0).newRound A).hopeful := by rw [hopeful_newRound]; exact hw
  have hsh : ∃ r, Shown w.cid r ∧ Ext r (cferBody A batch (cferInit A s0)).1 := by
    unfold cferBody
    split
    · refine ⟨_, ?_, Ext.refl _⟩
      unfold cferElectAll
      exact shown_foldElect A _ (fun _ => "Elect all") (fun _ => false) _ w hw' ⟨w, (mem_hopeful.1 hw').1, rfl⟩
    · exact ⟨cferElect A ((cferInit A s0).newRound A), shown_electWinners A _ _ _ _ w hw' hq,
        (stepRel_ext A).cferAfterElect batch _⟩
  obtain ⟨r, hr, hxr⟩ := hsh
  exact first_elected_of_loop (fun _ => true) (cferBody A batch) id ((stepRel_ext A).cferBody batch) Ext.refl
    (2 * s0.cands.length + 2) _ t hcr rfl h hM hr hxr

theorem mpls_first_elected (hA : LawfulArith A) (hex : A.exact = false) (s0 t : St α)
    (h0 : GStart A (mplsQuota A s0) s0) (hnu : NoUnd s0) (h : mplsCount A s0 = some t)
    (hcr : (mplsInit A s0).crash = none) (hseats : (mplsInit A s0).seats = 1)
    (w : Cand α) (hw : w ∈ (mplsInit A s0).hopeful) (hq : hasQuotaGE A (mplsInit A s0) w = true) :
    ∃ x ∈ t.cands, x.cid = w.cid ∧ x.st = .elected := by
  have hM := (mpls_result A hA hex s0 t h0 hnu h).1
  obtain ⟨hinit, _, _⟩ := mplsInit_inv A hA h0 hnu
  rw [mplsCount_eq] at h
  obtain ⟨s4, hl, rfl⟩ := Option.map_eq_some_iff.1 h
  -- the candidate is at the threshold in the state `Count Votes` is logged in
  have hcv_c : (mplsCountVotes A (mplsInit A s0)).cands = (mplsInit A s0).cands := by
    unfold mplsCountVotes; rw [logAct_cands]; rfl
  have hcv_q : (mplsCountVotes A (mplsInit A s0)).quota = (mplsInit A s0).quota := by
    unfold mplsCountVotes; rw [logAct_quota]; rfl
  have hcv_s : (mplsCountVotes A (mplsInit A s0)).seats = (mplsInit A s0).seats := by
    unfold mplsCountVotes St.logAct; simp only; split <;> rfl
  have hwh : w ∈ (mplsCountVotes A (mplsInit A s0)).hopeful := by
    unfold St.hopeful at hw ⊢; rw [hcv_c]; exact hw
  have hwu : w.undeclared = false := hinit.noUnd w (mem_hopeful.1 hw).1
  have hwt : w ∈ mplsAtThreshold A (mplsCountVotes A (mplsInit A s0)) := by
    unfold mplsAtThreshold
    rw [List.mem_filter]
    refine ⟨(mem_pySorted _ _ _ _).2 hwh, ?_⟩
    have : hasQuotaGE A (mplsCountVotes A (mplsInit A s0)) w = true := by
      unfold hasQuotaGE at hq ⊢; rw [hcv_q]; exact hq
    simp [hwu, this]
  have hlen : 1 ≤ (mplsAtThreshold A (mplsCountVotes A (mplsInit A s0))).length :=
    List.length_pos_of_mem hwt
  have hsh : Shown w.cid (mplsBody A (mplsInit A s0)).1 := by
    unfold mplsBody
    rw [if_pos (by rw [hcv_s, hseats]; omega)]
    unfold mplsElectThreshold
    exact shown_foldElect A _ (fun _ => "Candidate at threshold") (fun _ => false) _ w hwt
      ⟨w, (mem_hopeful.1 hwh).1, rfl⟩
  exact first_elected_of_loop (fun _ => true) (mplsBody A) (mplsEpilogue A) (stepRel_ext A).mplsBody
    (stepRel_ext A).mplsEpilogue (2 * s0.cands.length + 3) _ s4 hcr rfl hl hM hsh (Ext.refl _)

end Droop
