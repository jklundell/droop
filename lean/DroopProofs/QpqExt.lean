import DroopProofs.QpqSeats

/-! # C18 / C19 for QPQ: the record only grows

Every stage of a QPQ round either appends an action to the log or leaves the log alone; so do the start and the closing stage.
Hence the log of every earlier state of a count is a suffix of the log of every later one (`Ext`). -/
namespace Droop
variable {α : Type} [CommRing α] [LinearOrder α] [IsStrictOrderedRing α] (A : Arith α)

theorem acts_upd (s : St α) (cid : Nat) (f : Cand α → Cand α) : (s.upd cid f).acts = s.acts := rfl

theorem ext_qR5 (q : QSt α) : Ext q.s (qR5 A q) := by
  obtain ⟨_, ⟨_, _, h⟩, _⟩ := qR5_frame A q
  exact (qR2_fields A q).2.2.2.trans (Ext.of_acts_eq (by rw [h]))

theorem ext_qpqBody (q : QSt α) : Ext q.s (qpqBody A q).1.s := by
  rw [qpqBody_eq]
  exact (ext_qR5 A q).trans (qDecide_out A _ _).2.1

theorem ext_qpqLoop (fuel : Nat) (q r : QSt α) (h : qpqLoop A fuel q = some r) : Ext q.s r.s :=
  (qpqLoop_inv A (fun q' => Ext q.s q'.s) (fun q' hq' _ _ => hq'.trans (ext_qpqBody A q')) fuel q r (Ext.refl _) h).1

theorem ext_qpqStart (s0 : St α) : Ext s0 (qpqStart A s0).s := (qpqStart_fields A s0).2.2.2.2

theorem ext_qpqFinish (q : QSt α) : Ext q.s (qpqFinish A q) := by
  rw [qpqFinish_eq]
  split
  · exact Ext.refl _
  · have h4 : Ext q.s (fitElect A q.s) := by
      unfold fitElect
      split
      · exact ext_foldl _ (fun (s : St α) (x : Cand α) => ext_elect A s x.cid _ _) _ _
      · exact Ext.refl _
    exact h4.trans (ext_foldl _ (fun (s : St α) (x : Cand α) => ext_defeat A s x.cid _) _ _)

/-- C18 for QPQ: the log of the start state is a suffix of the log of whatever the count returns -/
theorem qpq_record_appendOnly (s0 t : St α) (h : qpqCount A s0 = some t) : Ext s0 t := by
  obtain ⟨r, hl, rfl⟩ := qpqCount_some A h
  exact (ext_qpqStart A s0).trans ((ext_qpqLoop A _ _ _ hl).trans (ext_qpqFinish A r))

end Droop
