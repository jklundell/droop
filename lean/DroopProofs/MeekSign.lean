import DroopModel.Oracles
import DroopProofs.MeekRound

/-! # Meek / Warren: nothing is negative, keep factors stay in [0, 1] (C08, second clause; strict ballots)

`KState`: every tally is ≥ 0, every keep factor lies in [0, 1], residual and quota are ≥ 0; `RecK`: every snapshot of the record shows
that.  Both hold through the whole driver, given the laws `LawfulMeek` of the arithmetic: rounding a product down never goes negative
and never exceeds the product, the two parts `w·kf` and `w·(1−kf)` of a weight together do not exceed `w`, `<` and `>=` mean what
they say.  Fixed-point arithmetic satisfies them.  The cap of `meek.py` on the updated keep factor (fix F13) is what keeps the upper
bound. -/
namespace Droop
variable {α : Type} [CommRing α] [LinearOrder α] [IsStrictOrderedRing α] (A : Arith α)

structure LawfulMeek : Prop where
  mulDown_nonneg : ∀ a b : α, 0 ≤ a → 0 ≤ b → 0 ≤ A.mul .down a b
  mulDown_split : ∀ w k : α, 0 ≤ w → 0 ≤ k → k ≤ A.one → A.mul .down w k + A.mul .down w (A.one - k) ≤ w
  lt_sound : ∀ a b : α, A.lt a b = true → a < b
  mulUp_nonneg : ∀ a b : α, 0 ≤ a → 0 ≤ b → 0 ≤ A.mul .up a b
  divUp_nonneg : ∀ a b : α, 0 ≤ a → 0 < b → 0 ≤ A.div .up a b
  divV_nonneg : ∀ a b : α, 0 ≤ a → 0 < b → 0 ≤ A.divV a b
  ge_false : ∀ a b : α, A.ge a b = false → a < b
  isZero_iff : ∀ a : α, A.isZero a = true ↔ a = 0
  eps_nonneg : 0 ≤ A.eps

def CandOK (s : St α) : Prop := ∀ c ∈ s.cands, 0 ≤ c.vote ∧ ∀ k, c.kf = some k → 0 ≤ k ∧ k ≤ A.one

structure KState (s : St α) : Prop where
  cok : CandOK A s
  rnn : 0 ≤ s.residual
  qnn : 0 ≤ s.quota

def SnapK (sn : Snap α) : Prop :=
  (∀ e ∈ sn.cs, 0 ≤ e.2.2.1 ∧ ∀ k, e.2.2.2.1 = some k → 0 ≤ k ∧ k ≤ A.one) ∧ 0 ≤ sn.x1

def RecK (s : St α) : Prop := ∀ a ∈ s.acts, ∀ sn, a.snap = some sn → SnapK A sn

def KInv (s : St α) : Prop := KState A s ∧ RecK A s

theorem keepWeight_facts (hA : LawfulArith A) (hM : LawfulMeek A) (warren : Bool) (kf w : α) (hk0 : 0 ≤ kf) (hk1 : kf ≤ A.one)
    (hw : 0 ≤ w) :
    0 ≤ (keepWeight A warren kf w).1 ∧ 0 ≤ (keepWeight A warren kf w).2
    ∧ (keepWeight A warren kf w).1 + (keepWeight A warren kf w).2 ≤ w := by
  unfold keepWeight
  cases warren with
  | true =>
    simp only [if_true, hA.sub_eq]
    by_cases hlt : A.lt kf w = true
    · simp only [hlt, if_true]
      have := hM.lt_sound kf w hlt
      refine ⟨hk0, by linarith, by linarith⟩
    · simp only [hlt, Bool.false_eq_true, if_false]
      refine ⟨hw, by linarith, by linarith⟩
  | false =>
    simp only [Bool.false_eq_true, if_false, hA.sub_eq]
    have h1 : 0 ≤ A.one - kf := by linarith
    exact ⟨hM.mulDown_nonneg w kf hw hk0, hM.mulDown_nonneg w _ hw h1, hM.mulDown_split w kf hw hk0 hk1⟩

theorem candOK_addVote (hA : LawfulArith A) {s : St α} (h : CandOK A s) (cid : Nat) (v : α) (hv : 0 ≤ v) :
    CandOK A (s.addVote A cid v) := by
  intro c' hc'
  unfold St.addVote at hc'
  obtain ⟨c, hc, rfl⟩ := mem_upd.1 hc'
  by_cases he : (c.cid == cid) = true
  · simp only [he, if_true, hA.add_eq]
    exact ⟨add_nonneg (h c hc).1 hv, (h c hc).2⟩
  · have hne : (c.cid == cid) = false := by simpa using he
    simp only [hne, Bool.false_eq_true, if_false]
    exact h c hc

/-- the running state of one ballot's descent: tallies fine, weight left ≥ 0, and the value not yet handed out covers it -/
def RankOK (m : Nat) (acc : St α × α × α × Bool) : Prop :=
  CandOK A acc.1 ∧ 0 ≤ acc.2.1 ∧ acc.2.1 * ((m : Int) : α) ≤ acc.2.2.1

theorem distRankStep_sign (hA : LawfulArith A) (hM : LawfulMeek A) (warren : Bool) (m : Nat) (acc : St α × α × α × Bool)
    (cid : Nat) (h : RankOK A m acc) :
    RankOK A m (distRankStep A warren (A.ofInt m) acc cid)
    ∧ (distRankStep A warren (A.ofInt m) acc cid).1.residual = acc.1.residual
    ∧ (distRankStep A warren (A.ofInt m) acc cid).1.quota = acc.1.quota := by
  unfold distRankStep
  split
  · exact ⟨h, rfl, rfl⟩
  · cases hkf : kfOf acc.1 cid with
    | none => exact ⟨h, rfl, rfl⟩
    | some kf =>
      simp only
      split
      · exact ⟨h, rfl, rfl⟩
      · obtain ⟨hc, hw, hres⟩ := h
        have hrange : 0 ≤ kf ∧ kf ≤ A.one := by
          unfold kfOf at hkf
          cases hcd : acc.1.cand? cid with
          | none => rw [hcd] at hkf; cases hkf
          | some c =>
            rw [hcd] at hkf
            exact (hc c (cand?_some_mem hcd).1).2 kf hkf
        obtain ⟨k1, k2, k3⟩ := keepWeight_facts A hA hM warren kf acc.2.1 hrange.1 hrange.2 hw
        have hm : (0 : α) ≤ ((m : Int) : α) := by exact_mod_cast Nat.zero_le m
        have hkv : A.mulV (keepWeight A warren kf acc.2.1).1 (A.ofInt m) = (keepWeight A warren kf acc.2.1).1 * ((m : Int) : α) :=
          hA.mulV_ofInt _ _
        refine ⟨⟨?_, k2, ?_⟩, rfl, rfl⟩
        · apply candOK_addVote A hA hc
          rw [hkv]; exact mul_nonneg k1 hm
        · show (keepWeight A warren kf acc.2.1).2 * ((m : Int) : α) ≤ A.sub acc.2.2.1 _
          rw [hA.sub_eq, hkv]
          nlinarith

theorem foldl_distRankStep_sign (hA : LawfulArith A) (hM : LawfulMeek A) (warren : Bool) (m : Nat) (rank : List Nat)
    (acc : St α × α × α × Bool) (h : RankOK A m acc) :
    RankOK A m (rank.foldl (distRankStep A warren (A.ofInt m)) acc)
    ∧ (rank.foldl (distRankStep A warren (A.ofInt m)) acc).1.residual = acc.1.residual
    ∧ (rank.foldl (distRankStep A warren (A.ofInt m)) acc).1.quota = acc.1.quota := by
  induction rank generalizing acc with
  | nil => exact ⟨h, rfl, rfl⟩
  | cons c cs ih =>
    simp only [List.foldl_cons]
    obtain ⟨a1, a2, a3⟩ := distRankStep_sign A hA hM warren m acc c h
    obtain ⟨b1, b2, b3⟩ := ih _ a1
    exact ⟨b1, b2.trans a2, b3.trans a3⟩

theorem distBallotStep_sign (hA : LawfulArith A) (hM : LawfulMeek A) (warren : Bool) {s : St α} (h : KState A s) (b : Ballot α) :
    KState A (distBallotStep A warren s b) := by
  unfold distBallotStep
  have hm : (0 : α) ≤ ((b.mult : Int) : α) := by exact_mod_cast Nat.zero_le b.mult
  have h0 : RankOK A b.mult (s, A.one, A.ofInt b.mult, false) := by
    refine ⟨h.cok, le_of_lt hA.one_pos, ?_⟩
    show A.one * _ ≤ A.ofInt b.mult
    rw [hA.ofInt_eq]; linarith [mul_comm A.one (((b.mult : Nat) : Int) : α)]
  obtain ⟨⟨c1, c2, c3⟩, r1, r2⟩ := foldl_distRankStep_sign A hA hM warren b.mult b.rank _ h0
  refine ⟨c1, ?_, ?_⟩
  · show 0 ≤ A.add _ _
    rw [hA.add_eq, r1]
    have : 0 ≤ (b.rank.foldl (distRankStep A warren (A.ofInt b.mult)) (s, A.one, A.ofInt b.mult, false)).2.2.1 :=
      le_trans (mul_nonneg c2 hm) c3
    exact add_nonneg h.rnn this
  · show 0 ≤ (b.rank.foldl (distRankStep A warren (A.ofInt b.mult)) (s, A.one, A.ofInt b.mult, false)).1.quota
    rw [r2]; exact h.qnn

theorem distributeVotes_sign (hA : LawfulArith A) (hM : LawfulMeek A) (warren : Bool) {s : St α} (h : KState A s)
    (hq : s.ballotsEq = []) : KState A (distributeVotes A warren s) := by
  rw [distributeVotes_strict A warren s hq]
  have hstart : KState A (startDist A s) := by
    unfold startDist zeroActiveVotes St.setResidual
    refine ⟨?_, by rw [hA.zero_eq], h.qnn⟩
    intro c' hc'
    obtain ⟨c, hc, rfl⟩ := List.mem_map.1 hc'
    split
    · exact ⟨by rw [hA.zero_eq], (h.cok c hc).2⟩
    · exact h.cok c hc
  have hstrict : KState A (distStrict A warren (startDist A s)) := by
    unfold distStrict
    have : ∀ (bs : List (Ballot α)) (t : St α), KState A t → KState A (bs.foldl (distBallotStep A warren) t) := by
      intro bs; induction bs with
      | nil => intro t ht; exact ht
      | cons b bs ih => intro t ht; simp only [List.foldl_cons]; exact ih _ (distBallotStep_sign A hA hM warren ht b)
    exact this _ _ hstart
  exact hstrict

theorem KInv.of_same {s t : St α} (h : KInv A s) (hc : t.cands = s.cands) (hr : t.residual = s.residual)
    (hq : t.quota = s.quota) (ha : t.acts = s.acts) : KInv A t :=
  ⟨⟨by unfold CandOK; rw [hc]; exact h.1.cok, by rw [hr]; exact h.1.rnn, by rw [hq]; exact h.1.qnn⟩,
   by unfold RecK; rw [ha]; exact h.2⟩

theorem snapK_mkSnap {s : St α} (h : KState A s) (hm : s.method = .meek) : SnapK A (s.mkSnap A) := by
  unfold SnapK St.mkSnap
  refine ⟨?_, ?_⟩
  · intro e he
    obtain ⟨c, hc, rfl⟩ := List.mem_map.1 he
    exact h.cok c hc
  · simp only [hm, beq_self_eq_true, if_true]; exact h.rnn

theorem KInv.logAct {s : St α} (h : KInv A s) (hm : s.method = .meek) (tag verb : String) (subj : List Nat) :
    KInv A (s.logAct A tag verb subj) := by
  have hfr : (s.logAct A tag verb subj).cands = s.cands ∧ (s.logAct A tag verb subj).residual = s.residual
      ∧ (s.logAct A tag verb subj).quota = s.quota := by
    unfold St.logAct; simp only; split <;> exact ⟨rfl, rfl, rfl⟩
  obtain ⟨e1, e2, e3⟩ := hfr
  exact ⟨⟨by unfold CandOK; rw [e1]; exact h.1.cok, by rw [e2]; exact h.1.rnn, by rw [e3]; exact h.1.qnn⟩,
    logAct_snaps A s tag verb subj (snapK_mkSnap A h.1 hm) h.2⟩

theorem KInv.logMsg {s : St α} (h : KInv A s) (verb : String) (subj : List Nat) (v : Option α) : KInv A (s.logMsg verb subj v) := by
  refine ⟨⟨h.1.cok, h.1.rnn, h.1.qnn⟩, ?_⟩
  intro a ha sn hsn
  unfold St.logMsg at ha
  rcases List.mem_cons.mp ha with rfl | ha'
  · simp at hsn
  · exact h.2 a ha' sn hsn

theorem KInv.newRound {s : St α} (h : KInv A s) (hm : s.method = .meek) : KInv A (s.newRound A) := by
  unfold St.newRound
  exact (h.of_same A (t := { s with round := s.round + 1 }) rfl rfl rfl rfl).logAct A hm _ _ _

theorem KInv.setCrash {s : St α} (h : KInv A s) (k : String) : KInv A (s.setCrash k) := by
  unfold St.setCrash; split
  · exact h
  · exact h.of_same A rfl rfl rfl rfl

theorem KInv.upd_status {s : St α} (h : KInv A s) (cid : Nat) (f : Cand α → Cand α)
    (hf : ∀ c, (f c).vote = c.vote ∧ (f c).kf = c.kf) : KInv A (s.upd cid f) := by
  refine ⟨⟨?_, h.1.rnn, h.1.qnn⟩, h.2⟩
  intro c' hc'
  obtain ⟨c, hc, rfl⟩ := mem_upd.1 hc'
  split
  · rw [(hf c).1, (hf c).2]; exact h.1.cok c hc
  · exact h.1.cok c hc

theorem meth_logAct (s : St α) (tag verb : String) (subj : List Nat) : (s.logAct A tag verb subj).method = s.method := by
  unfold St.logAct; simp only; split <;> rfl

theorem KInv.elect {s : St α} (h : KInv A s) (hm : s.method = .meek) (cid : Nat) (verb : String) (p : Bool) :
    KInv A (s.elect A cid verb p) := by
  unfold St.elect
  exact (h.upd_status A cid (fun c => { c with st := .elected, pending := p }) (fun _ => ⟨rfl, rfl⟩)).logAct A hm _ _ _

theorem KInv.foldElect {s : St α} (h : KInv A s) (hm : s.method = .meek) (ws : List (Cand α)) (verb : String) :
    KInv A (ws.foldl (fun acc c => acc.elect A c.cid verb false) s)
    ∧ (ws.foldl (fun acc c => acc.elect A c.cid verb false) s).method = .meek := by
  induction ws generalizing s with
  | nil => exact ⟨h, hm⟩
  | cons w ws ih =>
    simp only [List.foldl_cons]
    apply ih (h.elect A hm w.cid verb false)
    unfold St.elect; rw [meth_logAct]; exact hm

theorem KInv.breakTie {s : St α} (h : KInv A s) (hm : s.method = .meek) (tied : List (Cand α)) (verb : String) :
    KInv A (Droop.breakTie A s tied verb).1 := by
  unfold Droop.breakTie
  split
  · exact h.setCrash A _
  · exact h
  · exact h.logAct A hm _ _ _

theorem activeVotes_nonneg (hA : LawfulArith A) {s : St α} (h : CandOK A s) : 0 ≤ activeVotes A s := by
  unfold activeVotes
  rw [arith_sum_eq A hA]
  apply List.sum_nonneg
  intro x hx
  obtain ⟨c, hc, rfl⟩ := List.mem_map.1 hx
  have hcm : c ∈ s.cands := by
    rcases List.mem_append.1 hc with h1 | h1
    · exact (mem_hopeful.1 h1).1
    · unfold St.elected at h1; exact (List.mem_filter.1 h1).1
  exact (h c hcm).1

theorem meekQuota_nonneg (hA : LawfulArith A) (hM : LawfulMeek A) (s : St α) (hv : 0 ≤ s.votes) : 0 ≤ meekQuota A s := by
  unfold meekQuota
  have hden : (0 : α) < A.ofInt ((s.seats : Int) + 1) := by
    rw [hA.ofInt_eq]
    have : (0 : α) < (((s.seats : Int) + 1 : Int) : α) := by exact_mod_cast Nat.succ_pos s.seats
    exact mul_pos this hA.one_pos
  have hd := hM.divV_nonneg s.votes _ hv hden
  split
  · exact hd
  · rw [hA.add_eq]; exact add_nonneg hd hM.eps_nonneg

/-- the invariant threaded through the driver: the identity bundle and the sign bundle -/
def MK (s : St α) : Prop := MInv A s ∧ KInv A s

theorem MK.distribute (hA : LawfulArith A) (hM : LawfulMeek A) (warren : Bool) {s : St α} (hp : MPre A s) (hk : KInv A s) :
    MK A (distributeVotes A warren s) := by
  refine ⟨hp.distribute A hA warren, distributeVotes_sign A hA hM warren hk.1 hp.noEq, ?_⟩
  have := (distributeVotes_frame A warren s hp.noEq).2.2.2.2
  unfold RecK; rw [this]; exact hk.2

theorem MK.meekIterCore (hA : LawfulArith A) (hM : LawfulMeek A) (o : MeekOpts) {s : St α} (h : MK A s) :
    MK A (Droop.meekIterCore A o s) := by
  refine ⟨h.1.meekIterCore A hA o, ?_⟩
  unfold Droop.meekIterCore
  dsimp only
  obtain ⟨hm1, hk1⟩ := MK.distribute A hA hM o.warren h.1.toMPre h.2
  have hav := activeVotes_nonneg A hA hk1.1.cok
  generalize distributeVotes A o.warren s = d at *
  have hk2 : KInv A (d.setVotes (activeVotes A d)) := hk1.of_same A rfl rfl rfl rfl
  have hq : 0 ≤ meekQuota A (d.setVotes (activeVotes A d)) := meekQuota_nonneg A hA hM _ hav
  have hk3 : KInv A ((d.setVotes (activeVotes A d)).setQuota (meekQuota A (d.setVotes (activeVotes A d)))) :=
    ⟨⟨hk2.1.cok, hk2.1.rnn, hq⟩, hk2.2⟩
  have hm3 : ((d.setVotes (activeVotes A d)).setQuota (meekQuota A (d.setVotes (activeVotes A d)))).method = .meek := hm1.meth
  have hk4 := (hk3.foldElect A hm3 (meekWinners A ((d.setVotes (activeVotes A d)).setQuota (meekQuota A (d.setVotes (activeVotes A d))))) "Elect").1
  exact hk4.of_same A rfl rfl rfl rfl

theorem KInv.kfFold (hA : LawfulArith A) (hM : LawfulMeek A) (l : List (Cand α)) {s : St α} (h : KInv A s)
    (hl : ∀ c ∈ l, 0 ≤ c.vote ∧ ∀ k, c.kf = some k → 0 ≤ k ∧ k ≤ A.one) : KInv A (l.foldl (kfStep A true) s) := by
  induction l generalizing s with
  | nil => exact h
  | cons c cs ih =>
    simp only [List.foldl_cons]
    apply ih _ (fun c' hc' => hl c' (by simp [hc']))
    unfold kfStep
    split
    · rename_i kf hkf
      split
      · exact h.setCrash A _
      · rename_i hnz
        obtain ⟨hv, hk⟩ := hl c (by simp)
        obtain ⟨hk0, _⟩ := hk kf hkf
        have hvpos : 0 < c.vote := by
          rcases lt_or_eq_of_le hv with h1 | h1
          · exact h1
          · exfalso; apply hnz; rw [hM.isZero_iff]; exact h1.symm
        have hnn : 0 ≤ A.div .up (A.mul .up kf s.quota) c.vote :=
          hM.divUp_nonneg _ _ (hM.mulUp_nonneg kf s.quota hk0 h.1.qnn) hvpos
        have hcap : 0 ≤ kfCap A true (A.div .up (A.mul .up kf s.quota) c.vote)
            ∧ kfCap A true (A.div .up (A.mul .up kf s.quota) c.vote) ≤ A.one := by
          unfold kfCap
          by_cases hge : A.ge (A.div .up (A.mul .up kf s.quota) c.vote) A.one = true
          · simp only [hge, Bool.and_self, if_true]
            exact ⟨le_of_lt hA.one_pos, le_refl _⟩
          · have hf : A.ge (A.div .up (A.mul .up kf s.quota) c.vote) A.one = false := by simpa using hge
            simp only [hf, Bool.and_false, Bool.false_eq_true, if_false]
            exact ⟨hnn, le_of_lt (hM.ge_false _ _ hf)⟩
        refine ⟨⟨?_, h.1.rnn, h.1.qnn⟩, h.2⟩
        intro c' hc'
        obtain ⟨c0, hc0, rfl⟩ := mem_upd.1 hc'
        split
        · refine ⟨(h.1.cok c0 hc0).1, ?_⟩
          intro k hk'
          simp only [Option.some.injEq] at hk'
          rw [← hk']; exact hcap
        · exact h.1.cok c0 hc0
    · exact h.setCrash A _

theorem MK.kfUpdate (hA : LawfulArith A) (hM : LawfulMeek A) {s : St α} (h : MK A s) : MK A (Droop.kfUpdate A true s) := by
  refine ⟨h.1.kfUpdate A true, ?_⟩
  rw [kfUpdate_eq]
  apply h.2.kfFold A hA hM
  intro c hc
  unfold St.elected at hc
  exact h.2.1.cok c (List.mem_filter.1 hc).1

theorem MK.logAct {s : St α} (h : MK A s) (tag verb : String) (subj : List Nat) : MK A (s.logAct A tag verb subj) :=
  ⟨h.1.logAct A _ _ _, h.2.logAct A h.1.meth _ _ _⟩

theorem MK.meekIterate (hA : LawfulArith A) (hM : LawfulMeek A) (o : MeekOpts) (omega : α) :
    ∀ (fuel : Nat) (last : α) (s : St α), MK A s → MK A (Droop.meekIterate A o omega fuel last s).1 :=
  meekIterate_preserves A o omega (fun _ h => h.meekIterCore A hA hM o) (fun _ h => h.kfUpdate A hA hM)
    (fun _ _ h => ⟨h.1.logMsg A _ _ _, h.2.logMsg A _ _ _⟩)

theorem MK.meekDefeatOne (hA : LawfulArith A) (hM : LawfulMeek A) (hz : A.isZero A.zero = true) (o : MeekOpts) {s : St α}
    (h : MK A s) (cid : Nat) (verb : String) : MK A (Droop.meekDefeatOne A o s cid verb) := by
  unfold Droop.meekDefeatOne
  apply MK.distribute A hA hM o.warren (h.1.defeatZero A hA hz cid verb)
  -- sign facts of the state with the candidate marked defeated, keep factor and tally zeroed
  have hd : KInv A (s.defeat A cid verb) := by
    unfold St.defeat
    exact (h.2.upd_status A cid (fun c => { c with st := .defeated }) (fun _ => ⟨rfl, rfl⟩)).logAct A h.1.meth _ _ _
  refine ⟨⟨?_, hd.1.rnn, hd.1.qnn⟩, hd.2⟩
  intro c' hc'
  obtain ⟨c, hc, rfl⟩ := mem_upd.1 hc'
  split
  · refine ⟨by rw [hA.zero_eq], ?_⟩
    intro k hk
    simp only [Option.some.injEq] at hk
    rw [← hk, hA.zero_eq]
    exact ⟨le_refl _, le_of_lt hA.one_pos⟩
  · exact hd.1.cok c hc

theorem meekStable_MK (hA : LawfulArith A) (hM : LawfulMeek A) (hz : A.isZero A.zero = true) (o : MeekOpts) :
    MeekStable A o (MK A) :=
  { inv := fun h => h.1
    logAct := fun h => h.logAct A
    logMsg := fun h v => ⟨h.1.logMsg A _ _ v, h.2.logMsg A _ _ v⟩
    setCrash := fun h k => ⟨h.1.setCrash A k, h.2.setCrash A k⟩
    nextRound := fun h => ⟨h.1.of_same A rfl rfl rfl rfl rfl rfl rfl, h.2.of_same A rfl rfl rfl rfl⟩
    core := fun h => h.meekIterCore A hA hM o
    kf := fun h => h.kfUpdate A hA hM
    defeatOne := fun h cid verb _ => h.meekDefeatOne A hA hM hz o cid verb
    electDist := fun h cid verb _ =>
      MK.distribute A hA hM o.warren (h.1.elect A cid verb false).toMPre (h.2.elect A h.1.meth cid verb false) }

/-- if the bundles hold when the main loop is entered they hold when it exits
    and after the remaining candidates have been elected or defeated — so every snapshot logged on the way shows
    votes + residual = ballots, no negative tally or residual, and every keep factor in [0, 1] -/
theorem meek_loop_sign (hA : LawfulArith A) (hM : LawfulMeek A) (hz : A.isZero A.zero = true) (o : MeekOpts) (omega : α)
    (iterFuel fuel : Nat) (s t : St α) (h : MK A s)
    (hl : loopN (fun s => !meekCountComplete s) (meekBody A o omega iterFuel) fuel s = some t) :
    MK A t ∧ MK A (t.hopeful.foldl (meekRemainingStep A o) t) :=
  have ht := (meekStable_MK A hA hM hz o).loop hA hz omega iterFuel fuel h hl
  ⟨ht, (meekStable_MK A hA hM hz o).remaining hA hz ht⟩

theorem KInv.meekInit (hA : LawfulArith A) (hM : LawfulMeek A) {s0 : St α} (h0 : MInit A s0) : KInv A (Droop.meekInit A s0) := by
  unfold Droop.meekInit
  set s3 : St α := ((s0.setVotes (A.ofInt s0.nballots)).setQuota (meekQuota A (s0.setVotes (A.ofInt s0.nballots)))).initKf A.one with hs3
  have hq3 : s3.ballotsEq = [] := h0.noEq
  rw [meekFirstCount_eq A s3 hq3]
  have hn : (0 : α) ≤ A.ofInt s0.nballots := by
    rw [hA.ofInt_eq]
    exact mul_nonneg (by exact_mod_cast Nat.zero_le s0.nballots) (le_of_lt hA.one_pos)
  have hk3 : KState A s3 := by
    refine ⟨?_, ?_, ?_⟩
    · intro c' hc'
      obtain ⟨c, hc, rfl⟩ := List.mem_map.1 (show c' ∈ s0.cands.map _ from hc')
      obtain ⟨hv, hkf, _⟩ := h0.fresh c hc
      split
      · refine ⟨by rw [hv], ?_⟩
        intro k hk; simp only [Option.some.injEq] at hk; rw [← hk]
        exact ⟨le_of_lt hA.one_pos, le_refl _⟩
      · refine ⟨by rw [hv], ?_⟩
        intro k hk; rw [hkf] at hk; cases hk
    · show 0 ≤ s0.residual; rw [h0.residual0]
    · show 0 ≤ meekQuota A (s0.setVotes (A.ofInt s0.nballots))
      exact meekQuota_nonneg A hA hM _ hn
  have hfold : ∀ (bs : List (Ballot α)) (t : St α), KState A t → t.acts = [] →
      KState A (bs.foldl (mfcStep A) t) ∧ (bs.foldl (mfcStep A) t).acts = [] ∧ (bs.foldl (mfcStep A) t).method = t.method := by
    intro bs; induction bs with
    | nil => intro t ht ha; exact ⟨ht, ha, rfl⟩
    | cons b bs ih =>
      intro t ht ha
      simp only [List.foldl_cons]
      have hstep : KState A (mfcStep A t b) ∧ (mfcStep A t b).acts = [] ∧ (mfcStep A t b).method = t.method := by
        unfold mfcStep
        split
        · refine ⟨⟨candOK_addVote A hA ht.cok _ _ ?_, ht.rnn, ht.qnn⟩, ha, rfl⟩
          rw [hA.ofInt_eq]
          exact mul_nonneg (by exact_mod_cast Nat.zero_le b.mult) (le_of_lt hA.one_pos)
        · exact ⟨ht, ha, rfl⟩
      obtain ⟨a1, a2, a3⟩ := ih _ hstep.1 hstep.2.1
      exact ⟨a1, a2, a3.trans hstep.2.2⟩
  obtain ⟨k1, k2, k3⟩ := hfold s3.ballots s3 hk3 h0.noActs
  apply KInv.logAct A ⟨k1, by unfold RecK; rw [k2]; intro a ha; cases ha⟩ (k3.trans h0.meth)

/-- **C08 for meek and warren on strict ballots, from the start of the count**: every snapshot of the record up to the last
    exclusion or election shows votes + residual = ballots exactly, no negative tally, no negative residual, and every keep
    factor between 0 and 1 -/
theorem meek_sign (hA : LawfulArith A) (hM : LawfulMeek A) (hz : A.isZero A.zero = true) (o : MeekOpts) (omega : α)
    (iterFuel fuel : Nat) (s0 t : St α) (h0 : MInit A s0)
    (hl : loopN (fun s => !meekCountComplete s) (meekBody A o omega iterFuel) fuel (meekInit A s0) = some t) :
    RecM A (t.hopeful.foldl (meekRemainingStep A o) t) ∧ RecK A (t.hopeful.foldl (meekRemainingStep A o) t)
    ∧ KState A (t.hopeful.foldl (meekRemainingStep A o) t) := by
  have := (meek_loop_sign A hA hM hz o omega iterFuel fuel _ t ⟨MInv.meekInit A hA h0, KInv.meekInit A hA hM h0⟩ hl).2
  exact ⟨this.1.recM, this.2.2, this.2.1⟩

theorem fixed_lawfulMeek (p : Nat) : LawfulMeek (fixedArith p) := by
  have hS := pow10_pos p
  have hdm : ∀ (r : Round) (n d : Int), 0 ≤ n → 0 < d → 0 ≤ divmodRound r n d := by
    intro r n d hn hd
    have hd0 : (d == 0) = false := by simp; exact ne_of_gt hd
    have hq : 0 ≤ pdiv n d := pdiv_nonneg n d hn hd
    unfold divmodRound
    simp only [hd0, Bool.false_eq_true, if_false]
    split <;> omega
  refine
    { mulDown_nonneg := ?_, mulDown_split := ?_, lt_sound := ?_, mulUp_nonneg := ?_, divUp_nonneg := ?_, divV_nonneg := ?_,
      ge_false := ?_, isZero_iff := ?_, eps_nonneg := by show (0 : Int) ≤ 1; omega }
  · intro a b ha hb
    exact hdm .down (a * b) (pow10 p) (mul_nonneg ha hb) hS
  · intro w k hw hk0 hk1
    have hS0 : (pow10 p == 0) = false := by simp; exact ne_of_gt hS
    show divmodRound .down (w * k) (pow10 p) + divmodRound .down (w * (pow10 p - k)) (pow10 p) ≤ w
    simp only [divmodRound, hS0, Bool.false_eq_true, if_false]
    simp
    have h1 := pdiv_mul_le (w * k) (pow10 p) hS
    have h2 := pdiv_mul_le (w * (pow10 p - k)) (pow10 p) hS
    have : (pdiv (w * k) (pow10 p) + pdiv (w * (pow10 p - k)) (pow10 p)) * pow10 p ≤ w * pow10 p := by nlinarith
    exact le_of_mul_le_mul_right this hS
  · intro a b h
    rw [fixed_lt] at h
    exact of_decide_eq_true h
  · intro a b ha hb
    exact hdm .up (a * b) (pow10 p) (mul_nonneg ha hb) hS
  · intro a b ha hb
    exact hdm .up (a * pow10 p) b (mul_nonneg ha (le_of_lt hS)) hb
  · intro a b ha hb
    have hb0 : (b == 0) = false := by simp; exact ne_of_gt hb
    show 0 ≤ (if (b == 0) = true then 0 else pdiv (a * pow10 p) b)
    simp only [hb0, Bool.false_eq_true, if_false]
    exact pdiv_nonneg _ _ (mul_nonneg ha (le_of_lt hS)) hb
  · intro a b h
    rw [fixed_ge] at h
    exact not_le.1 (of_decide_eq_false h)
  · intro a
    show (a == 0) = true ↔ a = 0
    simp

end Droop
