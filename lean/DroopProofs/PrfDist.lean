import DroopProofs.MeekDist

/-! # meek-prf distribution (reference rule B.2.a): votes credited plus residual grow by exactly the ballots (C08, C02) -/
namespace Droop
variable {α : Type} [CommRing α] [LinearOrder α] [IsStrictOrderedRing α] (A : Arith α)

theorem foldl_prfBallotStep_sum (hA : LawfulArith A) (bs : List (Ballot α)) (s : St α) (hwf : s.WF) :
    (bs.foldl (prfBallotStep A) s).sumVotes + (bs.foldl (prfBallotStep A) s).residual
      = s.sumVotes + s.residual + (bs.map (fun b => A.ofInt b.mult)).sum
    ∧ (bs.foldl (prfBallotStep A) s).skel = s.skel := by
  rw [prfBallotStep_gen]
  exact foldl_genBallotStep_sum A hA _ bs s hwf

/-- starting from the state `prfIterate` distributes from — active tallies zeroed, residual zero — the tallies credited plus
    the residual are the tallies that were not zeroed plus the number of ballots -/
theorem prf_distribution_conserves (hA : LawfulArith A) (s : St α) (hwf : s.WF) :
    let s1 : St α := { zeroActiveVotes A s with residual := A.zero }
    (s1.ballots.foldl (prfBallotStep A) s1).sumVotes + (s1.ballots.foldl (prfBallotStep A) s1).residual
      = s1.sumVotes + (s.ballots.map (fun b => A.ofInt b.mult)).sum := by
  intro s1
  have hsk : s1.skel = s.skel := startDist_skel A s
  have hwf1 : s1.WF := WF_of_skel hsk.symm hwf
  obtain ⟨h1, _⟩ := foldl_prfBallotStep_sum A hA s1.ballots s1 hwf1
  rw [h1]
  have hr : s1.residual = A.zero := rfl
  have hb : s1.ballots = s.ballots := rfl
  rw [hr, hA.zero_eq, hb]; ring

end Droop
