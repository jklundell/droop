import DroopProofs.InvInit

/-! # CfER (cfer, cfer-batch): every round preserves the bundle -/
namespace Droop
variable {α : Type} [CommRing α] [LinearOrder α] [IsStrictOrderedRing α] (A : Arith α)

/-- electing without a pending transfer takes the candidate out of the scope of the tally invariant: no precondition -/
theorem Inv.electNP {s : St α} (h : Inv A s) (cid : Nat) (verb : String) : Inv A (s.elect A cid verb false) := by
  unfold St.elect
  apply Inv.logAct
  refine Inv.upd_status A h cid _ ?_ ?_ ?_
  · intro c; exact ⟨rfl, rfl⟩
  · intro c _ _ hs
    rcases hs with hs | ⟨_, hp⟩
    · simp at hs
    · simp at hp
  · intro c _ _ _ hp; simp at hp

theorem Inv.foldElectNP {s : St α} (h : Inv A s) (ws : List (Cand α)) (verb : String) :
    Inv A (ws.foldl (fun acc c => acc.elect A c.cid verb false) s) := by
  induction ws generalizing s with
  | nil => exact h
  | cons w ws ih => simp only [List.foldl_cons]; exact ih (h.electNP A w.cid verb)

theorem Inv.cferInit (hA : LawfulArith A) {s0 : St α} (h0 : Init A s0)
    (hq : 0 < A.add (A.divV (A.ofInt s0.nballots) (A.ofInt (s0.seats + 1))) A.eps) : Inv A (Droop.cferInit A s0) := by
  unfold Droop.cferInit; exact Inv.init A hA _ h0 hq

theorem Inv.cferElectAll {s : St α} (h : Inv A s) : Inv A (Droop.cferElectAll A s).1 := by
  unfold Droop.cferElectAll; exact h.foldElectNP A _ _

theorem Inv.cferElect (hA : LawfulArith A) (hex : A.exact = false) {s : St α} (h : Inv A s) : Inv A (Droop.cferElect A s) := by
  unfold Droop.cferElect
  apply h.electWinners A
  intro c hc
  exact hasQuotaGE_sound A hA hex s c hc

theorem Inv.cferSeatsFull {s : St α} (h : Inv A s) : Inv A (Droop.cferSeatsFull A s).1 := by
  unfold Droop.cferSeatsFull
  exact (h.foldUnpend A s.pendingL).foldDefeat A _ _

theorem Inv.cferFinishDefeats (hA : LawfulArith A) {s : St α} (h : Inv A s) (defeats : List (Cand α))
    (hj : JustDefeated A s (defeats.map (·.cid))) : Inv A (Droop.cferFinishDefeats A s defeats).1 := by
  unfold Droop.cferFinishDefeats
  split
  · exact (h.foldElectNP A _ _).foldElectNP A _ _
  · exact h.transferDefeatedMany A hA _ _ hj.1 hj.2

theorem Inv.cferDefeatBatch (hA : LawfulArith A) {s : St α} (h : Inv A s) (defeats : List (Cand α))
    (hsub : ∀ w ∈ defeats, w ∈ s.hopeful) (hnd : (defeats.map (·.cid)).Nodup) :
    Inv A (Droop.cferDefeatBatch A s defeats).1 := by
  unfold Droop.cferDefeatBatch
  apply Inv.cferFinishDefeats A hA (h.foldDefeat A _ _)
  exact justDefeated_foldDefeat A h defeats (byBallotOrder defeats) _ (pySorted_perm _ _ _) hnd hsub

theorem Inv.cferDefeatLow (hA : LawfulArith A) {s : St α} (h : Inv A s) : Inv A (Droop.cferDefeatLow A s).1 := by
  unfold Droop.cferDefeatLow
  split
  · exact h.setCrash A _
  · rename_i lv _
    have hI1 := h.breakTie A (s.hopeful.filter (fun c => A.eq c.vote lv)) "Break tie (defeat)"
    have hmem := breakTie_mem A s (s.hopeful.filter (fun c => A.eq c.vote lv)) "Break tie (defeat)"
    have hhop := (tieBreak_breakTie A s "Break tie (defeat)").hopeful (s.hopeful.filter (fun c => A.eq c.vote lv))
    split
    · rename_i s3 lc heq
      rw [heq] at hI1 hmem hhop
      have hl : lc ∈ s3.hopeful := by
        rw [show s3.hopeful = s.hopeful from hhop]; exact (List.mem_filter.1 (hmem lc rfl)).1
      exact Inv.cferFinishDefeats A hA (hI1.defeat A lc.cid "Defeat") [lc] (justDefeated_defeat A hI1 hl "Defeat")
    · rename_i s3 heq
      rw [heq] at hI1
      exact hI1

end Droop

namespace Droop
variable {α : Type} [CommRing α] [LinearOrder α] [IsStrictOrderedRing α] (A : Arith α)

theorem transferSurplus_skel (s : St α) (hc : Cand α) (rew : α → α → α → α) (verb : String) :
    (transferSurplus A s hc rew verb).skel = s.skel := by
  unfold transferSurplus
  dsimp only
  unfold St.skel
  rw [logAct_cands]
  show ((transferAll A s [hc.cid] _).setVote hc.cid _).skel = s.skel
  rw [setVote_skel, transferAll_skel]

theorem cand?_mem {s : St α} {cid : Nat} {c : Cand α} (h : s.cand? cid = some c) : c ∈ s.cands ∧ c.cid = cid := by
  unfold St.cand? at h
  exact ⟨List.mem_of_find?_eq_some h, by have := List.find?_some h; simpa using this⟩

/-- the remaining pending candidates are still elected-with-transfer-pending -/
def StillPending (s : St α) (rem : List (Cand α)) : Prop :=
  ∀ c ∈ rem, ∃ x ∈ s.cands, x.cid = c.cid ∧ x.st = .elected ∧ x.pending = true

theorem Inv.cferSurplusOne (hA : LawfulArith A) {s : St α} (h : Inv A s) (c : Cand α)
    (hp : ∃ x ∈ s.cands, x.cid = c.cid ∧ x.st = .elected ∧ x.pending = true) :
    Inv A (Droop.cferSurplusOne A s c) ∧ (Droop.cferSurplusOne A s c).skel = (s.unpendLog A c.cid "Transfer surplus").skel := by
  unfold Droop.cferSurplusOne
  obtain ⟨x, hxm, hxc, hxe, hxp⟩ := hp
  cases hf : s.cand? c.cid with
  | none =>
    exfalso
    have := (cand?_isSome_iff s c.cid).2 ⟨x, hxm, hxc⟩
    rw [hf] at this; cases this
  | some cur =>
    simp only
    obtain ⟨hcm, hcc⟩ := cand?_mem hf
    have hcx : cur = x := nodup_cid_eq h.wf hcm hxm (hcc.trans hxc.symm)
    subst hcx
    refine ⟨?_, transferSurplus_skel A _ _ _ _⟩
    rw [← hcc]
    exact (gstep_surplusOf A hA _ (rewMulDiv_law A hA) h (mem_pendingL.2 ⟨hcm, hxe, hxp⟩) _ _).inv

theorem stillPending_step {s t : St α} (c : Cand α) (rem : List (Cand α))
    (hsk : t.skel = (s.unpendLog A c.cid "Transfer surplus").skel)
    (hne : ∀ c' ∈ rem, c'.cid ≠ c.cid) (hp : StillPending s rem) : StillPending t rem := by
  intro c' hc'
  obtain ⟨x, hxm, hxc, hxe, hxp⟩ := hp c' hc'
  have hx1 : x ∈ (s.unpendLog A c.cid "Transfer surplus").cands := by
    unfold St.unpendLog; rw [logAct_cands]
    exact mem_upd_of_ne hxm (by rw [hxc]; exact hne c' hc')
  have : x.skel ∈ (s.unpendLog A c.cid "Transfer surplus").skel := List.mem_map.2 ⟨x, hx1, rfl⟩
  rw [← hsk] at this
  obtain ⟨x', hx', hsk'⟩ := List.mem_map.1 this
  have hst := skel_st hsk'
  exact ⟨x', hx', (skel_cid hsk').trans hxc, hst.1.trans hxe, hst.2.trans hxp⟩

theorem Inv.foldSurplus (hA : LawfulArith A) (rem : List (Cand α)) {s : St α} (h : Inv A s)
    (hnd : (rem.map (·.cid)).Nodup) (hp : StillPending s rem) : Inv A (rem.foldl (Droop.cferSurplusOne A) s) := by
  induction rem generalizing s with
  | nil => exact h
  | cons c cs ih =>
    simp only [List.foldl_cons]
    simp only [List.map_cons, List.nodup_cons, List.mem_map, not_exists, not_and] at hnd
    obtain ⟨h1, hsk⟩ := h.cferSurplusOne A hA c (hp c (by simp))
    apply ih h1 hnd.2
    exact stillPending_step A c cs hsk (fun c' hc' e => hnd.1 c' hc' e) (fun c' hc' => hp c' (by simp [hc']))

theorem pendingL_cids_nodup {s : St α} (hwf : s.WF) : (s.pendingL.map (·.cid)).Nodup := by
  unfold St.pendingL
  exact List.Nodup.sublist (List.Sublist.map _ List.filter_sublist) hwf

theorem Inv.cferSurplusAll (hA : LawfulArith A) {s : St α} (h : Inv A s) : Inv A (Droop.cferSurplusAll A s) := by
  unfold Droop.cferSurplusAll
  apply h.foldSurplus A hA s.pendingL (pendingL_cids_nodup h.wf)
  intro c hc
  obtain ⟨a, b, d⟩ := mem_pendingL.1 hc
  exact ⟨c, a, rfl, b, d⟩

end Droop

namespace Droop
variable {α : Type} [CommRing α] [LinearOrder α] [IsStrictOrderedRing α] (A : Arith α)

/-- the CfER batch search returns its current best or a prefix of the vote-sorted hopefuls -/
theorem cferBatch_go_sublist (s : St α) (surplus : α) (cands : List (Cand α)) (nE : Nat) (top : Option (Cand α)) :
    ∀ (fuel t : Nat) (best : List (Cand α)), best.Sublist cands →
      (cferBatch.go A s surplus cands nE top t fuel best).Sublist cands := by
  intro fuel
  induction fuel with
  | zero => intro t best hb; unfold cferBatch.go; exact hb
  | succ n ih =>
    intro t best hb
    unfold cferBatch.go
    dsimp only
    split
    · exact hb
    · split
      · split
        · exact hb
        · split
          · exact ih _ _ hb
          · split
            · exact ih _ _ (List.take_sublist _ _)
            · exact ih _ _ hb
      · exact hb

theorem cferBatch_sublist (s : St α) : (cferBatch A s).Sublist (byVote A false s.hopeful) := by
  unfold cferBatch
  exact cferBatch_go_sublist A s _ _ _ _ _ _ _ (List.nil_sublist _)

theorem cferBatch_hopeful (s : St α) : ∀ w ∈ cferBatch A s, w ∈ s.hopeful := by
  intro w hw
  exact (mem_pySorted _ _ _ _).1 ((cferBatch_sublist A s).subset hw)

theorem cferBatch_nodup (s : St α) (hwf : s.WF) : ((cferBatch A s).map (·.cid)).Nodup := by
  apply List.Nodup.sublist ((cferBatch_sublist A s).map _)
  have hp : ((byVote A false s.hopeful).map (·.cid)).Perm (s.hopeful.map (·.cid)) := (pySorted_perm _ _ _).map _
  exact hp.nodup_iff.2 (hopeful_cids_nodup hwf)

theorem Inv.cferAfterElect (hA : LawfulArith A) (batch : Bool) {s : St α} (h : Inv A s) :
    Inv A (Droop.cferAfterElect A batch s).1 := by
  unfold Droop.cferAfterElect
  split
  · exact h.cferSeatsFull A
  · cases batch
    · simp only [Bool.false_eq_true, if_false, List.isEmpty_nil, Bool.not_true]
      split
      · exact h.cferSurplusAll A hA
      · exact h.cferDefeatLow A hA
    · simp only [if_true]
      split
      · exact h.cferDefeatBatch A hA _ (cferBatch_hopeful A s) (cferBatch_nodup A s h.wf)
      · split
        · exact h.cferSurplusAll A hA
        · exact h.cferDefeatLow A hA

theorem Inv.cferBody (hA : LawfulArith A) (hex : A.exact = false) (batch : Bool) {s : St α} (h : Inv A s) :
    Inv A (Droop.cferBody A batch s).1 := by
  unfold Droop.cferBody
  split
  · exact (h.newRound A).cferElectAll A
  · exact ((h.newRound A).cferElect A hA hex).cferAfterElect A hA batch

/-- CfER (cfer and cfer-batch): the same -/
theorem cfer_conservation (hA : LawfulArith A) (hex : A.exact = false) (batch : Bool) (s0 t : St α) (h0 : Init A s0)
    (hq : 0 < A.add (A.divV (A.ofInt s0.nballots) (A.ofInt (s0.seats + 1))) A.eps) (h : cferCount A batch s0 = some t) :
    Inv A (t.logAct A "end" "Count Complete" []) := by
  unfold cferCount at h
  have h4 : Inv A t :=
    loopN_preserves_guard (Inv A) (fun _ => true) (cferBody A batch) (fun s hs _ => hs.cferBody A hA hex batch) _ _ _
      (Inv.cferInit A hA h0 hq) h
  exact h4.logAct A _ _ _

end Droop
