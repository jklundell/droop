import DroopProofs.GuardedLaws
import DroopProofs.QpqSeats

/-! # C07 for QPQ: who a round elects and who it excludes

QPQ works in guarded arithmetic, whose `<`, `==`, `>` have a tolerance (`geps g` stored units: half a unit of the declared
precision).  Python's `max` / `min` over such values return a value no other value is `>` / `<` than; the candidate chosen is one
whose quotient `==` that value.  In stored units: the candidate elected has a quotient above the quota, and no hopeful candidate's
quotient exceeds it by `2·geps − 1` or more (so, with no guard digits, by anything at all); the candidate excluded is the mirror
image, and is excluded only when no quotient reaches `quota + 2·geps − 1`. -/
namespace Droop

theorem mem_stsig_upd {s : St Int} {a : Cand Int} (ha : a ∈ s.cands) (f : Cand Int → Cand Int) (st' : CState)
    (hf : ∀ c, (f c).cid = c.cid ∧ (f c).st = st') : (a.cid, st') ∈ stsig (s.upd a.cid f) := by
  unfold stsig St.upd
  rw [List.map_map]
  refine List.mem_map.2 ⟨a, ha, ?_⟩
  simp only [Function.comp, beq_self_eq_true, if_true]
  rw [(hf a).1, (hf a).2]

/-- C07, the decision of a QPQ round (guarded arithmetic, any precision and guard).  A round that continues either
    * elects a hopeful candidate `c`: `c`'s stored quotient is above the quota, and no hopeful quotient exceeds `c`'s by
      `2·geps − 1` stored units or more; no restart is ordered; or
    * excludes a hopeful candidate `c`: every hopeful quotient is below `quota + 2·geps − 1`, and `c`'s quotient exceeds no
      hopeful quotient by `2·geps − 1` or more; a restart is ordered. -/
theorem qpq_round_decision (p g : Nat) (q1 : QSt Int) (s5 : St Int) (hr1 : q1.restart = false)
    (h : (qDecide (guardedArith p g) q1 s5).2 = .cont) :
    (∃ c ∈ s5.hopeful, (c.cid, CState.elected) ∈ stsig (qDecide (guardedArith p g) q1 s5).1.s
        ∧ (qDecide (guardedArith p g) q1 s5).1.restart = false
        ∧ s5.quota < qQuot (guardedArith p g) c
        ∧ ∀ d ∈ s5.hopeful, qQuot (guardedArith p g) d + 2 ≤ qQuot (guardedArith p g) c + 2 * geps g)
    ∨ (∃ c ∈ s5.hopeful, (c.cid, CState.defeated) ∈ stsig (qDecide (guardedArith p g) q1 s5).1.s
        ∧ (qDecide (guardedArith p g) q1 s5).1.restart = true
        ∧ (∀ d ∈ s5.hopeful, qQuot (guardedArith p g) d < s5.quota + 2 * geps g - 1)
        ∧ ∀ d ∈ s5.hopeful, qQuot (guardedArith p g) c + 2 ≤ qQuot (guardedArith p g) d + 2 * geps g) := by
  have hgp := geps_pos g
  have hall_max : ∀ hd hs, ∀ d ∈ hd :: hs, qQuot (guardedArith p g) d
      < (guardedArith p g).pyMax (qQuot (guardedArith p g) hd) (hs.map (qQuot (guardedArith p g))) + geps g := by
    intro hd hs d hdm
    obtain ⟨mx1, _, mx3⟩ := guarded_pyMax p g (hs.map (qQuot (guardedArith p g))) (qQuot (guardedArith p g) hd)
    rcases List.mem_cons.1 hdm with e | e
    · rw [e]; omega
    · exact mx3 _ (List.mem_map.2 ⟨d, e, rfl⟩)
  have hall_min : ∀ hd hs, ∀ d ∈ hd :: hs, (guardedArith p g).pyMin (qQuot (guardedArith p g) hd) (hs.map (qQuot (guardedArith p g)))
      < qQuot (guardedArith p g) d + geps g := by
    intro hd hs d hdm
    obtain ⟨mn1, _, mn3⟩ := guarded_pyMin p g (hs.map (qQuot (guardedArith p g))) (qQuot (guardedArith p g) hd)
    rcases List.mem_cons.1 hdm with e | e
    · rw [e]; omega
    · exact mn3 _ (List.mem_map.2 ⟨d, e, rfl⟩)
  rcases (qDecide_out (guardedArith p g) q1 s5).2.2 with ⟨hb, _⟩ | ⟨c, hcm, ⟨hd, hs, hh, hg, hce⟩, _, hr, hcs, _⟩
      | ⟨c, hcm, ⟨hd, hs, hh, hg, hce⟩, _, hr, hcs, _⟩
  · rw [hb] at h; cases h
  · left
    have hgq := (guarded_gt_iff p g _ _).1 hg
    have hce' := abs_lt.1 ((guarded_eq_iff p g _ _).1 hce)
    refine ⟨c, hcm, ?_, hr.trans hr1, by omega, ?_⟩
    · rw [stsig_of_cands hcs]
      unfold St.elect
      rw [stsig_logAct]
      exact mem_stsig_upd (mem_hopeful.1 hcm).1 _ _ (fun c => ⟨rfl, rfl⟩)
    · intro d hdm
      have := hall_max hd hs d (hh ▸ hdm)
      omega
  · right
    have hgq : ¬ s5.quota + geps g ≤ (guardedArith p g).pyMax (qQuot (guardedArith p g) hd) (hs.map (qQuot (guardedArith p g))) :=
      fun hx => hg ((guarded_gt_iff p g _ _).2 hx)
    have lce' := abs_lt.1 ((guarded_eq_iff p g _ _).1 hce)
    refine ⟨c, hcm, ?_, hr, ?_, ?_⟩
    · rw [stsig_of_cands hcs]
      unfold St.defeat
      rw [stsig_logAct]
      exact mem_stsig_upd (mem_hopeful.1 hcm).1 _ _ (fun c => ⟨rfl, rfl⟩)
    · intro d hdm
      have := hall_max hd hs d (hh ▸ hdm)
      omega
    · intro d hdm
      have := hall_min hd hs d (hh ▸ hdm)
      omega

end Droop
