import DroopProofs.MeekMon
import DroopProofs.PrfDist
import DroopProofs.PrfStages

/-! # C09 for meek-prf: the record only moves forward

The reference rule's driver in its named stages (`MeekIter.lean`, `PrfStages.lean`).  Distribution, totals, quota and keep-factor
updates leave ids and statuses alone; elections address hopeful candidates (the winners are a filter of the hopeful list), the
exclusion addresses the hopeful candidate the tie-break returned.  The only invariant carried along is that candidate ids are
distinct. -/
namespace Droop
variable {α : Type} [CommRing α] [LinearOrder α] [IsStrictOrderedRing α] (A : Arith α)

theorem zeroRes_skel (s : St α) : ({ zeroActiveVotes A s with residual := A.zero } : St α).skel = s.skel :=
  startDist_skel A s

theorem prfS2_skel (hA : LawfulArith A) (s : St α) (hwf : s.WF) : (prfS2 A s).skel = s.skel := by
  unfold prfS2
  have hsk := zeroRes_skel A s
  have hwf1 : ({ zeroActiveVotes A s with residual := A.zero } : St α).WF := WF_of_skel hsk.symm hwf
  exact ((foldl_prfBallotStep_sum A hA _ _ hwf1).2).trans hsk

theorem prfS2_frame (s : St α) : DFrame s (prfS2 A s) := by
  unfold prfS2
  rw [prfBallotStep_gen]
  exact DFrame.trans (t := { zeroActiveVotes A s with residual := A.zero }) ⟨rfl, rfl, rfl, rfl, rfl⟩
    (foldl_genBallotStep_frame A _ _ _)

theorem prfS2_am (s : St α) : (prfS2 A s).acts = s.acts ∧ (prfS2 A s).method = s.method :=
  ⟨(prfS2_frame A s).2.2.2.2, (prfS2_frame A s).2.2.2.1⟩

theorem prfS4_skel (hA : LawfulArith A) (s : St α) (hwf : s.WF) : (prfS4 A s).skel = s.skel := by
  unfold prfS4; exact prfS2_skel A hA s hwf

theorem Mon.prfS4 (hA : LawfulArith A) {s : St α} (h : Mon s) (hwf : s.WF) : Mon (Droop.prfS4 A s) := by
  have h2 : Mon (prfS2 A s) := Mon.of_skel h (prfS2_skel A hA s hwf) (prfS2_am A s).2 (prfS2_am A s).1
  unfold Droop.prfS4
  exact Mon.of_skel h2 rfl rfl rfl

theorem WF_foldElectC (ws : List (Cand α)) (verb : String) {s : St α} (hwf : s.WF) :
    (ws.foldl (fun acc c => acc.elect A c.cid verb false) s).WF := by
  induction ws generalizing s with
  | nil => exact hwf
  | cons w ws ih => simp only [List.foldl_cons]; exact ih (WF_elect A hwf _ _ _)

theorem Mon.prfS6 (hA : LawfulArith A) {s : St α} (h : Mon s) (hwf : s.WF) : Mon (Droop.prfS6 A s) ∧ (Droop.prfS6 A s).WF := by
  have h4 := h.prfS4 A hA hwf
  have hwf4 : (Droop.prfS4 A s).WF := WF_of_skel (prfS4_skel A hA s hwf).symm hwf
  have h5 : Mon (prfS5 A s) := by
    unfold prfS5
    apply Mon.foldElectNP A h4
    intro i hi c hc hci
    obtain ⟨w, hw, rfl⟩ := List.mem_map.1 hi
    unfold prfWinners at hw
    have hwh := mem_hopeful.1 (List.mem_filter.1 hw).1
    left
    have : c = w := nodup_cid_eq hwf4 hc hwh.1 hci
    rw [this]; exact hwh.2
  have hwf5 : (prfS5 A s).WF := by unfold prfS5; exact WF_foldElectC A _ _ hwf4
  unfold Droop.prfS6
  exact ⟨Mon.of_skel h5 rfl rfl rfl, hwf5⟩

theorem WF_kfUpdate (cap : Bool) {s : St α} (hwf : s.WF) : (kfUpdate A cap s).WF := by
  rw [kfUpdate_eq]
  generalize s.elected = l
  induction l generalizing s with
  | nil => exact hwf
  | cons c cs ih =>
    simp only [List.foldl_cons]
    apply ih
    unfold kfStep
    split
    · split
      · unfold St.WF; rw [setCrash_cands]; exact hwf
      · exact WF_of_skel (upd_kf_skel s c.cid _).symm hwf
    · unfold St.WF; rw [setCrash_cands]; exact hwf

theorem Mon.prfIterate (hA : LawfulArith A) (omega : α) :
    ∀ (fuel : Nat) (last : α) (s : St α), Mon s → s.WF →
      Mon (Droop.prfIterate A omega fuel last s).1 ∧ (Droop.prfIterate A omega fuel last s).1.WF :=
  fun fuel last s h hwf => prfIterate_preserves A omega (P := fun s => Mon s ∧ s.WF)
    (fun _ h => h.1.prfS6 A hA h.2) (fun _ h => ⟨h.1.kfUpdate A false, WF_kfUpdate A false h.2⟩)
    (fun _ _ h => ⟨h.1.logMsg _ _ _, h.2⟩)
    (fun _ h => ⟨h.1.setCrash _, by unfold St.WF; rw [setCrash_cands]; exact h.2⟩) fuel last s ⟨h, hwf⟩

theorem Mon.prfBody (hA : LawfulArith A) (omega : α) (iterFuel : Nat) {s : St α} (h : Mon s) (hwf : s.WF) :
    Mon (Droop.prfBody A omega iterFuel s).1 ∧ (Droop.prfBody A omega iterFuel s).1.WF := by
  rw [prfBody_eq']
  have hwfr : (s.newRound A).WF := by unfold St.WF St.newRound; rw [logAct_cands]; exact hwf
  refine prfAfter_preserves A (P := fun s => Mon s ∧ s.WF) ?_ ?_ _
    (Mon.prfIterate A hA omega iterFuel (A.ofInt (s.newRound A).nballots) _ (h.newRound A) hwfr)
  · intro t tied verb ht
    exact ⟨ht.1.breakTie A tied verb, by unfold St.WF; rw [(breakTie_frame A t tied verb).1]; exact ht.2⟩
  · intro t lc verb ht hlc
    obtain ⟨hls, hlh⟩ := mem_hopeful.1 hlc
    have hd' := ht.1.defeat A lc.cid verb (fun c hc hcc => by rw [nodup_cid_eq ht.2 hc hls hcc]; exact hlh)
    have hsk : ((t.defeat A lc.cid verb).upd lc.cid (fun c => { c with vote := A.zero, kf := some A.zero })).skel
        = (t.defeat A lc.cid verb).skel := by
      unfold St.skel St.upd
      simp only [List.map_map]
      apply List.map_congr_left
      intro c _
      simp only [Function.comp]
      split <;> rfl
    exact ⟨Mon.of_skel hd' hsk rfl rfl, WF_of_skel hsk.symm (WF_defeat A ht.2 _ _)⟩

theorem hop_other_upd {t : St α} (cid : Nat) (f : Cand α → Cand α) (hcid : ∀ c, (f c).cid = c.cid) (i : Nat) (hne : i ≠ cid)
    (hh : ∀ c ∈ t.cands, c.cid = i → c.st = .hopeful) : ∀ c ∈ (t.upd cid f).cands, c.cid = i → c.st = .hopeful := by
  intro c' hc' hci
  obtain ⟨c, hc, rfl⟩ := mem_upd.1 hc'
  by_cases he : (c.cid == cid) = true
  · rw [if_pos he] at hci
    have h0 : c.cid = cid := by simpa using he
    exact absurd ((hcid c).symm.trans hci ▸ h0 ▸ rfl : i = cid) hne
  · rw [if_neg he] at hci ⊢
    exact hh c hc hci

/-- the step of the final loop of `prfCount` -/
def prfFinishStep (acc : St α) (c : Cand α) : St α :=
  if acc.elected.length < acc.seats then acc.elect A c.cid "Elect remaining" false
  else (acc.defeat A c.cid "Defeat remaining").upd c.cid (fun x => { x with kf := some A.zero, vote := A.zero })

theorem prfFinishStep_other (t : St α) (w : Cand α) (i : Nat) (hne : i ≠ w.cid)
    (hh : ∀ c ∈ t.cands, c.cid = i → c.st = .hopeful) : ∀ c ∈ (prfFinishStep A t w).cands, c.cid = i → c.st = .hopeful := by
  unfold prfFinishStep
  split
  · unfold St.elect
    rw [logAct_cands]
    exact hop_other_upd w.cid (fun c => { c with st := .elected, pending := false }) (fun _ => rfl) i hne hh
  · apply hop_other_upd w.cid (fun x => { x with kf := some A.zero, vote := A.zero }) (fun _ => rfl) i hne
    unfold St.defeat
    rw [logAct_cands]
    exact hop_other_upd w.cid (fun c => { c with st := .defeated }) (fun _ => rfl) i hne hh

theorem Mon.prfFinishStep {t : St α} (h : Mon t) (hwf : t.WF) (w : Cand α) (hh : ∀ c ∈ t.cands, c.cid = w.cid → c.st = .hopeful) :
    Mon (Droop.prfFinishStep A t w) ∧ (Droop.prfFinishStep A t w).WF := by
  unfold Droop.prfFinishStep
  split
  · exact ⟨h.electNP A w.cid _ (fun c hc hcc => Or.inl (hh c hc hcc)), WF_elect A hwf _ _ _⟩
  · have hd := h.defeat A w.cid "Defeat remaining" hh
    have hsk : ((t.defeat A w.cid "Defeat remaining").upd w.cid (fun x => { x with kf := some A.zero, vote := A.zero })).skel
        = (t.defeat A w.cid "Defeat remaining").skel := by
      unfold St.skel St.upd
      simp only [List.map_map]
      apply List.map_congr_left
      intro c _
      simp only [Function.comp]
      split <;> rfl
    exact ⟨Mon.of_skel hd hsk rfl rfl, WF_of_skel hsk.symm (WF_defeat A hwf _ _)⟩

theorem Mon.prfFinishFold (l : List (Cand α)) (hnd : (l.map (·.cid)).Nodup) {t : St α} (h : Mon t) (hwf : t.WF)
    (hh : ∀ w ∈ l, ∀ c ∈ t.cands, c.cid = w.cid → c.st = .hopeful) : Mon (l.foldl (Droop.prfFinishStep A) t) := by
  induction l generalizing t with
  | nil => exact h
  | cons w ws ih =>
    simp only [List.foldl_cons]
    simp only [List.map_cons, List.nodup_cons] at hnd
    obtain ⟨h1, hwf1⟩ := h.prfFinishStep A hwf w (hh w (by simp))
    apply ih hnd.2 h1 hwf1
    intro w' hw'
    exact prfFinishStep_other A t w w'.cid (fun e => hnd.1 (e ▸ List.mem_map.2 ⟨w', hw', rfl⟩)) (hh w' (by simp [hw']))

theorem prfFinish_eq (s6 : St α) :
    prfFinish A s6 = if s6.crash.isSome then s6 else
      { s6.hopeful.foldl (prfFinishStep A) s6 with
        votes := A.sum ((s6.hopeful.foldl (prfFinishStep A) s6).elected.map (·.vote))
        residual := A.sub (A.ofInt (s6.hopeful.foldl (prfFinishStep A) s6).nballots)
          (A.sum ((s6.hopeful.foldl (prfFinishStep A) s6).elected.map (·.vote))) } := rfl

theorem Mon.prfFinish {s6 : St α} (h : Mon s6) (hwf : s6.WF) : Mon (Droop.prfFinish A s6) := by
  rw [prfFinish_eq]
  split
  · exact h
  · apply Mon.of_skel _ rfl rfl rfl
    apply Mon.prfFinishFold A _ _ h hwf
    · intro w hw c hc hcc
      obtain ⟨hws, hwh⟩ := mem_hopeful.1 hw
      have : c = w := nodup_cid_eq hwf hc hws hcc
      rw [this]; exact hwh
    · unfold St.hopeful
      exact List.Nodup.sublist (List.Sublist.map _ List.filter_sublist) hwf

theorem prfS3_cands_cid (s0 : St α) : (prfS3 A s0).cands.map (·.cid) = s0.cands.map (·.cid) := by
  unfold prfS3
  simp only [List.map_map]
  apply List.map_congr_left
  intro c _
  simp only [Function.comp]
  split <;> rfl

theorem foldl_mfcStep_cid (bs : List (Ballot α)) (s : St α) :
    (bs.foldl (mfcStep A) s).cands.map (·.cid) = s.cands.map (·.cid) := by
  have e : ∀ (u : St α), u.cands.map (·.cid) = u.skel.map (·.1) := by
    intro u; unfold St.skel; simp [Cand.skel]
  induction bs generalizing s with
  | nil => rfl
  | cons b bs ih =>
    simp only [List.foldl_cons]
    rw [ih]
    unfold mfcStep
    cases b.top with
    | none => rfl
    | some c => simp only; rw [e, e, addVote_skel]

theorem Mon.prfStart {s0 : St α} (hacts : s0.acts = []) (hwf : s0.WF) : Mon (Droop.prfStart A s0) ∧ (Droop.prfStart A s0).WF := by
  rw [prfStart_eq]
  refine ⟨?_, ?_⟩
  · apply Mon.logAct
    apply Mon.of_noActs
    rw [foldl_mfcStep_acts]
    exact hacts
  · unfold St.WF
    rw [logAct_cands, foldl_mfcStep_cid, prfS3_cands_cid]
    exact hwf

/-- **C09 for meek-prf, run level**: whatever the count returns, its record is forward-only; the only thing asked of the start
    state is distinct candidate ids and an empty log -/
theorem prf_record_monotone (hA : LawfulArith A) (iterFuel : Nat) (s0 t : St α) (hacts : s0.acts = []) (hwf : s0.WF)
    (h : prfCount A iterFuel s0 = some t) : Mon t := by
  rw [prfCount_eq] at h
  cases hl : loopN stdGuard (prfBody A (A.divV (A.ofInt 1) (A.ofInt (10 ^ 6))) iterFuel) (2 * s0.cands.length + 3) (prfStart A s0) with
  | none => rw [hl] at h; cases h
  | some s6 =>
    rw [hl] at h
    have ht : t = prfFinish A s6 := (Option.some.inj h).symm
    obtain ⟨hm0, hw0⟩ := Mon.prfStart A hacts hwf
    have hP := loopN_preserves_guard (fun s => Mon s ∧ s.WF) stdGuard (prfBody A (A.divV (A.ofInt 1) (A.ofInt (10 ^ 6))) iterFuel)
      (fun s hs _ => Mon.prfBody A hA _ iterFuel hs.1 hs.2) _ _ _ ⟨hm0, hw0⟩ hl
    rw [ht]
    exact hP.1.prfFinish A hP.2

end Droop
