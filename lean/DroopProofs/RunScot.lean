import DroopProofs.InvScot
import DroopProofs.RunInv
import DroopProofs.RunRel

/-! # The Scottish rule at run level: termination, seats, forward-only record (C01, C09)

The two stage actions (transfer the largest surplus, exclude the lowest candidate) are `Picks` over the Scottish tie-break,
so they keep the round invariant `GInv` and make progress for the same reason as the wigm steps; a round is the election
step followed by one of them. The file also holds `gInit`, the start shared by the Gregory drivers, and the epilogue the
Scottish rule shares with Minneapolis. -/
namespace Droop
variable {α : Type} [CommRing α] [LinearOrder α] [IsStrictOrderedRing α] (A : Arith α)

theorem Mon.scotBreakTie {s : St α} (h : Mon s) (tied : List (Cand α)) (lowest : Bool) (reason : String) :
    Mon (Droop.scotBreakTie A s tied lowest reason).1 := by
  unfold Droop.scotBreakTie
  split
  · exact h.setCrash _
  · exact h
  · dsimp only
    split
    · exact h.logAct A _ _ _
    · exact h.logAct A _ _ _

theorem EHQ.scotBreakTie {s : St α} (h : ElectedHoldQuota s) (tied : List (Cand α)) (lowest : Bool) (reason : String) :
    ElectedHoldQuota (Droop.scotBreakTie A s tied lowest reason).1 := by
  obtain ⟨h1, _, _, h4, _⟩ := scotBreakTie_frame A s tied lowest reason
  exact EHQ.of_same h h1 h4

/-- the candidate a prior stage singles out is one of the tied candidates' ids -/
theorem scotPrior_cid (cids : List Nat) (lowest : Bool) (cn : List (Cand α)) (c : Cand α)
    (h : scotPrior A cids lowest cn = some c) : c.cid ∈ cids := by
  unfold scotPrior at h
  dsimp only at h
  split at h
  · cases h
  · split at h
    · rename_i x hx
      cases h
      have hm : c ∈ [c] := by simp
      rw [← hx] at hm
      have hm2 := (List.mem_filter.1 hm).1
      have hm3 := (mem_pySorted _ _ _ _).1 hm2
      have := (List.mem_filter.1 hm3).2
      simpa using this
    · cases h

/-- the Scottish tie-break answers with a candidate unless it raises the crash flag -/
theorem scotBreakTie_none_crash (s : St α) (tied : List (Cand α)) (lowest : Bool) (reason : String)
    (h : (scotBreakTie A s tied lowest reason).2 = none) :
    (scotBreakTie A s tied lowest reason).1.crash.isSome = true := by
  cases tied with
  | nil =>
    unfold scotBreakTie St.setCrash
    dsimp only
    split <;> simp_all
  | cons x xs =>
    cases xs with
    | nil => unfold scotBreakTie at h; simp at h
    | cons y ys =>
      exfalso
      unfold scotBreakTie at h
      dsimp only at h
      split at h
      · rename_i cn0 hcn0
        dsimp only at h
        obtain ⟨cn, _, hpr⟩ := List.exists_of_findSome?_eq_some hcn0
        have hcid := scotPrior_cid A _ _ _ _ hpr
        obtain ⟨t, ht, hte⟩ := List.mem_map.1 hcid
        have : ((x :: y :: ys).find? (·.cid == cn0.cid)).isSome = true := by
          rw [List.find?_isSome]
          exact ⟨t, ht, by simp [hte]⟩
        rw [h] at this; simp at this
      · dsimp only at h
        have hp := (pySorted_perm (fun a b : Cand α => a.tie < b.tie) false (x :: y :: ys)).length_eq
        unfold byTieOrder at h
        cases hb : pySorted (fun a b : Cand α => a.tie < b.tie) false (x :: y :: ys) with
        | nil => rw [hb] at hp; simp at hp
        | cons z zs => rw [hb] at h; simp at h

theorem scotSurplusStep_cases (s : St α) :
    (maxVoteOf A s.pendingL = none ∧ scotSurplusStep A s = s) ∨
    ∃ tied : List (Cand α), (∀ c ∈ tied, c ∈ s.pendingL) ∧
      (((scotBreakTie A s tied false "largest surplus").2 = none
          ∧ scotSurplusStep A s = (scotBreakTie A s tied false "largest surplus").1) ∨
       (∃ hc, (scotBreakTie A s tied false "largest surplus").2 = some hc
          ∧ scotSurplusStep A s = transferSurplus A
              ((scotBreakTie A s tied false "largest surplus").1.unpendLog A hc.cid "Transfer high surplus") hc
              (rewMuldivDown A) "Surplus transferred")) := by
  unfold scotSurplusStep
  cases hm : maxVoteOf A s.pendingL with
  | none => left; exact ⟨rfl, rfl⟩
  | some hv =>
    right
    refine ⟨s.pendingL.filter (fun c => A.eq c.vote hv), fun c hc => (List.mem_filter.1 hc).1, ?_⟩
    dsimp only
    cases hb : scotBreakTie A s (s.pendingL.filter (fun c => A.eq c.vote hv)) false "largest surplus" with
    | mk s1 oc =>
      cases oc with
      | none => left; exact ⟨rfl, rfl⟩
      | some hc => right; exact ⟨hc, rfl, rfl⟩

theorem scotDefeatStep_cases (s : St α) :
    (minVoteOf A s.hopeful = none ∧ scotDefeatStep A s = s) ∨
    ∃ tied : List (Cand α), (∀ c ∈ tied, c ∈ s.hopeful) ∧
      (((scotBreakTie A s tied true "defeat low candidate").2 = none
          ∧ scotDefeatStep A s = (scotBreakTie A s tied true "defeat low candidate").1) ∨
       (∃ lc, (scotBreakTie A s tied true "defeat low candidate").2 = some lc
          ∧ scotDefeatStep A s = transferDefeated A
              ((scotBreakTie A s tied true "defeat low candidate").1.defeat A lc.cid "Defeat low candidate") [lc.cid]
              "Transfer defeated")) := by
  unfold scotDefeatStep
  cases hm : minVoteOf A s.hopeful with
  | none => left; exact ⟨rfl, rfl⟩
  | some lv =>
    right
    refine ⟨s.hopeful.filter (fun c => A.eq c.vote lv), fun c hc => (List.mem_filter.1 hc).1, ?_⟩
    dsimp only
    cases hb : scotBreakTie A s (s.hopeful.filter (fun c => A.eq c.vote lv)) true "defeat low candidate" with
    | mk s1 oc =>
      cases oc with
      | none => left; exact ⟨rfl, rfl⟩
      | some lc => right; exact ⟨lc, rfl, rfl⟩

theorem tieBreak_scotBreakTie (s : St α) (lowest : Bool) (reason : String) :
    TieBreak A s (fun tied => scotBreakTie A s tied lowest reason) := by
  refine ⟨fun tied => (scotBreakTie_frame A s tied lowest reason).1, fun h tied => ?_,
    fun tied => scotBreakTie_none_crash A s tied lowest reason, fun tied c => scotBreakTie_mem A s tied lowest reason c⟩
  refine ⟨?_, h.scotBreakTie A tied lowest reason, fun he => EHQ.scotBreakTie A he tied lowest reason,
    fun hm => hm.scotBreakTie A tied lowest reason,
    Nat.le_of_eq (mu_of_skel (by unfold St.skel; rw [(scotBreakTie_frame A s tied lowest reason).1]))⟩
  unfold scotBreakTie
  split
  · exact reach_setCrash s _
  · exact Reach.refl s
  · dsimp only
    split <;> exact reach_logAct A s _ _ _

theorem scotSurplusStep_picks (s : St α) :
    Picks s (fun tied => scotBreakTie A s tied false "largest surplus") s.pendingL
      (fun s1 hc => transferSurplus A (s1.unpendLog A hc.cid "Transfer high surplus") hc (rewMuldivDown A) "Surplus transferred")
      (scotSurplusStep A s) := by
  rcases scotSurplusStep_cases A s with ⟨hn, e⟩ | ⟨tied, hsub, ⟨hb, e⟩ | ⟨hc, hb, e⟩⟩
  · refine Or.inl ⟨?_, e⟩
    cases hl : s.pendingL with
    | nil => rfl
    | cons c cs => rw [hl] at hn; cases hn
  · exact Or.inr ⟨tied, Or.inl ⟨hb, e⟩⟩
  · exact Or.inr ⟨tied, Or.inr ⟨hc, hsub hc (scotBreakTie_mem A s tied false _ hc hb), e⟩⟩

theorem scotDefeatStep_picks (s : St α) :
    Picks s (fun tied => scotBreakTie A s tied true "defeat low candidate") s.hopeful
      (fun s1 lc => transferDefeated A (s1.defeat A lc.cid "Defeat low candidate") [lc.cid] "Transfer defeated")
      (scotDefeatStep A s) := by
  rcases scotDefeatStep_cases A s with ⟨hn, e⟩ | ⟨tied, hsub, ⟨hb, e⟩ | ⟨lc, hb, e⟩⟩
  · refine Or.inl ⟨?_, e⟩
    cases hl : s.hopeful with
    | nil => rfl
    | cons c cs => rw [hl] at hn; cases hn
  · exact Or.inr ⟨tied, Or.inl ⟨hb, e⟩⟩
  · exact Or.inr ⟨tied, Or.inr ⟨lc, hsub lc (scotBreakTie_mem A s tied true _ lc hb), e⟩⟩

theorem scotSurplusStep_spec (hA : LawfulArith A) {s : St α} (h : GInv A s) (hp : s.pendingL ≠ []) :
    GInv A (scotSurplusStep A s) ∧ (mu (scotSurplusStep A s) < mu s ∨ (scotSurplusStep A s).crash.isSome = true) :=
  have hT := tieBreak_scotBreakTie A s false "largest surplus"
  have hP := scotSurplusStep_picks A s
  ⟨h.of_gstep A (hP.surplus_gstep A hA (rewMuldivDown_law A hA) hT h.1.1) (by rw [hP.surplus_sumHE A hT]; exact h.2.2.2),
    hP.surplus_progress A hT h.1.1 hp⟩

theorem scotDefeatStep_spec (hA : LawfulArith A) {s : St α} (h : GInv A s) (hgt : s.seats < sumHE s) :
    GInv A (scotDefeatStep A s) ∧ (mu (scotDefeatStep A s) < mu s ∨ (scotDefeatStep A s).crash.isSome = true) := by
  have hh : s.hopeful ≠ [] := by
    intro e
    have h0 : nHop s = 0 := by unfold nHop; rw [e]; rfl
    have := h.elected_le A
    unfold sumHE at hgt; omega
  have hT := tieBreak_scotBreakTie A s true "defeat low candidate"
  have hP := scotDefeatStep_picks A s
  have hS := hP.defeat_sumHE A hT h.1.1
  exact ⟨h.of_gstep A (hP.defeat_gstep A hA hT h.1.1) (by omega), hP.defeat_progress A hT h.1.1 hh⟩


theorem scot_not_complete {s : St α} (h : scotCountComplete s = false) : s.seats < sumHE s ∧ 0 < nHop s := by
  unfold scotCountComplete St.seatsLeft at h
  simp only [Bool.or_eq_false_iff, decide_eq_false_iff_not, not_le] at h
  unfold sumHE nHop nEl
  omega

theorem scotFinish_fst (s : St α) : (scotFinish s).1 = s := by unfold scotFinish; split <;> rfl
theorem scotFinish_brk (s : St α) (h : (scotFinish s).2 = .brk) : scotCountComplete s = true := by
  unfold scotFinish at h; split at h
  · assumption
  · cases h

theorem GInv.setSurplus {s : St α} (h : GInv A s) (v : α) : GInv A (s.setSurplus v) :=
  ⟨⟨h.1.1.setSurplus A v, EHQ.setSurplus h.1.2 v⟩, h.2.1.setSurplus v, h.2.2.1.of_frame A (frame_setSurplus s v),
    by rw [sumHE_setSurplus]; exact h.2.2.2⟩

theorem scotBody_spec (hA : LawfulArith A) (hex : A.exact = false) {s : St α} (h : GInv A s) :
    GInv A (scotBody A s).1 ∧ Frame s (scotBody A s).1 ∧ Ext s (scotBody A s).1
    ∧ ((scotBody A s).2 = .cont → mu (scotBody A s).1 < mu s ∨ (scotBody A s).1.crash.isSome = true)
    ∧ ((scotBody A s).2 = .brk → scotCountComplete (scotBody A s).1 = true) := by
  suffices key : GInv A (scotBody A s).1
      ∧ ((scotBody A s).2 = .cont → mu (scotBody A s).1 < mu s ∨ (scotBody A s).1.crash.isSome = true)
      ∧ ((scotBody A s).2 = .brk → scotCountComplete (scotBody A s).1 = true) from
    ⟨key.1, (stepRel_frame A).scotBody s, (stepRel_ext A).scotBody s, key.2⟩
  obtain ⟨h1, hmu1, hS1⟩ := GInv.electWinners A h (hasQuotaGE A) (fun _ _ => true) (fun _ _ => "Elect, transfer pending")
    (fun c hc => hasQuotaGE_sound A hA hex s c hc)
  unfold scotBody
  by_cases hcomp : scotCountComplete (scotElect A s) = true
  · rw [if_pos hcomp]
    exact ⟨h1, fun hc => (by cases hc), fun _ => hcomp⟩
  · have hcomp' : scotCountComplete (scotElect A s) = false := by simpa using hcomp
    simp only [hcomp', Bool.false_eq_true, if_false]
    obtain ⟨hgt, _⟩ := scot_not_complete hcomp'
    have h2 : GInv A (scotRound A (scotElect A s)) := (h1.newRound A).setSurplus A _
    have hmu2 : mu (scotRound A (scotElect A s)) ≤ mu s := by
      unfold scotRound; rw [mu_setSurplus, mu_newRound]; exact hmu1
    have hgt2 : (scotRound A (scotElect A s)).seats < sumHE (scotRound A (scotElect A s)) := by
      rw [((stepRel_frame A).scotRound _).2.1]
      unfold scotRound; rw [sumHE_setSurplus, sumHE_newRound]; exact hgt
    generalize scotRound A (scotElect A s) = s2 at h2 hmu2 hgt2 ⊢
    unfold scotStage
    by_cases hp : s2.pendingL.isEmpty = false
    · simp only [hp, Bool.not_false, if_true]
      obtain ⟨a1, a2⟩ := scotSurplusStep_spec A hA h2 (by intro e; rw [e] at hp; simp at hp)
      refine ⟨a1, fun _ => ?_, fun hc => by cases hc⟩
      rcases a2 with hlt | hcr
      · left; omega
      · right; exact hcr
    · have hp' : s2.pendingL.isEmpty = true := by simpa using hp
      obtain ⟨a1, a2⟩ := scotDefeatStep_spec A hA h2 hgt2
      have hh : s2.hopeful.isEmpty = false := by
        cases hl : s2.hopeful with
        | nil => unfold sumHE nHop at hgt2; rw [hl] at hgt2; have := h2.elected_le A; simp at hgt2; omega
        | cons x xs => rfl
      simp only [hp', hh, Bool.not_true, Bool.not_false, Bool.false_eq_true, if_false, if_true]
      rw [scotFinish_fst]
      refine ⟨a1, fun _ => ?_, scotFinish_brk _⟩
      rcases a2 with hlt | hcr
      · left; omega
      · right; exact hcr

theorem fcStep_seats (s : St α) (b : Ballot α) : (fcStep A s b).seats = s.seats := by
  unfold fcStep; split <;> rfl

theorem foldl_fcStep_seats (bs : List (Ballot α)) (s : St α) : (bs.foldl (fcStep A) s).seats = s.seats := by
  induction bs generalizing s with
  | nil => rfl
  | cons b bs ih => simp only [List.foldl_cons]; rw [ih, fcStep_seats]

/-- `initialize` + first count + "Begin Count", as every Gregory driver of the model starts -/
def gInit (q : α) (s0 : St α) : St α :=
  ((firstCount A (s0.setQuota q)).setExhausted A.zero).logAct A "begin" "Begin Count" []

theorem gInit_facts (q : α) (s0 : St α) :
    (gInit A q s0).skel = s0.skel ∧ (gInit A q s0).nballots = s0.nballots ∧ (gInit A q s0).seats = s0.seats
    ∧ (gInit A q s0).quota = q ∧ (gInit A q s0).round = s0.round ∧ Ext s0 (gInit A q s0)
    ∧ (s0.acts = [] → Mon (gInit A q s0)) := by
  unfold gInit
  obtain ⟨_, _, f3, f4, _, _⟩ := foldl_fcStep_frame A (s0.setQuota q).ballots (s0.setQuota q)
  refine ⟨?_, ?_, ?_, ?_, ?_, ?_, ?_⟩
  · unfold St.skel; rw [logAct_cands]
    show ((firstCount A (s0.setQuota q)).setExhausted A.zero).skel = _
    rw [firstCount_eq]; exact foldl_fcStep_skel A _ _
  · rw [(logAct_frame A _ _ _ _).2.2.2.2]
    show (firstCount A _).nballots = _
    rw [firstCount_eq]; exact f4
  · rw [logAct_seats]
    show (firstCount A _).seats = _
    rw [firstCount_eq]; exact foldl_fcStep_seats A _ _
  · rw [logAct_quota]
    show (firstCount A _).quota = _
    rw [firstCount_eq]; exact f3
  · rw [round_logAct]
    exact TransferBlind.round.firstCount (A := A) (s0.setQuota q)
  · refine Ext.trans (Ext.of_acts_eq ?_) (ext_logAct A _ _ _ _)
    show (firstCount A _).acts = _
    rw [firstCount_acts]; rfl
  · intro h
    apply Mon.logAct
    apply Mon.of_noActs
    show (firstCount A _).acts = []
    rw [firstCount_acts]; exact h

theorem nEl_zero_of_fresh {s : St α} (h : ∀ c ∈ s.cands, c.st ≠ .elected) : nEl s = 0 := by
  unfold nEl St.elected
  rw [List.length_eq_zero_iff, List.filter_eq_nil_iff]
  intro c hc
  simpa using h c hc

/-- the state every Gregory main loop starts in satisfies the round invariant, nobody is elected yet, and the fuel the
    drivers give their loops covers its measure -/
theorem gInit_inv (hA : LawfulArith A) (q : α) {s0 : St α} (hinit : Init A s0) (hq : 0 < q)
    (hfresh : ∀ c ∈ s0.cands, c.st ≠ .elected) (henough : s0.seats ≤ nHop s0)
    (hdroop : ((s0.nballots : Int) : α) * A.one < ((s0.seats + 1 : Nat) : α) * q) :
    GInv A (gInit A q s0) ∧ nEl (gInit A q s0) = 0 ∧ mu (gInit A q s0) + 2 ≤ 2 * s0.cands.length + 3 := by
  obtain ⟨hsk, e1, e2, e3, _, _, hm⟩ := gInit_facts A q s0
  have hfresh' : ∀ c ∈ (gInit A q s0).cands, c.st ≠ .elected := by
    intro c hc
    obtain ⟨c0, hc0, hcs⟩ := mem_of_skel_eq hsk hc
    rw [← (skel_st hcs).1]; exact hfresh c0 hc0
  refine ⟨⟨⟨Inv.init A hA q hinit hq, EHQ.of_noElected hfresh'⟩, hm hinit.noActs, ?_, ?_⟩, nEl_zero_of_fresh hfresh', ?_⟩
  · unfold DroopQuota; rw [e1, e2, e3]; exact hdroop
  · rw [e2, sumHE_of_skel hsk]; unfold sumHE; omega
  · have := mu_le_two_mul (gInit A q s0)
    have hl := congrArg List.length hsk
    unfold St.skel at hl; simp only [List.length_map] at hl
    omega

theorem scotInit_frame (s0 : St α) :
    (scotInit A s0).nballots = s0.nballots ∧ (scotInit A s0).seats = s0.seats
    ∧ (scotInit A s0).quota = A.ofInt (pdiv s0.nballots (s0.seats + 1) + 1) :=
  ⟨(gInit_facts A _ s0).2.1, (gInit_facts A _ s0).2.2.1, (gInit_facts A _ s0).2.2.2.1⟩

/-- what the Scottish rule is handed: `Init`, nobody elected yet, at least as many candidates standing as seats -/
structure ScotStart (s0 : St α) : Prop where
  init : Init A s0
  quota_pos : 0 < A.ofInt (pdiv s0.nballots (s0.seats + 1) + 1)
  fresh : ∀ c ∈ s0.cands, c.st ≠ .elected
  enough : s0.seats ≤ nHop s0

theorem integer_droopQuota (hA : LawfulArith A) (n seats : Nat) :
    ((n : Int) : α) * A.one < ((seats + 1 : Nat) : α) * A.ofInt (pdiv n (seats + 1) + 1) := by
  rw [hA.ofInt_eq]
  have hk : (0 : Int) < ((seats + 1 : Nat) : Int) := by exact_mod_cast Nat.succ_pos seats
  have hlt : (n : Int) < ((seats + 1 : Nat) : Int) * (pdiv n (seats + 1) + 1) := by
    unfold pdiv
    rw [Int.fdiv_eq_ediv_of_nonneg _ (le_of_lt (by exact_mod_cast Nat.succ_pos seats))]
    have := Int.lt_ediv_add_one_mul_self (n : Int) hk
    push_cast at this ⊢
    linarith
  have hcast : ((n : Int) : α) < (((seats + 1 : Nat) : Int) : α) * ((pdiv n (seats + 1) + 1 : Int) : α) := by
    rw [← Int.cast_mul]; exact Int.cast_lt.2 hlt
  have h1 := hA.one_pos
  have : ((n : Int) : α) * A.one < ((((seats + 1 : Nat) : Int) : α) * ((pdiv n (seats + 1) + 1 : Int) : α)) * A.one :=
    mul_lt_mul_of_pos_right hcast h1
  calc ((n : Int) : α) * A.one < _ := this
    _ = ((seats + 1 : Nat) : α) * (((pdiv n (seats + 1) + 1 : Int) : α) * A.one) := by push_cast; ring

theorem ScotStart.inv (hA : LawfulArith A) {s0 : St α} (h : ScotStart A s0) : GInv A (scotInit A s0) :=
  (gInit_inv A hA _ h.init h.quota_pos h.fresh h.enough (integer_droopQuota A hA s0.nballots s0.seats)).1

/-- the Scottish main loop returns; the state it stops in satisfies the round invariant, and unless the crash flag is up the
    count is complete -/
theorem scot_run (hA : LawfulArith A) (hex : A.exact = false) (s0 : St α) (h0 : ScotStart A s0) :
    ∃ s4, loopN (fun _ => true) (scotBody A) (2 * s0.cands.length + 3) (scotInit A s0) = some s4
      ∧ GInv A s4 ∧ Ext s0 s4 ∧ (s4.crash = none → scotCountComplete s4 = true) := by
  obtain ⟨hinit, _, hfuel⟩ := gInit_inv A hA _ h0.init h0.quota_pos h0.fresh h0.enough
    (integer_droopQuota A hA s0.nballots s0.seats)
  obtain ⟨s4, hl, hres⟩ := loopN_run mu (GInv A) (fun t => GInv A t ∧ scotCountComplete t = true) (fun _ => true) (scotBody A)
    (fun s hs _ => ⟨fun hc => ⟨(scotBody_spec A hA hex hs).1, (scotBody_spec A hA hex hs).2.2.2.1 hc⟩,
      fun hc => ⟨(scotBody_spec A hA hex hs).1, (scotBody_spec A hA hex hs).2.2.2.2 hc⟩⟩) _ _ hinit hfuel
  have hX : Ext s0 s4 :=
    (gInit_facts A _ s0).2.2.2.2.2.1.trans ((stepRel_ext A).loopN _ _ (stepRel_ext A).scotBody _ _ _ hl)
  rcases hres with ⟨hP, hstop⟩ | ⟨hP, hc⟩
  · refine ⟨s4, hl, hP, hX, fun hcr => ?_⟩
    rcases hstop with h | h
    · rw [hcr] at h; simp at h
    · simp at h
  · exact ⟨s4, hl, hP, hX, fun _ => hc⟩

/-- C01 (termination), Scottish rule: for every input satisfying `ScotStart` and every lawful inexact arithmetic the count
    returns — the fuelled loop of the model never runs out of fuel -/
theorem scotCount_terminates (hA : LawfulArith A) (hex : A.exact = false) (s0 : St α) (h0 : ScotStart A s0) :
    ∃ t, scotCount A s0 = some t := by
  obtain ⟨s4, hl, _⟩ := scot_run A hA hex s0 h0
  exact ⟨scotEpilogue A s4, by unfold scotCount; rw [hl]⟩

/-- the epilogue of the Minneapolis rule — and, after the pending flags are dropped, of the Scottish rule: every remaining
    hopeful candidate elected (if they all fit) or defeated -/
theorem mplsEpilogue_spec {s : St α} (hg : Good A s) :
    Good A (mplsEpilogue A s) ∧ Ext s (mplsEpilogue A s) ∧ (mplsEpilogue A s).crash = s.crash
    ∧ (mplsEpilogue A s).seats = s.seats ∧ nHop (mplsEpilogue A s) = 0
    ∧ (nEl s = s.seats ∨ (s.hopeful.length : Int) ≤ s.seatsLeft → nEl s ≤ s.seats → s.seats ≤ sumHE s →
        nEl (mplsEpilogue A s) = s.seats) := by
  unfold mplsEpilogue
  by_cases hfit : ((s.hopeful.length : Int) ≤ s.seatsLeft)
  · simp only [hfit, decide_true, if_true]
    obtain ⟨hg6, a6, b6, f6, x6, c6, _⟩ := foldElectAll A hg s.hopeful "Elect remaining candidates"
      (hopeful_cids_nodup hg.1.wf) (fun w hw => mem_hopeful.1 hw)
    generalize s.hopeful.foldl (fun acc c => acc.elect A c.cid "Elect remaining candidates" false) s = s6 at *
    obtain ⟨hg7, a7, b7, f7, x7, c7, _⟩ := foldDefeatAll A hg6 s6.hopeful "Defeat remaining candidates"
      (hopeful_cids_nodup hg6.1.wf) (fun w hw => mem_hopeful.1 hw)
    refine ⟨hg7, x6.trans x7, by rw [c7, c6], by rw [f7.2.1, f6.2.1], ?_, ?_⟩
    · unfold nHop at a7 ⊢; omega
    · intro _ hle hge
      unfold St.seatsLeft at hfit
      unfold sumHE at hge
      unfold nHop nEl at *
      omega
  · simp only [hfit, decide_false, Bool.false_eq_true, if_false]
    obtain ⟨hg7, a7, b7, f7, x7, c7, _⟩ := foldDefeatAll A hg s.hopeful "Defeat remaining candidates"
      (hopeful_cids_nodup hg.1.wf) (fun w hw => mem_hopeful.1 hw)
    refine ⟨hg7, x7, c7, f7.2.1, ?_, ?_⟩
    · unfold nHop at a7 ⊢; omega
    · intro hfin hle hge
      rcases hfin with h | h
      · rw [b7]; exact h
      · exact False.elim h

theorem scotEpilogue_eq (s : St α) :
    scotEpilogue A s = mplsEpilogue A (s.pendingL.foldl (fun acc c => acc.unpendSilent c.cid) s) := rfl

theorem scotEpilogue_spec {s : St α} (hg : Good A s) :
    Good A (scotEpilogue A s) ∧ Ext s (scotEpilogue A s) ∧ (scotEpilogue A s).crash = s.crash
    ∧ (scotEpilogue A s).seats = s.seats ∧ nHop (scotEpilogue A s) = 0
    ∧ (scotCountComplete s = true → nEl s ≤ s.seats → s.seats ≤ sumHE s → nEl (scotEpilogue A s) = s.seats) := by
  have hg5 := hg.foldUnpend A
  obtain ⟨u1, u2, u3⟩ := counts_foldUnpend s.pendingL s
  have hx5 := (stepRel_ext A).foldUnpend s.pendingL s
  have hc5 := crash_foldUnpend s.pendingL s
  rw [scotEpilogue_eq]
  generalize s.pendingL.foldl (fun acc c => acc.unpendSilent c.cid) s = s5 at *
  obtain ⟨e1, e2, e3, e4, e5, e6⟩ := mplsEpilogue_spec A hg5
  refine ⟨e1, hx5.trans e2, e3.trans hc5, e4.trans u3, e5, ?_⟩
  intro hcomp hle hge
  rw [← u3]
  apply e6
  · unfold scotCountComplete at hcomp
    simp only [Bool.or_eq_true, decide_eq_true_eq] at hcomp
    unfold St.seatsLeft at hcomp ⊢
    unfold nHop nEl at *
    omega
  · omega
  · unfold sumHE at hge ⊢; omega

theorem scot_loop_exit (hA : LawfulArith A) (hex : A.exact = false) (s0 s4 : St α) (h0 : ScotStart A s0)
    (hl : loopN (fun _ => true) (scotBody A) (2 * s0.cands.length + 3) (scotInit A s0) = some s4) :
    GInv A s4 ∧ Ext (scotInit A s0) s4 ∧ (s4.crash = none → scotCountComplete s4 = true) := by
  obtain ⟨s4', hl', hP, _, hcomp⟩ := scot_run A hA hex s0 h0
  cases Option.some.inj (hl'.symm.trans hl)
  exact ⟨hP, (stepRel_ext A).loopN _ _ (stepRel_ext A).scotBody _ _ _ hl, hcomp⟩

/-- C01, Scottish rule: the count returns; unless the crash flag is up, exactly `seats` candidates are elected and
    nobody is left hopeful — every candidate who is not withdrawn is elected or defeated. -/
theorem scot_seats_filled (hA : LawfulArith A) (hex : A.exact = false) (s0 : St α) (h0 : ScotStart A s0) :
    ∃ t, scotCount A s0 = some t ∧ (t.crash = none → nEl t = t.seats ∧ nHop t = 0) := by
  obtain ⟨s4, hl, hP, _, hcomp⟩ := scot_run A hA hex s0 h0
  obtain ⟨_, _, e3, e4, e5, e6⟩ := scotEpilogue_spec A (s := s4) ⟨hP.1.1, hP.2.1⟩
  refine ⟨scotEpilogue A s4, by unfold scotCount; rw [hl], fun hcr => ?_⟩
  rw [e3] at hcr
  exact ⟨by rw [e4]; exact e6 (hcomp hcr) (hP.elected_le A) hP.2.2.2, e5⟩

/-- C09, Scottish rule: in the record of the whole count — main loop and epilogue — statuses only move forward, and
    when the main loop stops the elected do not exceed the seats. -/
theorem scot_record_monotone (hA : LawfulArith A) (hex : A.exact = false) (s0 t : St α) (h0 : ScotStart A s0)
    (h : scotCount A s0 = some t) : Mon t ∧ Ext s0 t := by
  obtain ⟨s4, hl, hP, hX, _⟩ := scot_run A hA hex s0 h0
  unfold scotCount at h
  rw [hl] at h; cases h
  obtain ⟨hg, hx, _⟩ := scotEpilogue_spec A (s := s4) ⟨hP.1.1, hP.2.1⟩
  exact ⟨hg.2, hX.trans hx⟩

theorem scot_loop_elected_le_seats (hA : LawfulArith A) (hex : A.exact = false) (s0 s4 : St α) (h0 : ScotStart A s0)
    (hl : loopN (fun _ => true) (scotBody A) (2 * s0.cands.length + 3) (scotInit A s0) = some s4) :
    s4.elected.length ≤ s4.seats :=
  (scot_loop_exit A hA hex s0 s4 h0 hl).1.elected_le A

end Droop
