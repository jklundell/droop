import DroopProofs.RunZero
import DroopProofs.StepComm

/-! # C11, wigm / wigm-prf / wigm-prf-batch (every configuration): the count of the profile with the withdrawn candidates
deleted is the count of the full profile with the withdrawn candidates deleted from its record -/
namespace Droop
variable {α : Type} [CommRing α] [LinearOrder α] [IsStrictOrderedRing α] (A : Arith α)

theorem WF_transferAll {s : St α} (hwf : s.WF) (cids : List Nat) (rew : α → α) : (transferAll A s cids rew).WF :=
  WF_of_skel (transferAll_skel A s cids rew).symm hwf

theorem nonWId_foldDefeat {s : St α} {c : Nat} (h : NonWId s c) (ws : List (Cand α)) (verb : Cand α → String) :
    NonWId (ws.foldl (fun acc c => acc.defeat A c.cid (verb c)) s) c := by
  induction ws generalizing s with
  | nil => exact h
  | cons w ws ih => simp only [List.foldl_cons]; exact ih (nonWId_defeat A h _ _)

theorem dropW_wigmBody (o : WigmOpts) {s : St α} (hwf : s.WF) :
    wigmBody A o (dropW s) = (dropW (wigmBody A o s).1, (wigmBody A o s).2) :=
  (stepComm_dropW A).wigmBody o (fun _ => hwf)

/-- **C11, second clause, wigm / wigm-prf / wigm-prf-batch (every configuration)**: counting the profile with the withdrawn
    candidates deleted gives exactly the state (record included) obtained by deleting them from the count of the full profile -/
theorem wigm_dropW (hA : LawfulArith A) (hr : EqRefl A) (u : α) (hu : 0 ≤ u) (hlow : RewLower A u (rewMulDiv A))
    (o : WigmOpts) (hex : o.prf = true → A.exact = false) (s0 t t' : St α) (h0 : GStart A (wigmQuota A o s0) s0)
    (hl0 : LStart A (wigmQuota A o s0) s0) (h : wigmCount A o s0 = some t) (h' : wigmCount A o (dropW s0) = some t') :
    t' = dropW t := by
  rw [wigmCount_eq] at h h'
  rw [← (stepComm_dropW A).wigmInit] at h'
  exact count_dropW (WigmAll A u) stdGuard (wigmBody A o) (epilogueElectOrDefeat A)
    (fun s hs hg => (wigmBody_spec_all A hA hr u hu hlow o hex hs hg).1) stdGuard_dropW
    (fun s hs => dropW_wigmBody A o hs.1.wf)
    (fun s hs => (stepComm_dropW A).epilogue (fun _ => hs.1.wf)) (dropW_fuel_le s0 3)
    (WigmAll.init A hA u o h0 hl0) h h'

end Droop
