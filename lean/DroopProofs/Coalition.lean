import DroopProofs.Lower
import DroopProofs.RunMpls

/-! # C05: coalition bookkeeping for the Gregory rules

`S` is the coalition (a list of candidate ids), `m` the length of the prefix of a ranking that must be exactly `S`
(as a set).  A *coalition ballot* ranks the members of `S`, in any order, in its first `m` places.  `Pos s`: every candidate a
ballot has passed over (positions before `idx`) is not hopeful.  `RestX s X`: every ballot rests on a candidate that is hopeful
or elected-with-transfer-pending, or on one of `X` (the candidates whose papers are about to be moved).  `Vval s`: the total
current value of the coalition ballots.  The module has what a transfer does to these three, and the counting argument: the
coalition's ballots are worth more than `k` quotas, each finished member keeps at most one, so while a member is hopeful the
coalition cannot be excluded and, with all seats taken, holds `k` of them. -/
namespace Droop
variable {α : Type} [CommRing α] [LinearOrder α] [IsStrictOrderedRing α] (A : Arith α)

section Defs
variable (S : List Nat) (m : Nat)

def isVb (r : List Nat) : Bool :=
  (r.take m).all (fun x => S.contains x) && S.all (fun x => (r.take m).contains x)

def Vval (s : St α) : α := (s.ballots.map (fun b => if isVb S m b.rank then bvote A b else 0)).sum
def Vmult (s : St α) : α := (s.ballots.map (fun b => if isVb S m b.rank then ((b.mult : Int) : α) else 0)).sum

def hopS (s : St α) : Nat := (s.cands.filter (fun c => S.contains c.cid && c.st == .hopeful)).length
def elS (s : St α) : Nat := (s.cands.filter (fun c => S.contains c.cid && c.st == .elected)).length
def doneS (s : St α) : Nat := (s.cands.filter (fun c => S.contains c.cid && (c.st == .elected && !c.pending))).length
end Defs

def Pos (s : St α) : Prop :=
  ∀ b ∈ s.ballots, ∀ (j c : Nat), j < b.idx → b.rank[j]? = some c → s.isHopeful c = false

def inScopeId (s : St α) (c : Nat) : Bool :=
  s.cands.any (fun x => x.cid == c && (x.st == .hopeful || (x.st == .elected && x.pending)))

def RestX (s : St α) (X : List Nat) : Prop :=
  ∀ b ∈ s.ballots, ∀ c, b.top = some c → inScopeId s c = true ∨ c ∈ X

theorem Pos.of_sub {s t : St α} (h : Pos s) (hb : t.ballots = s.ballots)
    (hh : ∀ c, t.isHopeful c = true → s.isHopeful c = true) : Pos t := by
  intro b hbm j c hj hr
  rw [hb] at hbm
  have := h b hbm j c hj hr
  cases hc : t.isHopeful c with
  | false => rfl
  | true => rw [hh c hc] at this; cases this

theorem Pos.of_skel {s t : St α} (h : Pos s) (hb : t.ballots = s.ballots) (hsk : t.skel = s.skel) : Pos t :=
  h.of_sub hb (fun c hc => by rw [← isHopeful_of_skel hsk c]; exact hc)

theorem advanceTo_pos (cont : Nat → Bool) (b : Ballot α) (j c : Nat) (hj : j < (advanceTo cont b).idx)
    (hr : b.rank[j]? = some c) (hge : b.idx ≤ j) : cont c = false := by
  unfold advanceTo at hj
  cases hf : (b.rank.drop b.idx).findIdx? cont with
  | some k =>
    rw [hf] at hj
    simp only at hj
    obtain ⟨hlt, _, hall⟩ := List.findIdx?_eq_some_iff_getElem.1 hf
    have hjk : j - b.idx < k := by omega
    have := hall (j - b.idx) hjk
    have hget : (b.rank.drop b.idx)[j - b.idx]? = some c := by
      rw [List.getElem?_drop]
      have : b.idx + (j - b.idx) = j := by omega
      rw [this]; exact hr
    have hlt2 : j - b.idx < (b.rank.drop b.idx).length := by omega
    have hget' : (b.rank.drop b.idx)[j - b.idx] = c := by
      have := List.getElem?_eq_getElem hlt2
      rw [this] at hget; exact Option.some.inj hget
    rw [hget'] at this
    simpa using this
  | none =>
    have hn := List.findIdx?_eq_none_iff.1 hf
    have hmem : c ∈ b.rank.drop b.idx := by
      have hget : (b.rank.drop b.idx)[j - b.idx]? = some c := by
        rw [List.getElem?_drop]
        have : b.idx + (j - b.idx) = j := by omega
        rw [this]; exact hr
      exact List.mem_of_getElem? hget
    have := hn c hmem
    simpa using this

theorem Pos.transferAll {s : St α} (h : Pos s) (cids : List Nat) (rew : α → α) : Pos (transferAll A s cids rew) := by
  have hsk := transferAll_skel A s cids rew
  intro b' hb' j c hj hr
  rw [isHopeful_of_skel hsk c]
  rw [transferAll_ballots] at hb'
  obtain ⟨b, hb, rfl⟩ := List.mem_map.1 hb'
  unfold moveBallot at hj hr
  cases htop : b.top with
  | none => rw [htop] at hj hr; exact h b hb j c hj hr
  | some d =>
    rw [htop] at hj hr
    simp only at hj hr
    by_cases hc : cids.contains d = true
    · rw [if_pos hc] at hj hr
      rw [advanceTo_rank] at hr
      by_cases hlt : j < b.idx
      · exact h b hb j c hlt hr
      · exact advanceTo_pos (fun cid => s.isHopeful cid) { b with w := rew b.w } j c hj hr (by simpa using hlt)
    · rw [if_neg hc] at hj hr
      exact h b hb j c hj hr

/-- while a member of the coalition is hopeful, every coalition ballot rests on a member of the coalition -/
theorem top_in_S (S : List Nat) (m : Nat) {s : St α} (hp : Pos s) (b : Ballot α) (hb : b ∈ s.ballots)
    (hv : isVb S m b.rank = true) (x : Nat) (hx : x ∈ S) (hxh : s.isHopeful x = true) :
    ∃ c, b.top = some c ∧ c ∈ S := by
  unfold isVb at hv
  simp only [Bool.and_eq_true, List.all_eq_true, List.contains_iff_mem] at hv
  obtain ⟨h1, h2⟩ := hv
  have hxm : x ∈ b.rank.take m := by simpa using h2 x hx
  obtain ⟨j, hjlt, hjx⟩ := List.getElem_of_mem hxm
  have hjm : j < m := by
    have := hjlt; rw [List.length_take] at this; omega
  have hjl : j < b.rank.length := by
    have := hjlt; rw [List.length_take] at this; omega
  have hrj : b.rank[j]? = some x := by
    rw [List.getElem?_eq_getElem hjl]
    rw [List.getElem_take] at hjx
    rw [hjx]
  have hge : b.idx ≤ j := by
    by_contra hlt
    have := hp b hb j x (by omega) hrj
    rw [hxh] at this; cases this
  have hil : b.idx < b.rank.length := by omega
  refine ⟨b.rank[b.idx], ?_, ?_⟩
  · unfold Ballot.top; exact List.getElem?_eq_getElem hil
  · have : b.rank[b.idx] ∈ b.rank.take m := by
      rw [List.mem_take_iff_getElem]
      exact ⟨b.idx, by rw [Nat.lt_min]; exact ⟨by omega, hil⟩, rfl⟩
    simpa using h1 _ this

theorem inScopeId_iff {s : St α} {c : Nat} :
    inScopeId s c = true ↔ ∃ x ∈ s.cands, x.cid = c ∧ (x.st = .hopeful ∨ (x.st = .elected ∧ x.pending = true)) := by
  unfold inScopeId
  rw [List.any_eq_true]
  constructor
  · rintro ⟨x, hx, h⟩
    simp only [Bool.and_eq_true, beq_iff_eq, Bool.or_eq_true] at h
    exact ⟨x, hx, h.1, h.2⟩
  · rintro ⟨x, hx, h1, h2⟩
    refine ⟨x, hx, ?_⟩
    simp only [Bool.and_eq_true, beq_iff_eq, Bool.or_eq_true]
    exact ⟨h1, h2⟩

theorem isHopeful_iff {s : St α} {c : Nat} : s.isHopeful c = true ↔ ∃ x ∈ s.cands, x.cid = c ∧ x.st = .hopeful := by
  unfold St.isHopeful
  rw [List.any_eq_true]
  constructor
  · rintro ⟨x, hx, h⟩
    simp only [Bool.and_eq_true, beq_iff_eq] at h
    exact ⟨x, hx, h.1, h.2⟩
  · rintro ⟨x, hx, h1, h2⟩
    exact ⟨x, hx, by simp [h1, h2]⟩

theorem inScopeId_of_hopeful {s : St α} {c : Nat} (h : s.isHopeful c = true) : inScopeId s c = true := by
  obtain ⟨x, hx, h1, h2⟩ := isHopeful_iff.1 h
  exact inScopeId_iff.2 ⟨x, hx, h1, Or.inl h2⟩

theorem inScopeId_of_skel {s t : St α} (h : t.skel = s.skel) (c : Nat) (hc : inScopeId s c = true) : inScopeId t c = true := by
  obtain ⟨x, hx, h1, h2⟩ := inScopeId_iff.1 hc
  obtain ⟨x', hx', hsk⟩ := mem_of_skel_eq h.symm hx
  refine inScopeId_iff.2 ⟨x', hx', (skel_cid hsk).trans h1, ?_⟩
  rw [(skel_st hsk).1, (skel_st hsk).2]; exact h2

theorem RestX.of_skel {s t : St α} {X : List Nat} (h : RestX s X) (hb : t.ballots = s.ballots) (hsk : t.skel = s.skel) :
    RestX t X := by
  intro b hbm c hc
  rw [hb] at hbm
  rcases h b hbm c hc with h1 | h1
  · exact Or.inl (inScopeId_of_skel hsk c h1)
  · exact Or.inr h1

theorem RestX.weaken {s : St α} {X Y : List Nat} (h : RestX s X) (hxy : ∀ c ∈ X, c ∈ Y) : RestX s Y := by
  intro b hb c hc
  rcases h b hb c hc with h1 | h1
  · exact Or.inl h1
  · exact Or.inr (hxy c h1)

theorem RestX.upd {s : St α} {X : List Nat} (h : RestX s X) (cid : Nat) (f : Cand α → Cand α) :
    RestX (s.upd cid f) (cid :: X) := by
  intro b hb c hc
  rcases h b hb c hc with h1 | h1
  · by_cases hcc : c = cid
    · exact Or.inr (by simp [hcc])
    · left
      obtain ⟨x, hx, hx1, hx2⟩ := inScopeId_iff.1 h1
      refine inScopeId_iff.2 ⟨x, ?_, hx1, hx2⟩
      exact mem_upd_of_ne hx (by rw [hx1]; exact hcc)
  · exact Or.inr (by simp [h1])

theorem RestX.upd_keep {s : St α} {X : List Nat} (h : RestX s X) (cid : Nat) (f : Cand α → Cand α)
    (hcid : ∀ x, (f x).cid = x.cid)
    (hf : ∀ x ∈ s.cands, (x.st = .hopeful ∨ (x.st = .elected ∧ x.pending = true)) →
        ((f x).st = .hopeful ∨ ((f x).st = .elected ∧ (f x).pending = true))) :
    RestX (s.upd cid f) X := by
  intro b hb c hc
  rcases h b hb c hc with h1 | h1
  · left
    obtain ⟨x, hx, hx1, hx2⟩ := inScopeId_iff.1 h1
    by_cases hcc : x.cid = cid
    · exact inScopeId_iff.2 ⟨f x, mem_upd_of_eq hx hcc, (hcid x).trans hx1, hf x hx hx2⟩
    · exact inScopeId_iff.2 ⟨x, mem_upd_of_ne hx hcc, hx1, hx2⟩
  · exact Or.inr h1

/-- moving the papers of `cids` puts every paper back on a continuing candidate -/
theorem RestX.transferAll {s : St α} {cids : List Nat} (h : RestX s cids) (rew : α → α) :
    RestX (transferAll A s cids rew) [] := by
  have hsk := transferAll_skel A s cids rew
  intro b' hb' c hc
  left
  apply inScopeId_of_skel hsk
  rw [transferAll_ballots] at hb'
  obtain ⟨b, hb, rfl⟩ := List.mem_map.1 hb'
  unfold moveBallot at hc
  cases htop : b.top with
  | none => rw [htop] at hc; simp only at hc; rw [htop] at hc; cases hc
  | some d =>
    rw [htop] at hc
    simp only at hc
    by_cases hd : cids.contains d = true
    · rw [if_pos hd] at hc
      exact inScopeId_of_hopeful (advanceTo_top_cont (fun cid => s.isHopeful cid) _ c hc)
    · rw [if_neg hd] at hc
      rw [htop] at hc
      have hcd : d = c := Option.some.inj hc
      rcases h b hb d htop with h1 | h1
      · rw [← hcd]; exact h1
      · exact absurd (by simpa using h1) hd

section Values
variable (S : List Nat) (m : Nat)

theorem Vval_eq (hA : LawfulArith A) (s : St α) :
    Vval A S m s = (s.ballots.map (fun b => if isVb S m b.rank then b.w * ((b.mult : Int) : α) else 0)).sum := by
  unfold Vval
  congr 1
  apply List.map_congr_left
  intro b _
  split
  · exact bvote_eq A hA b
  · rfl

theorem Vval_congr {s t : St α} (hb : t.ballots = s.ballots) : Vval A S m t = Vval A S m s := by
  unfold Vval; rw [hb]

theorem Vmult_congr {s t : St α} (hb : t.ballots = s.ballots) : Vmult S m t = Vmult S m s := by
  unfold Vmult; rw [hb]

def movedW (cids : List Nat) (rew : α → α) (b : Ballot α) : α :=
  match b.top with
  | some c => if cids.contains c then rew b.w else b.w
  | none => b.w

theorem moveBallot_w (s : St α) (cids : List Nat) (rew : α → α) (b : Ballot α) :
    (moveBallot s cids rew b).w = movedW cids rew b := by
  unfold moveBallot movedW
  cases htop : b.top with
  | none => rfl
  | some c =>
    simp only
    split
    · rw [advanceTo_w]
    · rfl

theorem Vmult_transferAll (s : St α) (cids : List Nat) (rew : α → α) :
    Vmult S m (transferAll A s cids rew) = Vmult S m s := by
  unfold Vmult
  rw [transferAll_ballots, List.map_map]
  congr 1
  apply List.map_congr_left
  intro b _
  simp only [Function.comp, moveBallot_rank, moveBallot_mult]

theorem Vval_transferAll (hA : LawfulArith A) (s : St α) (cids : List Nat) (rew : α → α) :
    Vval A S m (transferAll A s cids rew)
      = (s.ballots.map (fun b => if isVb S m b.rank then movedW cids rew b * ((b.mult : Int) : α) else 0)).sum := by
  rw [Vval_eq A S m hA, transferAll_ballots, List.map_map]
  congr 1
  apply List.map_congr_left
  intro b _
  simp only [Function.comp, moveBallot_rank, moveBallot_mult, moveBallot_w]

theorem Vval_transferAll_id (hA : LawfulArith A) (s : St α) (cids : List Nat) :
    Vval A S m (transferAll A s cids id) = Vval A S m s := by
  rw [Vval_transferAll A S m hA, Vval_eq A S m hA]
  congr 1
  apply List.map_congr_left
  intro b _
  have : movedW cids id b = b.w := by
    unfold movedW; split
    · split <;> rfl
    · rfl
  rw [this]

theorem Vval_transferAll_disjoint (hA : LawfulArith A) (s : St α) (cids : List Nat) (rew : α → α)
    (h : ∀ b ∈ s.ballots, isVb S m b.rank = true → ∀ d, b.top = some d → cids.contains d = false) :
    Vval A S m (transferAll A s cids rew) = Vval A S m s := by
  rw [Vval_transferAll A S m hA, Vval_eq A S m hA]
  congr 1
  apply List.map_congr_left
  intro b hb
  by_cases hv : isVb S m b.rank = true
  · have : movedW cids rew b = b.w := by
      unfold movedW
      cases htop : b.top with
      | none => rfl
      | some d => simp only [h b hb hv d htop, Bool.false_eq_true, if_false]
    rw [this]
  · simp only [hv, Bool.false_eq_true, if_false]

theorem sum_le_sum' {β : Type} (l : List β) (f g : β → α) (h : ∀ x ∈ l, f x ≤ g x) : (l.map f).sum ≤ (l.map g).sum :=
  List.sum_le_sum h

theorem movedW_single (hc : Nat) (rew : α → α) (b : Ballot α) :
    movedW [hc] rew b = if b.top == some hc then rew b.w else b.w := by
  unfold movedW
  cases b.top with
  | none => rfl
  | some d => simp

/-- the arithmetic of a surplus transfer: a value `X ≤ T` re-weighted by `sur / T`, with a loss of at most `u` per unit
    of `M`, loses at most `T - sur` more -/
theorem surplus_loss_core {X X' M u sur T : α} (hT : 0 < T) (hsT : sur ≤ T) (hX : X ≤ T)
    (hlaw : X * sur ≤ (X' + u * M) * T) : X ≤ X' + (T - sur) + u * M := by
  have h : X * (T - sur) ≤ T * (T - sur) := mul_le_mul_of_nonneg_right hX (sub_nonneg.2 hsT)
  have hkey : (X - X' - u * M) * T ≤ (T - sur) * T := by linarith
  linarith [le_of_mul_le_mul_right hkey hT]

/-- **the surplus of `hc` is transferred**: the coalition's ballots lose at most the quota the candidate keeps, plus `u`
    per ballot (`RewLower`), provided their value resting on `hc` is at most the tally `T` the re-weighting divides by -/
theorem Vval_surplus (hA : LawfulArith A) (u : α) (hu : 0 ≤ u) (rew0 : α → α → α → α) (hlow : RewLower A u rew0)
    (s : St α) (hc : Nat) (sur T : α) (hsur : 0 ≤ sur) (hsT : sur ≤ T) (hT : A.one ≤ T)
    (hw : ∀ b ∈ s.ballots, 0 ≤ b.w)
    (hX : (s.ballots.map (fun b => if isVb S m b.rank && (b.top == some hc) then b.w * ((b.mult : Int) : α) else 0)).sum ≤ T) :
    Vval A S m s ≤ Vval A S m (transferAll A s [hc] (fun w => rew0 w sur T)) + (T - sur) + u * Vmult S m s := by
  have hmpos : ∀ b : Ballot α, (0 : α) ≤ ((b.mult : Int) : α) := fun b => by exact_mod_cast Nat.zero_le _
  -- only the coalition ballots resting on `hc` change their value
  have e : Vval A S m s
        + (s.ballots.map (fun b => if isVb S m b.rank && (b.top == some hc) then rew0 b.w sur T * ((b.mult : Int) : α) else 0)).sum
      = Vval A S m (transferAll A s [hc] (fun w => rew0 w sur T))
        + (s.ballots.map (fun b => if isVb S m b.rank && (b.top == some hc) then b.w * ((b.mult : Int) : α) else 0)).sum := by
    rw [Vval_eq A S m hA, Vval_transferAll A S m hA, ← List.sum_map_add, ← List.sum_map_add]
    congr 1
    apply List.map_congr_left
    intro b _
    rw [movedW_single]
    cases isVb S m b.rank <;> cases (b.top == some hc) <;> simp [add_comm]
  -- the re-weighting law, summed over them
  have hsum := sum_if_law (fun b : Ballot α => (isVb S m b.rank && (b.top == some hc)) = true) s.ballots
    (fun b => b.w * ((b.mult : Int) : α)) (fun b => rew0 b.w sur T * ((b.mult : Int) : α)) (fun b => ((b.mult : Int) : α)) sur T u
    (fun b hb _ => by
      calc b.w * ((b.mult : Int) : α) * sur = b.w * sur * ((b.mult : Int) : α) := by ring
        _ ≤ (rew0 b.w sur T + u) * T * ((b.mult : Int) : α) :=
          mul_le_mul_of_nonneg_right (hlow b.w sur T (hw b hb) hsur hT) (hmpos b)
        _ = (rew0 b.w sur T * ((b.mult : Int) : α) + u * ((b.mult : Int) : α)) * T := by ring)
  have hM : (s.ballots.map (fun b => if isVb S m b.rank && (b.top == some hc) then ((b.mult : Int) : α) else 0)).sum
      ≤ Vmult S m s :=
    sum_le_sum' _ _ _ fun b _ => by
      cases isVb S m b.rank <;> cases (b.top == some hc) <;> simp [hmpos b]
  have := surplus_loss_core (lt_of_lt_of_le hA.one_pos hT) hsT hX hsum
  linarith [mul_le_mul_of_nonneg_left hM hu]

end Values

section Key
variable (S : List Nat) (m : Nat)

def inSc (c : Cand α) : Bool := c.st == .hopeful || (c.st == .elected && c.pending)

theorem length_filter_le_of_imp {β : Type} (l : List β) (p q : β → Bool) (h : ∀ x ∈ l, p x = true → q x = true) :
    (l.filter p).length ≤ (l.filter q).length := by
  induction l with
  | nil => simp
  | cons x xs ih =>
    have ih' := ih (fun y hy => h y (by simp [hy]))
    simp only [List.filter_cons]
    by_cases hp : p x = true
    · have hq := h x (by simp) hp
      simp only [hp, hq, if_true, List.length_cons]; omega
    · simp only [hp, Bool.false_eq_true, if_false]
      split
      · simp only [List.length_cons]; omega
      · exact ih'

theorem sum_le_card_mul (l : List (Cand α)) (q : α) (h : ∀ c ∈ l, c.vote ≤ q) :
    (l.map (·.vote)).sum ≤ (l.length : α) * q := by
  induction l with
  | nil => simp
  | cons x xs ih =>
    simp only [List.length_cons, List.map_cons, List.sum_cons]
    have := ih (fun c hc => h c (by simp [hc]))
    have hx := h x (by simp)
    push_cast
    linarith

theorem Vmult_nonneg (s : St α) : 0 ≤ Vmult S m s := by
  unfold Vmult
  apply List.sum_nonneg
  intro x hx
  obtain ⟨b, _, rfl⟩ := List.mem_map.1 hx
  split
  · exact_mod_cast Nat.zero_le _
  · exact le_refl _

theorem exists_hopeful_of_hopS {S : List Nat} {s : St α} (hh : 1 ≤ hopS S s) : ∃ x, x ∈ S ∧ s.isHopeful x = true := by
  obtain ⟨c, hc⟩ := List.exists_mem_of_length_pos (Nat.lt_of_lt_of_le Nat.zero_lt_one hh)
  rw [List.mem_filter] at hc
  simp only [Bool.and_eq_true, List.contains_iff_mem, beq_iff_eq] at hc
  exact ⟨c.cid, hc.2.1, isHopeful_iff.2 ⟨c, hc.1, rfl, hc.2.2⟩⟩

/-- the coalition's value rests on the coalition's continuing candidates (while one of them is hopeful) -/
theorem Vval_le_inscope (hA : LawfulArith A) {s : St α} (hI : Inv A s) (hp : Pos s) (hr : RestX s [])
    (hh : 1 ≤ hopS S s) :
    Vval A S m s ≤ ((s.cands.filter (fun c => S.contains c.cid && inSc c)).map (·.vote)).sum := by
  set LSP := s.cands.filter (fun c => S.contains c.cid && inSc c) with hLSP
  have hnd : (LSP.map (·.cid)).Nodup := List.Nodup.sublist (List.Sublist.map _ List.filter_sublist) hI.wf
  obtain ⟨x, hxS, hxh⟩ := exists_hopeful_of_hopS hh
  set f : Ballot α → α := fun b => if isVb S m b.rank then b.w * ((b.mult : Int) : α) else 0 with hf
  have hfpos : ∀ b ∈ s.ballots, 0 ≤ f b := by
    intro b hb
    simp only [hf]
    split
    · exact mul_nonneg (hI.wpos b hb) (by exact_mod_cast Nat.zero_le _)
    · exact le_refl _
  rw [Vval_eq A S m hA]
  have e1 : s.ballots.map f = s.ballots.map (fun b => match b.top with
      | some c => if c ∈ LSP.map (·.cid) then f b else 0
      | none => 0) := by
    apply List.map_congr_left
    intro b hb
    by_cases hv : isVb S m b.rank = true
    · obtain ⟨c0, hc0, hc0S⟩ := top_in_S S m hp b hb hv x hxS hxh
      rcases hr b hb c0 hc0 with h1 | h1
      · obtain ⟨y, hy, hy1, hy2⟩ := inScopeId_iff.1 h1
        have hyL : y ∈ LSP := by
          rw [hLSP, List.mem_filter]
          refine ⟨hy, ?_⟩
          simp only [Bool.and_eq_true, List.contains_iff_mem, inSc, Bool.or_eq_true, beq_iff_eq]
          exact ⟨by rw [hy1]; exact hc0S, hy2⟩
        have hmem : c0 ∈ LSP.map (·.cid) := List.mem_map.2 ⟨y, hyL, hy1⟩
        rw [hc0]; simp only [hmem, if_true]
      · cases h1
    · have : f b = 0 := by simp only [hf, hv, Bool.false_eq_true, if_false]
      rw [this]
      split
      · split <;> rfl
      · rfl
  have : (s.ballots.map (fun b => if isVb S m b.rank then b.w * ((b.mult : Int) : α) else 0)) = s.ballots.map f := rfl
  rw [this, e1]
  refine le_trans (le_of_eq (sum_by_source s.ballots f (LSP.map (·.cid)) hnd)) ?_
  rw [List.map_map]
  apply sum_le_sum'
  intro c hc
  simp only [Function.comp]
  have hcm : c ∈ s.cands ∧ (S.contains c.cid && inSc c) = true := by rw [hLSP, List.mem_filter] at hc; exact hc
  have hsc : c.inScope := by
    have := hcm.2
    simp only [Bool.and_eq_true, inSc, Bool.or_eq_true, beq_iff_eq] at this
    exact this.2
  rw [hI.i1 c hcm.1 hsc, tally_explicit A hA]
  apply sum_le_sum'
  intro b hb
  by_cases ht : b.top = some c.cid
  · simp only [ht, if_true, hf]
    split
    · exact le_refl _
    · exact mul_nonneg (hI.wpos b hb) (by exact_mod_cast Nat.zero_le _)
  · simp only [ht, if_false]; exact le_refl _

/-- The counting core.  The coalition's ballots are worth `Mo`, more than `k` quotas plus `N` allowances `w`; at most a
    quota and an allowance went with each of the `d ≤ N` members whose surplus has been transferred; what is left, `V`, rests
    on tallies that sum to `X`.  Then those tallies and the `d` quotas kept exceed `k` quotas. -/
theorem quota_count_core {q w V X Mo : α} {k d N : Nat} (hw : 0 ≤ w) (hdN : d ≤ N)
    (hD2 : Mo ≤ V + (d : α) * (q + w)) (hbig : (k : α) * q + (N : α) * w < Mo) (hX : V ≤ X) :
    (k : α) * q < X + (d : α) * q := by
  have h1 : (d : α) * w ≤ (N : α) * w := mul_le_mul_of_nonneg_right (Nat.cast_le.2 hdN) hw
  rw [mul_add] at hD2
  linarith

/-- while the coalition has a hopeful member, its continuing members' tallies and the quotas kept by the finished ones
    exceed `k` quotas -/
theorem quota_lt_inscope (hA : LawfulArith A) (u : α) (hu : 0 ≤ u) {s : St α} (hI : Inv A s) (hp : Pos s) (hr : RestX s [])
    (hh : 1 ≤ hopS S s) (k : Nat)
    (hD2 : Vmult S m s * A.one ≤ Vval A S m s + (doneS S s : α) * (s.quota + u * Vmult S m s))
    (hbig : (k : α) * s.quota + (s.cands.length : α) * (u * Vmult S m s) < Vmult S m s * A.one) :
    (k : α) * s.quota
      < ((s.cands.filter (fun c => S.contains c.cid && inSc c)).map (·.vote)).sum + (doneS S s : α) * s.quota :=
  quota_count_core (mul_nonneg hu (Vmult_nonneg S m s)) (List.length_filter_le _ _) hD2 hbig
    (Vval_le_inscope A S m hA hI hp hr hh)

/-- **single exclusions are safe for the coalition**: in a round with no surplus pending and every hopeful at or below
    the quota, while the coalition still has a hopeful member, more than `k` of its members are hopeful or elected -/
theorem alive_gt (hA : LawfulArith A) (u : α) (hu : 0 ≤ u) {s : St α} (hI : Inv A s) (hp : Pos s) (hr : RestX s [])
    (hpend : s.pendingL = []) (hbelow : ∀ c ∈ s.hopeful, c.vote ≤ s.quota) (hh : 1 ≤ hopS S s) (k : Nat)
    (hD2 : Vmult S m s * A.one ≤ Vval A S m s + (doneS S s : α) * (s.quota + u * Vmult S m s))
    (hbig : (k : α) * s.quota + (s.cands.length : α) * (u * Vmult S m s) < Vmult S m s * A.one) :
    k < hopS S s + elS S s := by
  have h1 := quota_lt_inscope A S m hA u hu hI hp hr hh k hD2 hbig
  -- without pending candidates, in scope = hopeful
  have hfil : s.cands.filter (fun c => S.contains c.cid && inSc c)
      = s.cands.filter (fun c => S.contains c.cid && c.st == .hopeful) := by
    apply List.filter_congr
    intro c hc
    have hnp : (c.st == .elected && c.pending) = false :=
      Bool.eq_false_iff.2 fun hpe => by
        have : c ∈ s.pendingL := List.mem_filter.2 ⟨hc, hpe⟩
        rw [hpend] at this
        cases this
    unfold inSc
    rw [hnp, Bool.or_false]
  rw [hfil] at h1
  have h2 : ((s.cands.filter (fun c => S.contains c.cid && c.st == .hopeful)).map (·.vote)).sum ≤ (hopS S s : α) * s.quota :=
    sum_le_card_mul _ _ fun c hc =>
      hbelow c (mem_hopeful.2 ⟨(List.mem_filter.1 hc).1, eq_of_beq (Bool.and_eq_true_iff.1 (List.mem_filter.1 hc).2).2⟩)
  have hde : doneS S s ≤ elS S s :=
    length_filter_le_of_imp _ _ _ fun c _ h => by
      simp only [Bool.and_eq_true] at h ⊢
      exact ⟨h.1, h.2.1⟩
  have h3 : (doneS S s : α) * s.quota ≤ (elS S s : α) * s.quota :=
    mul_le_mul_of_nonneg_right (Nat.cast_le.2 hde) (le_of_lt hI.qpos)
  have hfin : (k : α) * s.quota < ((hopS S s + elS S s : Nat) : α) * s.quota := by
    rw [Nat.cast_add, add_mul]
    linarith
  exact Nat.cast_lt.1 (lt_of_mul_lt_mul_right hfin (le_of_lt hI.qpos))

theorem sum_two_filters_le (l : List (Cand α)) (pA pB : Cand α → Bool)
    (hdis : ∀ c ∈ l, ¬ (pA c = true ∧ pB c = true)) (hpos : ∀ c ∈ l, 0 ≤ c.vote) :
    ((l.filter pA).map (·.vote)).sum + ((l.filter pB).map (·.vote)).sum ≤ (l.map (·.vote)).sum := by
  induction l with
  | nil => simp
  | cons x xs ih =>
    have ih' := ih (fun c hc => hdis c (by simp [hc])) (fun c hc => hpos c (by simp [hc]))
    have hx := hpos x (by simp)
    have hd := hdis x (by simp)
    simp only [List.filter_cons, List.map_cons, List.sum_cons]
    by_cases ha : pA x = true
    · have hb : pB x = false := by
        cases hb : pB x with
        | false => rfl
        | true => exact absurd ⟨ha, hb⟩ hd
      simp only [ha, hb, if_true, Bool.false_eq_true, if_false, List.map_cons, List.sum_cons]
      linarith
    · have ha' : pA x = false := by simpa using ha
      by_cases hb : pB x = true
      · simp only [ha', hb, if_true, Bool.false_eq_true, if_false, List.map_cons, List.sum_cons]
        linarith
      · have hb' : pB x = false := by simpa using hb
        simp only [ha', hb', Bool.false_eq_true, if_false]
        linarith

theorem length_filter_split {β : Type} (l : List β) (p q : β → Bool) :
    (l.filter p).length = (l.filter (fun c => p c && q c)).length + (l.filter (fun c => p c && !q c)).length := by
  induction l with
  | nil => simp
  | cons x xs ih =>
    simp only [List.filter_cons]
    cases hp : p x <;> cases hq : q x <;> simp [ih] <;> omega

/-- **all seats taken**: while the coalition still has a hopeful member, at least `k` of its members are elected -/
theorem elS_ge_of_full (hA : LawfulArith A) (u : α) (hu : 0 ≤ u) {s : St α} (hI : Inv A s) (hE : ElectedHoldQuota s)
    (hD : DroopQuota A s) (hp : Pos s) (hr : RestX s []) (hh : 1 ≤ hopS S s) (k : Nat)
    (hD2 : Vmult S m s * A.one ≤ Vval A S m s + (doneS S s : α) * (s.quota + u * Vmult S m s))
    (hbig : (k : α) * s.quota + (s.cands.length : α) * (u * Vmult S m s) < Vmult S m s * A.one)
    (hfull : s.seats ≤ nEl s) : k ≤ elS S s := by
  have h1 := quota_lt_inscope A S m hA u hu hI hp hr hh k hD2 hbig
  -- the elected split into the coalition's pending members (`pP`) and the others (`pA`), who hold a quota each
  -- next to the tallies of the coalition's continuing members
  set pP : Cand α → Bool := fun c => S.contains c.cid && c.pending with hpP
  set pA : Cand α → Bool := fun c => c.st == .elected && !pP c with hpA
  have hsum := sum_two_filters_le s.cands pA (fun c => S.contains c.cid && inSc c) (by
    rintro c _ ⟨ha, hb⟩
    simp only [hpA, hpP, inSc, Bool.and_eq_true, Bool.not_eq_true', Bool.or_eq_true, beq_iff_eq, Bool.and_eq_false_iff] at ha hb
    obtain ⟨he, hn⟩ := ha
    obtain ⟨hS, hsc⟩ := hb
    rcases hsc with hsc | hsc
    · rw [he] at hsc; cases hsc
    · rcases hn with hn | hn
      · rw [hS] at hn; cases hn
      · rw [hsc.2] at hn; cases hn) hI.vpos
  have hA1 : ((s.cands.filter pA).length : α) * s.quota ≤ ((s.cands.filter pA).map (·.vote)).sum :=
    sum_ge_card_mul _ _ fun c hc =>
      hE c (List.mem_filter.1 hc).1 (eq_of_beq (Bool.and_eq_true_iff.1 (List.mem_filter.1 hc).2).1)
  have hcons : (s.cands.map (·.vote)).sum ≤ ((s.nballots : Int) : α) * A.one := by
    have := hI.cons
    unfold St.total St.sumVotes at this
    linarith [hI.epos]
  have hD' : ((s.nballots : Int) : α) * A.one < ((s.seats : α) + 1) * s.quota := by
    have := hD
    unfold DroopQuota at this
    rwa [Nat.cast_add, Nat.cast_one] at this
  have hfin : (((s.cands.filter pA).length + k : Nat) : α) * s.quota < ((s.seats + 1 + doneS S s : Nat) : α) * s.quota := by
    push_cast
    linarith
  have hlt : (s.cands.filter pA).length + k < s.seats + 1 + doneS S s :=
    Nat.cast_lt.1 (lt_of_mul_lt_mul_right hfin (le_of_lt hI.qpos))
  have hcnt1 : nEl s = (s.cands.filter fun c => c.st == .elected && pP c).length + (s.cands.filter pA).length :=
    length_filter_split s.cands (fun c => c.st == .elected) pP
  have hcnt2 : elS S s = (s.cands.filter fun c => c.st == .elected && pP c).length + doneS S s := by
    unfold elS doneS
    rw [length_filter_split s.cands (fun c => S.contains c.cid && c.st == .elected) (fun c => c.pending)]
    simp only [hpP, Bool.and_assoc, Bool.and_left_comm]
  omega

end Key

end Droop
