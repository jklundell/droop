import DroopProofs.InvCfer
import DroopProofs.WigmLoop

/-! # Run-level tools shared by the Scottish, CfER and Minneapolis drivers

`loopN_total2`, `loopN_result`, `loopN_ext` are the principles of `Loop.lean` (`loopN_terminates` with the measure `mu`,
`loopN_returns`, `loopN_rel` with `Ext`) in this development's arithmetic context. Then: the bundle `Good` (conservation and
a forward-only record) across electing or defeating a whole list of hopeful candidates, with the counts, the measure and the
constants; what writing the reporting surplus leaves alone; and the round number, which only `newRound` changes. -/
namespace Droop
variable {α : Type} [CommRing α] [LinearOrder α] [IsStrictOrderedRing α] (A : Arith α)

/-- the per-state invariants of the run-level theorems: the conservation bundle and a forward-only record -/
def Good (s : St α) : Prop := Inv A s ∧ Mon s

theorem Good.elect {s : St α} (h : Good A s) (w : Cand α) (verb : String) (p : Bool) (hwm : w ∈ s.cands)
    (hwh : w.st = .hopeful) (hq : p = true → s.quota ≤ w.vote) : Good A (s.elect A w.cid verb p) :=
  ⟨(elect_good A h.1 hwm hwh verb p hq).1, (elect_good A h.1 hwm hwh verb p hq).2.1 h.2⟩

theorem Good.defeat {s : St α} (h : Good A s) (w : Cand α) (verb : String) (hwm : w ∈ s.cands)
    (hwh : w.st = .hopeful) : Good A (s.defeat A w.cid verb) :=
  ⟨(gstep_defeat A h.1 hwm hwh verb).inv, (gstep_defeat A h.1 hwm hwh verb).mon h.2⟩

/-- "for c in ws: op(c)" over distinct hopeful candidates, where one application keeps `Good`, takes its candidate out of
    the hopefuls, adds `d` to the elected, lowers the measure and touches nobody else -/
theorem foldOpAll (op : St α → Cand α → St α) (d : Nat)
    (hop : ∀ (t : St α) (w : Cand α), Good A t → w ∈ t.cands → w.st = .hopeful →
      Good A (op t w) ∧ nHop (op t w) + 1 = nHop t ∧ nEl (op t w) = nEl t + d ∧ Frame t (op t w) ∧ Ext t (op t w)
      ∧ (op t w).crash = t.crash ∧ mu (op t w) < mu t ∧ ∀ c ∈ t.cands, c.cid ≠ w.cid → c ∈ (op t w).cands)
    {s : St α} (h : Good A s) (ws : List (Cand α)) (hnd : (ws.map (·.cid)).Nodup)
    (hw : ∀ w ∈ ws, w ∈ s.cands ∧ w.st = .hopeful) :
    let t := ws.foldl op s
    Good A t ∧ nHop t + ws.length = nHop s ∧ nEl t = nEl s + d * ws.length ∧ Frame s t ∧ Ext s t ∧ t.crash = s.crash
    ∧ mu t + ws.length ≤ mu s := by
  have := foldl_hopefuls
    (fun n t => Good A t ∧ nHop t + (ws.length - n) = nHop s ∧ nEl t = nEl s + d * (ws.length - n) ∧ n ≤ ws.length
      ∧ Frame s t ∧ Ext s t ∧ t.crash = s.crash ∧ mu t + (ws.length - n) ≤ mu s) op
    (by
      intro n t w hP hwm hwh
      obtain ⟨hg, a, b, hn, hf, he, hcr, hmu⟩ := hP
      obtain ⟨hg', a', b', hf', he', hcr', hmu', hmem⟩ := hop t w hg hwm hwh
      have e : ws.length - n = (ws.length - (n + 1)) + 1 := by omega
      refine ⟨⟨hg', by omega, ?_, by omega, hf.trans hf', he.trans he', hcr'.trans hcr, by omega⟩, hmem⟩
      rw [b', b, e, Nat.mul_succ]; omega)
    ws hnd hw ⟨h, by omega, by simp, Nat.le_refl _, Frame.refl s, Ext.refl s, rfl, by omega⟩
  obtain ⟨hg, a, b, _, hf, he, hcr, hmu⟩ := this
  exact ⟨hg, by omega, by simpa using b, hf, he, hcr, by omega⟩

theorem foldElectAll {s : St α} (h : Good A s) (ws : List (Cand α)) (verb : String)
    (hnd : (ws.map (·.cid)).Nodup) (hw : ∀ w ∈ ws, w ∈ s.cands ∧ w.st = .hopeful) :
    let t := ws.foldl (fun acc c => acc.elect A c.cid verb false) s
    Good A t ∧ nHop t + ws.length = nHop s ∧ nEl t = nEl s + ws.length ∧ Frame s t ∧ Ext s t ∧ t.crash = s.crash
    ∧ mu t + ws.length ≤ mu s := by
  have := foldOpAll A (fun acc c => acc.elect A c.cid verb false) 1 (fun t w hg hwm hwh => by
    have hc := counts_elect A t w verb false hg.1.wf hwm hwh
    exact ⟨hg.elect A w verb false hwm hwh (fun hp => by cases hp), by omega, by omega, frame_elect A t w.cid verb false,
      ext_elect A t w.cid verb false, crash_elect A t w.cid verb false, mu_elect_lt A t w verb false hg.1.wf hwm hwh,
      fun c hc' hne => mem_elect_of_ne A hc' _ _ _ hne⟩) h ws hnd hw
  simpa using this

theorem foldDefeatAll {s : St α} (h : Good A s) (ws : List (Cand α)) (verb : String)
    (hnd : (ws.map (·.cid)).Nodup) (hw : ∀ w ∈ ws, w ∈ s.cands ∧ w.st = .hopeful) :
    let t := ws.foldl (fun acc c => acc.defeat A c.cid verb) s
    Good A t ∧ nHop t + ws.length = nHop s ∧ nEl t = nEl s ∧ Frame s t ∧ Ext s t ∧ t.crash = s.crash
    ∧ mu t + ws.length ≤ mu s := by
  have := foldOpAll A (fun acc c => acc.defeat A c.cid verb) 0 (fun t w hg hwm hwh => by
    have hc := counts_defeat A t w verb hg.1.wf hwm hwh
    exact ⟨hg.defeat A w verb hwm hwh, by omega, by omega, frame_defeat A t w.cid verb, ext_defeat A t w.cid verb,
      crash_defeat A t w.cid verb, mu_defeat_lt A t w verb hg.1.wf hwm hwh, fun c hc' hne => mem_defeat_of_ne A hc' _ _ hne⟩)
    h ws hnd hw
  simpa using this

theorem Good.foldUnpend {s : St α} (h : Good A s) :
    Good A (s.pendingL.foldl (fun acc c => acc.unpendSilent c.cid) s) := by
  refine ⟨h.1.foldUnpend A s.pendingL, ?_⟩
  have key : ∀ (l : List (Cand α)) (t : St α), Inv A t → Mon t → (∀ c ∈ l, ∀ x ∈ t.cands, x.cid = c.cid → x.st = .elected) →
      Mon (l.foldl (fun acc c => acc.unpendSilent c.cid) t) := by
    intro l
    induction l with
    | nil => intro t _ hm _; exact hm
    | cons c cs ih =>
      intro t hI hm hl
      simp only [List.foldl_cons]
      apply ih _ (hI.unpendSilent A c.cid) (hm.unpend c.cid (hl c (by simp)))
      intro c' hc' x hx hxc
      unfold St.unpendSilent at hx
      obtain ⟨y, hy, rfl⟩ := mem_upd.1 hx
      have hyc : y.cid = c'.cid := by
        split at hxc <;> exact hxc
      have := hl c' (by simp [hc']) y hy hyc
      split <;> exact this
  apply key _ _ h.1 h.2
  intro c hc x hx hxc
  obtain ⟨hcm, hce, _⟩ := mem_pendingL.1 hc
  rw [nodup_cid_eq h.1.wf hx hcm hxc]; exact hce

theorem Mon.of_noActs {s : St α} (h : s.acts = []) : Mon s := by
  unfold Mon snaps; rw [h]; exact ⟨trivial, fun sn hsn => by simp at hsn⟩

theorem EHQ.of_noElected {s : St α} (h : ∀ c ∈ s.cands, c.st ≠ .elected) : ElectedHoldQuota s :=
  fun c hc he => absurd he (h c hc)

theorem Mon.setSurplus {s : St α} (h : Mon s) (v : α) : Mon (s.setSurplus v) := Mon.of_skel h rfl rfl rfl
theorem EHQ.setSurplus {s : St α} (h : ElectedHoldQuota s) (v : α) : ElectedHoldQuota (s.setSurplus v) :=
  EHQ.of_same h rfl rfl
theorem frame_setSurplus (s : St α) (v : α) : Frame s (s.setSurplus v) := ⟨rfl, rfl, rfl⟩
theorem ext_setSurplus (s : St α) (v : α) : Ext s (s.setSurplus v) := Ext.of_acts_eq rfl
theorem mu_setSurplus (s : St α) (v : α) : mu (s.setSurplus v) = mu s := mu_of_skel rfl
theorem sumHE_setSurplus (s : St α) (v : α) : sumHE (s.setSurplus v) = sumHE s := sumHE_of_skel rfl

theorem loopN_total2 (P : St α → Prop) (guard : St α → Bool) (body : St α → St α × Flow)
    (hP : ∀ s, P s → guard s = true → (body s).2 = .cont → P (body s).1)
    (hprog : ∀ s, P s → guard s = true → (body s).2 = .cont →
      mu (body s).1 < mu s ∨ (body s).1.crash.isSome = true) :
    ∀ (fuel : Nat) (s : St α), P s → 1 ≤ fuel → (s.crash.isSome = true ∨ mu s + 2 ≤ fuel) →
      ∃ t, loopN guard body fuel s = some t :=
  loopN_terminates mu P hP hprog


/-- `c.elect(msg)` on a candidate who is hopeful or already elected keeps the record moving forward -/
theorem Mon.electNP {s : St α} (h : Mon s) (cid : Nat) (verb : String)
    (hst : ∀ c ∈ s.cands, c.cid = cid → c.st = .hopeful ∨ c.st = .elected) : Mon (s.elect A cid verb false) := by
  unfold St.elect
  apply Mon.logAct
  refine Mon.upd_forward h cid _ ?_ ?_
  · intro c; rfl
  intro c hc hcid
  unfold Cand.code fwd
  rcases hst c hc hcid with hs | hs
  · simp [hs]
  · simp only [hs]; split <;> simp

theorem stl_upd_keep_st' (s : St α) (cid : Nat) (f : Cand α → Cand α)
    (hf : ∀ c ∈ s.cands, c.cid = cid → (f c).st = c.st) : (s.upd cid f).stl = s.stl := by
  unfold St.stl St.upd
  rw [List.map_map]
  apply List.map_congr_left
  intro c hc
  simp only [Function.comp]
  split
  · rename_i h; exact hf c hc (by simpa using h)
  · rfl

/-- `c.elect(msg)` (no transfer pending) on candidates who are already elected: statuses, counts and the measure stay put
    or drop -/
theorem foldElectNP_elected {s : St α} (h : Good A s) (l : List (Cand α)) (verb : String)
    (hl : ∀ c ∈ l, ∀ x ∈ s.cands, x.cid = c.cid → x.st = .elected) :
    let t := l.foldl (fun acc c => acc.elect A c.cid verb false) s
    Good A t ∧ nHop t = nHop s ∧ nEl t = nEl s ∧ Frame s t ∧ Ext s t ∧ t.crash = s.crash := by
  induction l generalizing s with
  | nil => exact ⟨h, rfl, rfl, Frame.refl s, Ext.refl s, rfl⟩
  | cons c cs ih =>
    simp only [List.foldl_cons]
    have hel := hl c (by simp)
    have hg1 : Good A (s.elect A c.cid verb false) :=
      ⟨h.1.electNP A c.cid verb, h.2.electNP A c.cid verb (fun x hx hxc => Or.inr (hel x hx hxc))⟩
    have hstl : (s.elect A c.cid verb false).stl = s.stl := by
      unfold St.elect St.stl; rw [logAct_cands]
      exact stl_upd_keep_st' s c.cid _ (fun x hx hxc => (hel x hx hxc).symm)
    have hcnt := counts_of_stl hstl
    have hl1 : ∀ c' ∈ cs, ∀ x ∈ (s.elect A c.cid verb false).cands, x.cid = c'.cid → x.st = .elected := by
      intro c' hc' x hx hxc
      unfold St.elect at hx; rw [logAct_cands] at hx
      obtain ⟨y, hy, ⟨_, rfl⟩ | ⟨_, rfl⟩⟩ := mem_upd_cases.1 hx
      · rfl
      · exact hl c' (by simp [hc']) _ hy hxc
    obtain ⟨a1, a2, a3, a4, a5, a6⟩ := ih hg1 hl1
    exact ⟨a1, a2.trans hcnt.1, a3.trans hcnt.2, (frame_elect A s c.cid verb false).trans a4,
      (ext_elect A s c.cid verb false).trans a5, a6.trans (crash_elect A s c.cid verb false)⟩

theorem loopN_result (P Q : St α → Prop) (guard : St α → Bool) (body : St α → St α × Flow)
    (hP : ∀ s, P s → guard s = true → (body s).2 = .cont → P (body s).1)
    (hQ : ∀ s, P s → guard s = true → (body s).2 = .brk → Q (body s).1) :
    ∀ (fuel : Nat) (s t : St α), P s → loopN guard body fuel s = some t →
      (P t ∧ (t.crash.isSome = true ∨ guard t = false)) ∨ Q t :=
  loopN_returns P Q guard body hP hQ

theorem loopN_ext (P : St α → Prop) (guard : St α → Bool) (body : St α → St α × Flow)
    (hP : ∀ s, P s → guard s = true → (body s).2 = .cont → P (body s).1)
    (hX : ∀ s, P s → guard s = true → Ext s (body s).1) :
    ∀ (fuel : Nat) (s t : St α), P s → loopN guard body fuel s = some t → Ext s t :=
  loopN_rel P Ext Ext.refl Ext.trans hP hX

theorem setCrash_isSome (s : St α) (k : String) : (s.setCrash k).crash.isSome = true := by
  unfold St.setCrash; split
  · rename_i h; rw [h]; rfl
  · rfl

theorem round_logAct (s : St α) (tag verb : String) (subj : List Nat) : (s.logAct A tag verb subj).round = s.round := by
  unfold St.logAct; simp only; split <;> rfl
theorem round_newRound (s : St α) : (s.newRound A).round = s.round + 1 := by
  unfold St.newRound; rw [round_logAct]
end Droop
