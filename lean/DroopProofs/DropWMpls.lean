import DroopProofs.DropWWigm

/-! # C11, Minneapolis: the count of the profile with the withdrawn candidates deleted is the count of the full profile with
the withdrawn candidates deleted from its record

Minneapolis reports a surplus summed over *all* candidates (`mplsSurplusAll`), withdrawn ones included.  A withdrawn candidate
holds no votes and the quota is positive, so its term is zero — under an arithmetic whose `<` is the exact order (the rule's forced
fixed-point arithmetic is).  Both facts are fields of `LInv` (`wz`, `q1`), which holds at every state of `mplsBody`; the states
between a transfer and its log line get them from `transferAll_wz` / `setVote_wz`.  Profiles without undeclared write-ins
(`NoUnd`), as for the other Minneapolis theorems. -/
namespace Droop
variable {α : Type} [CommRing α] [LinearOrder α] [IsStrictOrderedRing α] (A : Arith α)
variable (hA : LawfulArith A) (hlt : ∀ a b : α, A.lt a b = true ↔ a < b)

def WZ (s : St α) : Prop := ∀ c ∈ s.cands, c.st = .withdrawn → c.vote = 0

include hA hlt in
theorem candSurplus_withdrawn {s : St α} (hq : 0 < s.quota) {c : Cand α} (hv : c.vote = 0) : candSurplus A s c = 0 := by
  unfold candSurplus
  have : A.lt (A.sub c.vote s.quota) A.zero = true := by
    rw [hlt, hA.sub_eq, hA.zero_eq, hv]; linarith
  rw [if_pos this, hA.zero_eq]

theorem sum_map_filter_nonW (l : List (Cand α)) (p : Cand α → Bool) (f : Cand α → α)
    (h0 : ∀ c ∈ l, nonW c = false → f c = 0) :
    (((l.filter nonW).filter p).map f).sum = ((l.filter p).map f).sum := by
  induction l with
  | nil => rfl
  | cons x xs ih =>
    have ih' := ih (fun c hc => h0 c (List.mem_cons_of_mem _ hc))
    by_cases hx : nonW x = true
    · rw [List.filter_cons_of_pos hx]
      by_cases hp : p x = true
      · rw [List.filter_cons_of_pos hp, List.filter_cons_of_pos hp, List.map_cons, List.map_cons, List.sum_cons, List.sum_cons, ih']
      · rw [List.filter_cons_of_neg hp, List.filter_cons_of_neg hp, ih']
    · have hx' : nonW x = false := by simpa using hx
      rw [List.filter_cons_of_neg hx]
      by_cases hp : p x = true
      · rw [List.filter_cons_of_pos hp, List.map_cons, List.sum_cons, ih', h0 x (List.mem_cons_self) hx', zero_add]
      · rw [List.filter_cons_of_neg hp, ih']

theorem withdrawn_of_nonW_false {c : Cand α} (h : nonW c = false) : c.st = .withdrawn := by
  unfold nonW at h
  simpa using h

include hA hlt in
theorem mplsSurplusAll_dropW {s : St α} (hwz : WZ s) (hq : 0 < s.quota) (d : Bool) :
    mplsSurplusAll A (dropW s) d = mplsSurplusAll A s d := by
  unfold mplsSurplusAll
  rw [arith_sum_eq A hA, arith_sum_eq A hA]
  show ((((s.cands.filter nonW).filter _).map (candSurplus A s)).sum) = _
  apply sum_map_filter_nonW
  intro c hc hn
  exact candSurplus_withdrawn A hA hlt hq (hwz c hc (withdrawn_of_nonW_false hn))

theorem mplsCertainLosers_dropW (s : St α) (surplus : α) :
    mplsCertainLosers A (dropW s) surplus = mplsCertainLosers A s surplus := by
  unfold mplsCertainLosers
  simp only [hopeful_dropW, seatsLeft_dropW]

theorem isUndeclared_false {s : St α} (hnu : NoUnd s) (c : Nat) : s.isUndeclared c = false := by
  unfold St.isUndeclared
  rw [Bool.eq_false_iff]
  intro h
  rw [List.any_eq_true] at h
  obtain ⟨x, hx, hxx⟩ := h
  rw [hnu x hx] at hxx
  simp at hxx

theorem noUnd_dropW {s : St α} (hnu : NoUnd s) : NoUnd (dropW s) := by
  intro c hc
  exact hnu c (List.mem_filter.1 hc).1

theorem mplsDefeatSet_dropW {s : St α} (hnu : NoUnd s) : mplsDefeatSet A (dropW s) = mplsDefeatSet A s := by
  unfold mplsDefeatSet
  have hs : (dropW s).surplus = s.surplus := rfl
  simp only [round_dropW, hopeful_dropW, ballots_dropW, hs, mplsCertainLosers_dropW, isUndeclared_false hnu,
    isUndeclared_false (noUnd_dropW hnu)]

include hA in
theorem wz_defeatedCore {s : St α} (hI : Inv A s) (hwz : WZ s) (cids : List Nat) : WZ (defeatedCore A s cids) := by
  unfold defeatedCore
  exact foldSetZero_wz A hA cids (transferAll_wz A hA hI cids id hwz)

theorem quota_defeatedCore (s : St α) (cids : List Nat) : (defeatedCore A s cids).quota = s.quota := by
  unfold defeatedCore
  rw [(foldSetZero_frame A cids _).2.2.1, transferAll_quota]

include hA in
theorem wz_surplusCore {s : St α} (hI : Inv A s) (hwz : WZ s) (hc : Cand α) (hn : NonWId s hc.cid) (rew : α → α → α → α) :
    WZ (surplusCore A s hc rew) := by
  unfold surplusCore
  apply setVote_wz
  · exact transferAll_wz A hA hI _ _ hwz
  · right
    have hsk := transferAll_skel A s [hc.cid] (fun w => rew w (A.sub hc.vote s.quota) hc.vote)
    have hwf' : (transferAll A s [hc.cid] (fun w => rew w (A.sub hc.vote s.quota) hc.vote)).WF := WF_of_skel hsk.symm hI.wf
    exact noW_of_nonWId hwf' (nonWId_of_skel hn hsk)

theorem quota_surplusCore (s : St α) (hc : Cand α) (rew : α → α → α → α) : (surplusCore A s hc rew).quota = s.quota := by
  unfold surplusCore
  show (transferAll A s [hc.cid] _).quota = _
  rw [transferAll_quota]

include hA hlt in
theorem sur_dropW {s : St α} (hwz : WZ s) (hq : 0 < s.quota) : StepComm.Sur A dropW s :=
  fun d => mplsSurplusAll_dropW A hA hlt hwz hq d

include hA hlt in
theorem dropW_mplsRound (u : α) {s : St α} (hI : Inv A s) (hL : LInv A u s) (hnu : NoUnd s) :
    mplsRound A (dropW s) = (dropW (mplsRound A s).1, (mplsRound A s).2) := by
  refine (stepComm_dropW A).mplsRound (fun _ => hI.wf) (mplsDefeatSet_dropW A hnu) ?_ ?_ ?_
  · intro l
    have hI1 := hI.foldDefeatV A l mplsDefeatVerb
    have hL1 := LInv.foldDefeatV A u hL hI.meth l mplsDefeatVerb
    exact sur_dropW A hA hlt (wz_defeatedCore A hA hI1 hL1.wz _)
      (by rw [quota_defeatedCore]; exact lt_of_lt_of_le hA.one_pos hL1.q1)
  · intro tied s3 hc hsub hb
    have hI1 := hI.breakTie A tied "Break tie (largest surplus)"
    have hL1 := hL.breakTie A u hI.meth tied "Break tie (largest surplus)"
    have hfr := (breakTie_frame A s tied "Break tie (largest surplus)").1
    have hmem := breakTie_mem A s tied "Break tie (largest surplus)"
    rw [hb] at hI1 hL1 hfr hmem
    have hn3 : NonWId s3 hc.cid := nonWId_of_cands (nonWId_of_hopeful (hsub hc (hmem hc rfl))) hfr
    have hI4 := hI1.electNP A hc.cid "Elect"
    have hL4 := hL1.elect A u hI1.meth hc.cid "Elect" false
    exact sur_dropW A hA hlt (wz_surplusCore A hA hI4 hL4.wz hc (nonWId_elect A hn3 _ _ _) _)
      (by rw [quota_surplusCore]; exact lt_of_lt_of_le hA.one_pos hL4.q1)
  · intro tied s3 lc hb
    have hI1 := hI.breakTie A tied "Break tie (defeat low candidate)"
    have hL1 := hL.breakTie A u hI.meth tied "Break tie (defeat low candidate)"
    rw [hb] at hI1 hL1
    have hI4 := hI1.defeat A lc.cid "Defeat low candidate"
    have hL4 := hL1.defeat A u hI1.meth lc.cid "Defeat low candidate"
    exact sur_dropW A hA hlt (wz_defeatedCore A hA hI4 hL4.wz _)
      (by rw [quota_defeatedCore]; exact lt_of_lt_of_le hA.one_pos hL4.q1)

include hA hlt in
theorem dropW_mplsBody (u : α) {s : St α} (hI : Inv A s) (hL : LInv A u s) (hnu : NoUnd s) :
    mplsBody A (dropW s) = (dropW (mplsBody A s).1, (mplsBody A s).2) := by
  have hq : 0 < s.quota := lt_of_lt_of_le hA.one_pos hL.q1
  have hIc : Inv A (mplsCountVotes A s) := hI.mplsCountVotes A
  have hLc : LInv A u (mplsCountVotes A s) := by
    unfold mplsCountVotes
    exact (hL.setSurplus A u (mplsSurplusAll A s true)).logAct A u hI.meth "count" "Count Votes" [] (by decide)
  have hnuc : NoUnd (mplsCountVotes A s) := by
    unfold mplsCountVotes
    exact NoUnd.logAct A (NoUnd.of_cands (t := s.setSurplus (mplsSurplusAll A s true)) hnu rfl) _ _ _
  have hnur : NoUnd ((mplsCountVotes A s).newRound A) := by
    unfold St.newRound
    exact NoUnd.logAct A (NoUnd.of_cands (t := { mplsCountVotes A s with round := (mplsCountVotes A s).round + 1 }) hnuc rfl) _ _ _
  exact (stepComm_dropW A).mplsBody (fun _ => hI.wf) (sur_dropW A hA hlt hL.wz hq)
    (dropW_mplsRound A hA hlt u (hIc.newRound A) (hLc.newRound A u hIc.meth) hnur)

/-- **C11, second clause, Minneapolis** (profiles without undeclared write-ins): counting the profile with the withdrawn
    candidates deleted gives exactly the state (record included) obtained by deleting them from the count of the full profile -/
theorem mpls_dropW (hA : LawfulArith A) (hlt : ∀ a b : α, A.lt a b = true ↔ a < b) (hex : A.exact = false)
    (u : α) (hu : 0 ≤ u) (hlow : RewLower A u (rewMulDiv A)) (s0 t t' : St α)
    (h0 : GStart A (mplsQuota A s0) s0) (hnu : NoUnd s0)
    (hl0 : LStart A (A.ofInt (pdiv s0.nballots (s0.seats + 1) + 1)) s0)
    (h : mplsCount A s0 = some t) (h' : mplsCount A (dropW s0) = some t') :
    t' = dropW t := by
  have hM0 : MplsInv A (mplsInit A s0) := (mplsInit_inv A hA h0 hnu).1
  have hL0 : LInv A u (mplsInit A s0) := by
    obtain ⟨hc, hm⟩ := LInv.initCore A hA u hl0
    unfold mplsInit
    exact hc.newRound A u hm
  have hstep : ∀ s, MplsInv A s ∧ LInv A u s → MplsInv A (mplsBody A s).1 ∧ LInv A u (mplsBody A s).1 := fun s hs =>
    ⟨(mplsBody_spec A hA hex hs.1).1, (InvL.mplsBody A hA u hu hlow hex ⟨hs.1.inv, hs.2⟩).2⟩
  rw [mplsCount_eq] at h h'
  rw [← (stepComm_dropW A).mplsInit] at h'
  exact count_dropW (fun s => MplsInv A s ∧ LInv A u s) (fun _ => true) (mplsBody A) (mplsEpilogue A)
    (fun s hs _ => hstep s hs) (fun _ => rfl) (fun s hs => dropW_mplsBody A hA hlt u hs.1.inv hs.2 hs.1.noUnd)
    (fun s hs => (stepComm_dropW A).mplsEpilogue (fun _ => hs.1.wf)) (dropW_fuel_le s0 4) ⟨hM0, hL0⟩ h h'

end Droop
