import DroopProofs.WigmLoop

/-! # C02, lower half: votes are not lost beyond rounding

`LInv A u s`: the votes credited to candidates plus the non-transferable total fall short of the number of ballots by at most
`u` per ballot per surplus transfer logged so far — in the state, and in every snapshot of the record with the number of
surplus transfers *up to that snapshot*. Exclusion transfers, elections, tie-breaks lose nothing; a surplus transfer loses less
than `u` per ballot that moves (`RewLower`: the re-weighting `rew w surplus vote` is at least `w·surplus/vote − u`, proved for
the two-step truncation and the fused multiply-divide of fixed-point arithmetic with `u` = two units in the last place, for a
tally of at least one vote). -/
namespace Droop
variable {α : Type} [CommRing α] [LinearOrder α] [IsStrictOrderedRing α] (A : Arith α)

def isSTs (tag verb : String) : Bool := tag == "transfer" && (verb == "Surplus transferred" || verb == "Transfer surplus")
def nST (acts : List (Act α)) : Nat := (acts.filter (fun a => isSTs a.tag a.verb)).length

def snapTot (sn : Snap α) : α := ((sn.cs.filter (fun e => e.2.1 != "W")).map (fun e => e.2.2.1)).sum + sn.x1

def LowOK (u : α) (nb : Nat) (sn : Snap α) (t : Nat) : Prop :=
  ((nb : Int) : α) * A.one ≤ snapTot sn + u * ((nb : Int) : α) * (t : α)

/-- every snapshot of the record, with the surplus transfers logged up to and including its own action -/
def RecLow (u : α) (s : St α) : Prop :=
  ∀ (l : List (Act α)) (a : Act α), (a :: l) <:+ s.acts → ∀ sn, a.snap = some sn → LowOK A u s.nballots sn (nST (a :: l))

/-- what a re-weighting must satisfy for the lower bound: at a tally of at least one vote it loses less than `u` -/
def RewLower (u : α) (rew : α → α → α → α) : Prop :=
  ∀ w s v : α, 0 ≤ w → 0 ≤ s → A.one ≤ v → w * s ≤ (rew w s v + u) * v

structure LInv (u : α) (s : St α) : Prop where
  wz : ∀ c ∈ s.cands, c.st = .withdrawn → c.vote = 0
  nb : ((s.nballots : Int) : α) = (s.ballots.map (fun b => ((b.mult : Int) : α))).sum
  q1 : A.one ≤ s.quota
  low : ((s.nballots : Int) : α) * A.one ≤ s.total + u * ((s.nballots : Int) : α) * (nST s.acts : α)
  recl : RecLow A u s
  /-- every action of a Gregory record carries a snapshot (no `log` lines) -/
  snaps : ∀ a ∈ s.acts, a.snap.isSome = true

theorem sum_nonW (l : List (Cand α)) (m : Method) (hwz : ∀ c ∈ l, c.st = .withdrawn → c.vote = 0) :
    (((l.map (fun c => (c.cid, c.code m, c.vote, c.kf, c.quotient))).filter (fun e => e.2.1 != "W")).map (fun e => e.2.2.1)).sum
      = (l.map (·.vote)).sum := by
  induction l with
  | nil => simp
  | cons c cs ih =>
    have ih' := ih (fun x hx => hwz x (by simp [hx]))
    simp only [List.map_cons, List.sum_cons]
    cases hs : c.st with
    | withdrawn =>
      have hv := hwz c (by simp) hs
      have hcode : c.code m = "W" := by unfold Cand.code; rw [hs]
      rw [List.filter_cons]
      simp only [hcode, bne_self_eq_false, Bool.false_eq_true, if_false]
      rw [ih', hv]; simp
    | hopeful =>
      have hcode : (c.code m != "W") = true := by unfold Cand.code; rw [hs]; simp
      rw [List.filter_cons]; simp only [hcode, if_true, List.map_cons, List.sum_cons]; rw [ih']
    | defeated =>
      have hcode : (c.code m != "W") = true := by unfold Cand.code; rw [hs]; simp
      rw [List.filter_cons]; simp only [hcode, if_true, List.map_cons, List.sum_cons]; rw [ih']
    | elected =>
      have hcode : (c.code m != "W") = true := by
        unfold Cand.code; rw [hs]; dsimp only; split <;> simp
      rw [List.filter_cons]; simp only [hcode, if_true, List.map_cons, List.sum_cons]; rw [ih']

theorem snapTot_mkSnap (s : St α) (hm : s.method = .wigm) (hwz : ∀ c ∈ s.cands, c.st = .withdrawn → c.vote = 0) :
    snapTot (s.mkSnap A) = s.total := by
  unfold snapTot St.mkSnap St.total St.sumVotes
  simp only [hm]
  rw [sum_nonW s.cands .wigm hwz]
  rfl

theorem nST_cons (a : Act α) (l : List (Act α)) : nST (a :: l) = nST l + (if isSTs a.tag a.verb then 1 else 0) := by
  unfold nST; rw [List.filter_cons]; split <;> simp

/-- `logAct` on a state whose total already meets the bound *with the new action counted* -/
theorem LInv.logAct' (u : α) {s : St α} (hm : s.method = .wigm) (hwz : ∀ c ∈ s.cands, c.st = .withdrawn → c.vote = 0)
    (hnb : ((s.nballots : Int) : α) = (s.ballots.map (fun b => ((b.mult : Int) : α))).sum) (hq1 : A.one ≤ s.quota)
    (hrec : RecLow A u s) (hsn : ∀ a ∈ s.acts, a.snap.isSome = true) (tag verb : String) (subj : List Nat)
    (hlow : ((s.nballots : Int) : α) * A.one
      ≤ s.total + u * ((s.nballots : Int) : α) * ((nST s.acts + (if isSTs tag verb then 1 else 0) : Nat) : α)) :
    LInv A u (s.logAct A tag verb subj) := by
  have hfr : (s.logAct A tag verb subj).cands = s.cands ∧ (s.logAct A tag verb subj).ballots = s.ballots
      ∧ (s.logAct A tag verb subj).exhausted = s.exhausted ∧ (s.logAct A tag verb subj).quota = s.quota
      ∧ (s.logAct A tag verb subj).nballots = s.nballots := by
    unfold St.logAct; simp only; split <;> exact ⟨rfl, rfl, rfl, rfl, rfl⟩
  obtain ⟨e1, e2, e3, e4, e5⟩ := hfr
  have hacts : ∃ a : Act α, (s.logAct A tag verb subj).acts = a :: s.acts ∧ a.tag = tag ∧ a.verb = verb
      ∧ ∃ sn, a.snap = some sn ∧ snapTot sn = s.total := by
    unfold St.logAct; simp only
    split
    · refine ⟨_, rfl, rfl, rfl, _, rfl, ?_⟩
      exact snapTot_mkSnap A { s with rounds := s.rounds ++ [s.cands] } hm hwz
    · exact ⟨_, rfl, rfl, rfl, _, rfl, snapTot_mkSnap A s hm hwz⟩
  obtain ⟨a, ha, hat, hav, sn0, hsn0, htot0⟩ := hacts
  have hn : nST (s.logAct A tag verb subj).acts = nST s.acts + (if isSTs tag verb then 1 else 0) := by
    rw [ha, nST_cons, hat, hav]
  have htotal : (s.logAct A tag verb subj).total = s.total := by
    unfold St.total St.sumVotes; rw [e1, e3]
  refine ⟨by rw [e1]; exact hwz, by rw [e5, e2]; exact hnb, by rw [e4]; exact hq1, ?_, ?_, ?_⟩
  · rw [e5, htotal, hn]; exact hlow
  rotate_left
  · intro a' ha'
    rw [ha] at ha'
    rcases List.mem_cons.1 ha' with rfl | h'
    · rw [hsn0]; rfl
    · exact hsn a' h'
  · intro l a' hsuf sn hsn
    rw [ha] at hsuf
    rw [e5]
    rcases List.suffix_cons_iff.1 hsuf with heq | hsuf'
    · have h1 : a' = a := (List.cons.inj heq).1
      have h2 : l = s.acts := (List.cons.inj heq).2
      subst h1; subst h2
      rw [hsn0] at hsn; cases hsn
      unfold LowOK
      rw [htot0, ← ha, hn]; exact hlow
    · exact hrec l a' hsuf' sn hsn

theorem LInv.logAct (u : α) {s : St α} (h : LInv A u s) (hm : s.method = .wigm) (tag verb : String) (subj : List Nat)
    (hns : isSTs tag verb = false) : LInv A u (s.logAct A tag verb subj) := by
  apply LInv.logAct' A u hm h.wz h.nb h.q1 h.recl h.snaps
  simp only [hns, Bool.false_eq_true, if_false, Nat.add_zero]
  exact h.low

theorem LInv.of_same (u : α) {s t : St α} (h : LInv A u s) (hc : t.cands = s.cands) (hb : t.ballots = s.ballots)
    (he : t.exhausted = s.exhausted) (hq : t.quota = s.quota) (hn : t.nballots = s.nballots) (ha : t.acts = s.acts) :
    LInv A u t := by
  have htot : t.total = s.total := by unfold St.total St.sumVotes; rw [hc, he]
  refine ⟨by rw [hc]; exact h.wz, by rw [hn, hb]; exact h.nb, by rw [hq]; exact h.q1, by rw [hn, htot, ha]; exact h.low, ?_,
    by rw [ha]; exact h.snaps⟩
  intro l a hsuf sn hsn
  rw [ha] at hsuf; rw [hn]
  exact h.recl l a hsuf sn hsn

theorem LInv.upd_status (u : α) {s : St α} (h : LInv A u s) (cid : Nat) (f : Cand α → Cand α)
    (hv : ∀ c, (f c).vote = c.vote) (hw : ∀ c, (f c).st = .withdrawn → c.st = .withdrawn) : LInv A u (s.upd cid f) := by
  have hvotes : (s.upd cid f).cands.map (·.vote) = s.cands.map (·.vote) := by
    unfold St.upd; simp only [List.map_map]
    apply List.map_congr_left
    intro c _; simp only [Function.comp]; split
    · exact hv c
    · rfl
  have htot : (s.upd cid f).total = s.total := by
    unfold St.total St.sumVotes; rw [hvotes]; rfl
  refine ⟨?_, h.nb, h.q1, by rw [htot]; exact h.low, h.recl, h.snaps⟩
  intro c' hc' hst
  obtain ⟨c, hc, ⟨_, rfl⟩ | ⟨_, rfl⟩⟩ := mem_upd_cases.1 hc'
  · rw [hv]; exact h.wz c hc (hw c hst)
  · exact h.wz c' hc hst

theorem isSTs_false_of_tag (tag verb : String) (h : (tag == "transfer") = false) : isSTs tag verb = false := by
  unfold isSTs; rw [h]; rfl

theorem LInv.elect (u : α) {s : St α} (h : LInv A u s) (hm : s.method = .wigm) (cid : Nat) (verb : String) (p : Bool) :
    LInv A u (s.elect A cid verb p) := by
  unfold St.elect
  exact (h.upd_status A u cid (fun c => { c with st := .elected, pending := p }) (fun _ => rfl)
    (fun c hc => CState.noConfusion hc)).logAct A u hm _ _ _ (isSTs_false_of_tag "elect" verb (by decide))

theorem LInv.defeat (u : α) {s : St α} (h : LInv A u s) (hm : s.method = .wigm) (cid : Nat) (verb : String) :
    LInv A u (s.defeat A cid verb) := by
  unfold St.defeat
  exact (h.upd_status A u cid (fun c => { c with st := .defeated }) (fun _ => rfl)
    (fun c hc => CState.noConfusion hc)).logAct A u hm _ _ _ (isSTs_false_of_tag "defeat" verb (by decide))

theorem LInv.unpendLog (u : α) {s : St α} (h : LInv A u s) (hm : s.method = .wigm) (cid : Nat) (verb : String) :
    LInv A u (s.unpendLog A cid verb) := by
  unfold St.unpendLog
  exact (h.upd_status A u cid (fun c => { c with pending := false }) (fun _ => rfl) (fun c hc => hc)).logAct A u hm _ _ _
    (isSTs_false_of_tag "unpend" verb (by decide))

theorem LInv.unpendSilent (u : α) {s : St α} (h : LInv A u s) (cid : Nat) : LInv A u (s.unpendSilent cid) := by
  unfold St.unpendSilent
  exact h.upd_status A u cid (fun c => { c with pending := false }) (fun _ => rfl) (fun c hc => hc)

theorem LInv.newRound (u : α) {s : St α} (h : LInv A u s) (hm : s.method = .wigm) : LInv A u (s.newRound A) := by
  unfold St.newRound
  exact (h.of_same A u (t := { s with round := s.round + 1 }) rfl rfl rfl rfl rfl rfl).logAct A u hm _ _ _
    (isSTs_false_of_tag "round" "New Round" (by decide))

theorem LInv.setCrash (u : α) {s : St α} (h : LInv A u s) (k : String) : LInv A u (s.setCrash k) := by
  unfold St.setCrash; split
  · exact h
  · exact h.of_same A u rfl rfl rfl rfl rfl rfl

theorem LInv.setSurplus (u : α) {s : St α} (h : LInv A u s) (v : α) : LInv A u (s.setSurplus v) :=
  h.of_same A u rfl rfl rfl rfl rfl rfl

theorem LInv.breakTie (u : α) {s : St α} (h : LInv A u s) (hm : s.method = .wigm) (tied : List (Cand α)) (verb : String) :
    LInv A u (Droop.breakTie A s tied verb).1 := by
  unfold Droop.breakTie
  split
  · exact h.setCrash A u _
  · exact h
  · exact h.logAct A u hm _ _ _ (isSTs_false_of_tag "tie" verb (by decide))

theorem LInv.scotBreakTie (u : α) {s : St α} (h : LInv A u s) (hm : s.method = .wigm) (tied : List (Cand α))
    (lowest : Bool) (reason : String) : LInv A u (Droop.scotBreakTie A s tied lowest reason).1 := by
  unfold Droop.scotBreakTie
  split
  · exact h.setCrash A u _
  · exact h
  · dsimp only
    split
    · exact h.logAct A u hm _ _ _ (isSTs_false_of_tag "tie" _ (by decide))
    · exact h.logAct A u hm _ _ _ (isSTs_false_of_tag "tie" _ (by decide))

theorem moveBallot_mult (s : St α) (cids : List Nat) (rew : α → α) (b : Ballot α) :
    (moveBallot s cids rew b).mult = b.mult := by
  unfold moveBallot
  split
  · split
    · rw [advanceTo_mult]
    · rfl
  · rfl

theorem transferAll_mults (s : St α) (cids : List Nat) (rew : α → α) :
    (transferAll A s cids rew).ballots.map (fun b => ((b.mult : Int) : α)) = s.ballots.map (fun b => ((b.mult : Int) : α)) := by
  rw [transferAll_ballots, List.map_map]
  apply List.map_congr_left
  intro b _
  simp only [Function.comp, moveBallot_mult]

/-- nothing arrives at a withdrawn candidate -/
theorem transferAll_wz (hA : LawfulArith A) {s : St α} (hI : Inv A s) (cids : List Nat) (rew : α → α)
    (hwz : ∀ c ∈ s.cands, c.st = .withdrawn → c.vote = 0) :
    ∀ c ∈ (transferAll A s cids rew).cands, c.st = .withdrawn → c.vote = 0 := by
  intro c' hc' hst
  have hskel := transferAll_skel A s cids rew
  obtain ⟨c, hc, hsk⟩ := mem_of_skel_eq hskel hc'
  have hwf' : (transferAll A s cids rew).WF := WF_of_skel hskel.symm hI.wf
  have h1 := voteOf_of_mem hwf' hc'
  have h2 := voteOf_of_mem hI.wf hc
  have h3 := transferAll_voteOf A (lawfulAdd_of hA) s hI.bwf cids rew c'.cid
  have hcst : c.st = .withdrawn := (skel_st hsk).1.trans hst
  have hz : (s.ballots.map (contrib A s cids rew c.cid)).sum = 0 := by
    have : s.ballots.map (contrib A s cids rew c.cid) = s.ballots.map (fun _ => (0 : α)) := by
      apply List.map_congr_left
      intro b _
      exact contrib_eq_zero_of_not_hopeful A s cids rew c.cid b
        (isHopeful_false_of s hI.wf c hc (by rw [hcst]; intro e; cases e))
    rw [this]; simp
  rw [h1, ← skel_cid hsk, h2, hz, add_zero] at h3
  rw [h3]; exact hwz c hc hcst

theorem setVote_wz {s : St α} (cid : Nat) (v : α) (hwz : ∀ c ∈ s.cands, c.st = .withdrawn → c.vote = 0)
    (hv : v = 0 ∨ ∀ c ∈ s.cands, c.cid = cid → c.st ≠ .withdrawn) :
    ∀ c ∈ (s.setVote cid v).cands, c.st = .withdrawn → c.vote = 0 := by
  intro c' hc' hst
  obtain ⟨c, hc, ⟨hcc, rfl⟩ | ⟨_, rfl⟩⟩ := mem_upd_cases.1 hc'
  · rcases hv with hv | hv
    · exact hv
    · exact absurd hst (hv c hc hcc)
  · exact hwz c' hc hst

theorem foldSetZero_wz (hA : LawfulArith A) (cids : List Nat) {s : St α}
    (hwz : ∀ c ∈ s.cands, c.st = .withdrawn → c.vote = 0) :
    ∀ c ∈ (cids.foldl (fun acc c => acc.setVote c A.zero) s).cands, c.st = .withdrawn → c.vote = 0 := by
  induction cids generalizing s with
  | nil => exact hwz
  | cons x xs ih =>
    simp only [List.foldl_cons]
    exact ih (setVote_wz x A.zero hwz (Or.inl hA.zero_eq))

theorem LInv.defeatedCore (hA : LawfulArith A) (u : α) {s : St α} (h : Inv A s) (hl : LInv A u s)
    (cids : List Nat) (hnd : cids.Nodup)
    (hx : ∀ cid ∈ cids, ∃ x ∈ s.cands, x.cid = cid ∧ ¬ x.inScope ∧ x.st ≠ .hopeful ∧ x.vote = s.tally A cid) :
    LInv A u (Droop.defeatedCore A s cids) ∧ (Droop.defeatedCore A s cids).method = .wigm := by
  have htot := defeatedCore_total A hA h cids hnd hx
  have hfr := foldSetZero_frame A cids (transferAll A s cids id)
  have hcore : LInv A u (Droop.defeatedCore A s cids) := by
    refine ⟨?_, ?_, ?_, ?_, ?_, ?_⟩
    rotate_right
    · unfold Droop.defeatedCore; rw [hfr.2.2.2.2.1, transferAll_acts]; exact hl.snaps
    · exact foldSetZero_wz A hA cids (transferAll_wz A hA h cids id hl.wz)
    · show ((St.nballots _ : Int) : α) = _
      unfold Droop.defeatedCore
      rw [hfr.2.2.2.1, hfr.1, transferAll_nballots, transferAll_mults]; exact hl.nb
    · unfold Droop.defeatedCore; rw [hfr.2.2.1, transferAll_quota]; exact hl.q1
    · rw [htot]; unfold Droop.defeatedCore; rw [hfr.2.2.2.1, hfr.2.2.2.2.1, transferAll_nballots, transferAll_acts]; exact hl.low
    · intro l a hsuf sn hsn
      unfold Droop.defeatedCore at hsuf ⊢
      rw [hfr.2.2.2.2.1, transferAll_acts] at hsuf
      rw [hfr.2.2.2.1, transferAll_nballots]
      exact hl.recl l a hsuf sn hsn
  have hm : (Droop.defeatedCore A s cids).method = .wigm := by
    unfold Droop.defeatedCore; rw [hfr.2.2.2.2.2, transferAll_method]; exact h.meth
  exact ⟨hcore, hm⟩

theorem LInv.transferDefeatedMany (hA : LawfulArith A) (u : α) {s : St α} (h : Inv A s) (hl : LInv A u s)
    (cids : List Nat) (verb : String) (hverb : isSTs "transfer" verb = false) (hnd : cids.Nodup)
    (hx : ∀ cid ∈ cids, ∃ x ∈ s.cands, x.cid = cid ∧ ¬ x.inScope ∧ x.st ≠ .hopeful ∧ x.vote = s.tally A cid) :
    LInv A u (Droop.transferDefeated A s cids verb) := by
  rw [transferDefeated_eq]
  obtain ⟨hcore, hm⟩ := LInv.defeatedCore A hA u h hl cids hnd hx
  exact hcore.logAct A u hm _ _ _ hverb

theorem sum_rew_ge (f : α → α) (u sur v : α) (l : List (Ballot α)) (hc : Nat)
    (hf : ∀ b ∈ l, b.w * sur ≤ (f b.w + u) * v) :
    sur * (l.map (fun b => if b.top = some hc then b.w * ((b.mult : Int) : α) else 0)).sum
      ≤ ((l.map (fun b => if b.top = some hc then f b.w * ((b.mult : Int) : α) else 0)).sum
          + u * (l.map (fun b => if b.top = some hc then ((b.mult : Int) : α) else 0)).sum) * v := by
  rw [mul_comm sur]
  refine sum_if_law (fun b : Ballot α => b.top = some hc) l _ _ _ sur v u fun b hb _ => ?_
  have hm : (0 : α) ≤ ((b.mult : Int) : α) := by exact_mod_cast Nat.zero_le _
  calc b.w * ((b.mult : Int) : α) * sur = b.w * sur * ((b.mult : Int) : α) := by ring
    _ ≤ (f b.w + u) * v * ((b.mult : Int) : α) := mul_le_mul_of_nonneg_right (hf b hb) hm
    _ = _ := by ring

theorem sum_mults_le (l : List (Ballot α)) (hc : Nat) :
    (l.map (fun b => if b.top = some hc then ((b.mult : Int) : α) else 0)).sum ≤ (l.map (fun b => ((b.mult : Int) : α))).sum := by
  induction l with
  | nil => simp
  | cons b bs ih =>
    simp only [List.map_cons, List.sum_cons]
    have hm : (0 : α) ≤ ((b.mult : Int) : α) := by exact_mod_cast Nat.zero_le _
    split <;> linarith

theorem surplus_moved_ge (hA : LawfulArith A) (u : α) (rew : α → α → α → α) (hlow : RewLower A u rew) (s : St α) (hc : Nat)
    (sur v : α) (hsur : 0 ≤ sur) (hv1 : A.one ≤ v) (hw : ∀ b ∈ s.ballots, 0 ≤ b.w) (hu : 0 ≤ u)
    (hI : (s.ballots.map (fun b => if b.top = some hc then b.w * ((b.mult : Int) : α) else 0)).sum = v) :
    sur ≤ (s.ballots.map (movedVal A s [hc] (fun w => rew w sur v))).sum
          + u * (s.ballots.map (fun b => ((b.mult : Int) : α))).sum := by
  have hv : 0 < v := lt_of_lt_of_le hA.one_pos hv1
  have hrw : s.ballots.map (movedVal A s [hc] (fun w => rew w sur v))
      = s.ballots.map (fun b => if b.top = some hc then (rew b.w sur v) * ((b.mult : Int) : α) else 0) := by
    apply List.map_congr_left
    intro b _
    exact movedVal_surplus A hA s hc _ b
  rw [hrw]
  have key := sum_rew_ge (fun w => rew w sur v) u sur v s.ballots hc
    (fun b hb => hlow b.w sur v (hw b hb) hsur hv1)
  rw [hI] at key
  have hM := sum_mults_le s.ballots hc
  have h1 : sur ≤ (s.ballots.map (fun b => if b.top = some hc then (rew b.w sur v) * ((b.mult : Int) : α) else 0)).sum
      + u * (s.ballots.map (fun b => if b.top = some hc then ((b.mult : Int) : α) else 0)).sum :=
    le_of_mul_le_mul_right key hv
  have h2 : u * (s.ballots.map (fun b => if b.top = some hc then ((b.mult : Int) : α) else 0)).sum
      ≤ u * (s.ballots.map (fun b => ((b.mult : Int) : α))).sum := mul_le_mul_of_nonneg_left hM hu
  linarith

/-- the state of a surplus transfer just before it is logged: everything `LInv.logAct'` asks for, the transfer counted -/
theorem LInv.surplusCore_pre (hA : LawfulArith A) (u : α) (hu : 0 ≤ u) (rew0 : α → α → α → α) (hlow : RewLower A u rew0)
    {s : St α} (h : Inv A s) (hl : LInv A u s) (x : Cand α)
    (hx : x ∈ s.cands) (hnh : x.st ≠ .hopeful) (hnw : x.st ≠ .withdrawn)
    (hI : x.vote = s.tally A x.cid) (hq : s.quota ≤ x.vote) :
    (Droop.surplusCore A s x rew0).method = .wigm
    ∧ (∀ c ∈ (Droop.surplusCore A s x rew0).cands, c.st = .withdrawn → c.vote = 0)
    ∧ (((Droop.surplusCore A s x rew0).nballots : Int) : α)
        = ((Droop.surplusCore A s x rew0).ballots.map (fun b => ((b.mult : Int) : α))).sum
    ∧ A.one ≤ (Droop.surplusCore A s x rew0).quota
    ∧ RecLow A u (Droop.surplusCore A s x rew0)
    ∧ (∀ a ∈ (Droop.surplusCore A s x rew0).acts, a.snap.isSome = true)
    ∧ (((Droop.surplusCore A s x rew0).nballots : Int) : α) * A.one
        ≤ (Droop.surplusCore A s x rew0).total
          + u * (((Droop.surplusCore A s x rew0).nballots : Int) : α) * ((nST (Droop.surplusCore A s x rew0).acts + 1 : Nat) : α) := by
  have htot := surplusCore_total A hA rew0 h x hx hnh
  have hsur : 0 ≤ x.vote - s.quota := sub_nonneg.2 hq
  have hv1 : A.one ≤ x.vote := le_trans hl.q1 hq
  have hmoved := surplus_moved_ge A hA u rew0 hlow s x.cid (x.vote - s.quota) x.vote hsur hv1 h.wpos hu
    (by rw [← tally_explicit A hA]; exact hI.symm)
  have hn0 : (0 : α) ≤ ((s.nballots : Int) : α) := by exact_mod_cast Nat.zero_le _
  have hcands_wz : ∀ c ∈ (surplusCore A s x rew0).cands, c.st = .withdrawn → c.vote = 0 := by
    unfold surplusCore
    apply setVote_wz _ _ (transferAll_wz A hA h _ _ hl.wz)
    right
    intro c hc hcc
    obtain ⟨c0, hc0, hsk⟩ := mem_of_skel_eq (transferAll_skel A s _ _) hc
    have : c0 = x := nodup_cid_eq h.wf hc0 hx ((skel_cid hsk).trans hcc)
    rw [← (skel_st hsk).1, this]; exact hnw
  have hfr : (surplusCore A s x rew0).nballots = s.nballots ∧ (surplusCore A s x rew0).quota = s.quota
      ∧ (surplusCore A s x rew0).acts = s.acts ∧ (surplusCore A s x rew0).method = s.method
      ∧ (surplusCore A s x rew0).ballots.map (fun b => ((b.mult : Int) : α)) = s.ballots.map (fun b => ((b.mult : Int) : α)) := by
    unfold surplusCore
    refine ⟨transferAll_nballots A s _ _, transferAll_quota A s _ _, transferAll_acts A s _ _, transferAll_method A s _ _, ?_⟩
    exact transferAll_mults A s _ _
  obtain ⟨f1, f2, f3, f4, f5⟩ := hfr
  refine ⟨f4.trans h.meth, hcands_wz, by rw [f1, f5]; exact hl.nb, by rw [f2]; exact hl.q1, ?_, by rw [f3]; exact hl.snaps, ?_⟩
  · intro l a hsuf sn hsn
    rw [f3] at hsuf; rw [f1]
    exact hl.recl l a hsuf sn hsn
  · rw [f1, f3, htot]
    have hlow0 := hl.low
    rw [← hl.nb] at hmoved
    rw [Nat.cast_add, Nat.cast_one]
    nlinarith

theorem LInv.transferSurplus (hA : LawfulArith A) (u : α) (hu : 0 ≤ u) (rew0 : α → α → α → α) (hlow : RewLower A u rew0)
    {s : St α} (h : Inv A s) (hl : LInv A u s) (x : Cand α) (verb : String)
    (hverb : isSTs "transfer" verb = true)
    (hx : x ∈ s.cands) (hnh : x.st ≠ .hopeful) (hnw : x.st ≠ .withdrawn)
    (hI : x.vote = s.tally A x.cid) (hq : s.quota ≤ x.vote) :
    LInv A u (Droop.transferSurplus A s x rew0 verb) := by
  rw [transferSurplus_eq]
  obtain ⟨c0, c1, c2, c3, c4, c4s, c5⟩ := LInv.surplusCore_pre A hA u hu rew0 hlow h hl x hx hnh hnw hI hq
  apply LInv.logAct' A u c0 c1 c2 c3 c4 c4s
  simp only [hverb, if_true]
  exact c5

theorem lt_pdiv_add_one_mul (a b : Int) (hb : 0 < b) : a < (pdiv a b + 1) * b := by
  unfold pdiv
  rw [Int.fdiv_eq_ediv_of_nonneg a (le_of_lt hb)]
  exact Int.lt_ediv_add_one_mul_self a hb

/-- fixed-point arithmetic loses less than two units per ballot: the two-step truncation `rewMulDiv` (wigm family, CfER,
    Minneapolis) … -/
theorem fixed_rewLower_mulDiv (p : Nat) : RewLower (fixedArith p) 2 (rewMulDiv (fixedArith p)) := by
  intro w s v hw hs hv1
  have hS := pow10_pos p
  have hv1' : pow10 p ≤ v := hv1
  have hv : 0 < v := lt_of_lt_of_le hS hv1'
  have hv0 : (v == 0) = false := by simp; exact ne_of_gt hv
  show w * s ≤ ((if (v == 0) = true then 0 else pdiv (pdiv (w * s) (pow10 p) * pow10 p) v) + 2) * v
  simp only [hv0, Bool.false_eq_true, if_false]
  have h1 := lt_pdiv_add_one_mul (w * s) (pow10 p) hS
  have h2 := lt_pdiv_add_one_mul (pdiv (w * s) (pow10 p) * pow10 p) v hv
  nlinarith

/-- … and the fused multiply-divide `rewMuldivDown` of the Scottish rule -/
theorem fixed_rewLower_muldiv (p : Nat) : RewLower (fixedArith p) 2 (rewMuldivDown (fixedArith p)) := by
  intro w s v hw hs hv1
  have hS := pow10_pos p
  have hv1' : pow10 p ≤ v := hv1
  have hv : 0 < v := lt_of_lt_of_le hS hv1'
  have hv0 : (v == 0) = false := by simp; exact ne_of_gt hv
  show w * s ≤ (divmodRound .down (w * s) v + 2) * v
  simp only [divmodRound, hv0, Bool.false_eq_true, if_false]
  simp
  have h1 := lt_pdiv_add_one_mul (w * s) v hv
  nlinarith

/-- `c.unpend(msg)` followed by the transfer of `c`'s surplus -/
theorem LInv.unpendTransfer (hA : LawfulArith A) (u : α) (hu : 0 ≤ u) (rew0 : α → α → α → α) (hlow : RewLower A u rew0)
    {s : St α} (h : Inv A s) (hl : LInv A u s) (hc : Cand α) (hcs : hc ∈ s.cands) (hce : hc.st = .elected)
    (hcp : hc.pending = true) (verb1 verb2 : String) (hverb : isSTs "transfer" verb2 = true) :
    LInv A u (Droop.transferSurplus A (s.unpendLog A hc.cid verb1) hc rew0 verb2) := by
  have h2 := h.unpendLog A hc.cid verb1
  have hl2 := hl.unpendLog A u h.meth hc.cid verb1
  let x : Cand α := { hc with pending := false }
  have hx : x ∈ (s.unpendLog A hc.cid verb1).cands := by
    unfold St.unpendLog; rw [logAct_cands]
    exact mem_upd_of_eq (f := fun c => { c with pending := false }) hcs rfl
  rw [transferSurplus_congr A _ hc x rew0 _ rfl rfl]
  have hxe : x.st = .elected := hce
  apply LInv.transferSurplus A hA u hu rew0 hlow h2 hl2 x verb2 hverb hx
  · rw [hxe]; intro hh; cases hh
  · rw [hxe]; intro hh; cases hh
  · have ht : (s.unpendLog A hc.cid verb1).tally A x.cid = s.tally A hc.cid := by
      unfold St.tally St.unpendLog
      rw [logAct_ballots]; rfl
    rw [ht]
    exact h.i1 hc hcs (Or.inr ⟨hce, hcp⟩)
  · have hq : (s.unpendLog A hc.cid verb1).quota = s.quota := by
      unfold St.unpendLog; rw [logAct_quota]; rfl
    rw [hq]
    exact h.pq hc hcs hce hcp

theorem LInv.foldl {β : Type} (u : α) (f : St α → β → St α)
    (hf : ∀ s x, LInv A u s → s.method = .wigm → LInv A u (f s x) ∧ (f s x).method = .wigm) (l : List β) {s : St α}
    (h : LInv A u s) (hm : s.method = .wigm) : LInv A u (l.foldl f s) ∧ (l.foldl f s).method = .wigm := by
  induction l generalizing s with
  | nil => exact ⟨h, hm⟩
  | cons x xs ih => exact ih (hf s x h hm).1 (hf s x h hm).2

theorem LInv.foldDefeatV (u : α) {s : St α} (h : LInv A u s) (hm : s.method = .wigm) (ws : List (Cand α)) (verb : Cand α → String) :
    LInv A u (ws.foldl (fun acc c => acc.defeat A c.cid (verb c)) s) :=
  (LInv.foldl A u (fun (acc : St α) (c : Cand α) => acc.defeat A c.cid (verb c))
    (fun t c ht hmt => ⟨ht.defeat A u hmt c.cid _, (reach_defeat A t c.cid _).method.trans hmt⟩) ws h hm).1

theorem LInv.foldDefeat (u : α) {s : St α} (h : LInv A u s) (hm : s.method = .wigm) (ws : List (Cand α)) (verb : String) :
    LInv A u (ws.foldl (fun acc c => acc.defeat A c.cid verb) s)
    ∧ (ws.foldl (fun acc c => acc.defeat A c.cid verb) s).method = .wigm :=
  LInv.foldl A u (fun (acc : St α) (c : Cand α) => acc.defeat A c.cid verb)
    (fun t c ht hmt => ⟨ht.defeat A u hmt c.cid _, (reach_defeat A t c.cid _).method.trans hmt⟩) ws h hm

/-- "for c in sorted(ws): c.defeat(msg)" over distinct hopefuls, then one transfer of all their ballots -/
theorem LInv.defeatManyThenTransfer (hA : LawfulArith A) (u : α) {s : St α} (h : Inv A s) (hl : LInv A u s)
    (ws ws' : List (Cand α)) (verbD verbT : String) (hverb : isSTs "transfer" verbT = false)
    (hperm : ws'.Perm ws) (hnd : (ws.map (·.cid)).Nodup) (hw : ∀ w ∈ ws, w ∈ s.hopeful) :
    LInv A u (transferDefeated A (ws'.foldl (fun acc c => acc.defeat A c.cid verbD) s) (ws.map (·.cid)) verbT) := by
  have ht : Inv A (ws'.foldl (fun acc c => acc.defeat A c.cid verbD) s) := h.foldDefeat A ws' verbD
  have hlt := (hl.foldDefeat A u h.meth ws' verbD).1
  have hj := justDefeated_foldDefeat A h ws ws' verbD hperm hnd hw
  exact LInv.transferDefeatedMany A hA u ht hlt _ verbT hverb hj.1 hj.2

theorem LInv.defeatTransfer1 (hA : LawfulArith A) (u : α) {s : St α} (h : Inv A s) (hl : LInv A u s) (lc : Cand α)
    (hlc : lc ∈ s.hopeful) (verbD verbT : String) (hverb : isSTs "transfer" verbT = false) :
    LInv A u (transferDefeated A (s.defeat A lc.cid verbD) [lc.cid] verbT) := by
  have := LInv.defeatManyThenTransfer A hA u h hl [lc] [lc] verbD verbT hverb (List.Perm.refl _) (by simp)
    (by intro w hw; simp at hw; rw [hw]; exact hlc)
  simpa using this

theorem LInv.foldElect (u : α) {s : St α} (h : LInv A u s) (hm : s.method = .wigm) (ws : List (Cand α))
    (verb : Cand α → String) (pend : Cand α → Bool) :
    LInv A u (ws.foldl (fun acc c => acc.elect A c.cid (verb c) (pend c)) s)
    ∧ (ws.foldl (fun acc c => acc.elect A c.cid (verb c) (pend c)) s).method = .wigm :=
  LInv.foldl A u (fun (acc : St α) (c : Cand α) => acc.elect A c.cid (verb c) (pend c))
    (fun t c ht hmt => ⟨ht.elect A u hmt c.cid _ _, (reach_elect A t c.cid _ _).method.trans hmt⟩) ws h hm

theorem LInv.electWinners (u : α) {s : St α} (h : LInv A u s) (hm : s.method = .wigm) (hasQ : St α → Cand α → Bool)
    (pend : St α → Cand α → Bool) (verb : St α → Cand α → String) :
    LInv A u (Droop.electWinners A hasQ pend verb s) := by
  unfold Droop.electWinners
  exact (h.foldElect A u hm _ (verb s) (pend s)).1

theorem LInv.foldUnpend (u : α) {s : St α} (h : LInv A u s) (l : List (Cand α)) :
    LInv A u (l.foldl (fun acc c => acc.unpendSilent c.cid) s) := by
  induction l generalizing s with
  | nil => exact h
  | cons c cs ih => simp only [List.foldl_cons]; exact ih (h.unpendSilent A u c.cid)

end Droop
