import DroopModel.Driver
import DroopProofs.RunCfer

/-! # C11: deleting the withdrawn candidates commutes with the primitive writes of a count

`dropW s` deletes the withdrawn candidates from the candidate list, from the saved round snapshots (droop's E.rounds) and from
every snapshot of the record.  Every selector the rules use is blind to withdrawn candidates, every update keeps a withdrawn
candidate withdrawn, and `elect` / `defeat` are only ever addressed to ids of candidates that are not withdrawn — so each
step `f` satisfies `dropW (f s) = f (dropW s)`. -/
namespace Droop
variable {α : Type} [CommRing α] [LinearOrder α] [IsStrictOrderedRing α] (A : Arith α)

def nonW (c : Cand α) : Bool := c.st != .withdrawn
def dropSnap (sn : Snap α) : Snap α := { sn with cs := sn.cs.filter (fun e => e.2.1 != "W") }
def dropAct (a : Act α) : Act α := { a with snap := a.snap.map dropSnap }
def dropW (s : St α) : St α :=
  { s with cands := s.cands.filter nonW, rounds := s.rounds.map (fun l => l.filter nonW), acts := s.acts.map dropAct }

theorem filter_nonW_filter (l : List (Cand α)) (p : Cand α → Bool) (hp : ∀ c, p c = true → nonW c = true) :
    (l.filter nonW).filter p = l.filter p := by
  rw [List.filter_filter]
  apply List.filter_congr
  intro c _
  by_cases h : p c = true
  · simp [h, hp c h]
  · simp [h]

@[simp] theorem hopeful_dropW (s : St α) : (dropW s).hopeful = s.hopeful := by
  unfold St.hopeful dropW
  exact filter_nonW_filter _ _ (fun c h => by
    have : c.st = .hopeful := by simpa using h
    unfold nonW; rw [this]; rfl)

@[simp] theorem elected_dropW (s : St α) : (dropW s).elected = s.elected := by
  unfold St.elected dropW
  exact filter_nonW_filter _ _ (fun c h => by
    have : c.st = .elected := by simpa using h
    unfold nonW; rw [this]; rfl)

@[simp] theorem pendingL_dropW (s : St α) : (dropW s).pendingL = s.pendingL := by
  unfold St.pendingL dropW
  exact filter_nonW_filter _ _ (fun c h => by
    have : c.st = .elected := by
      simp only [Bool.and_eq_true, beq_iff_eq] at h; exact h.1
    unfold nonW; rw [this]; rfl)

@[simp] theorem eligible_dropW (s : St α) : (dropW s).eligible = s.eligible := by
  unfold St.eligible dropW
  exact filter_nonW_filter _ _ (fun c h => h)

@[simp] theorem seatsLeft_dropW (s : St α) : (dropW s).seatsLeft = s.seatsLeft := by
  unfold St.seatsLeft; rw [elected_dropW]; rfl

@[simp] theorem isHopeful_dropW (s : St α) (cid : Nat) : (dropW s).isHopeful cid = s.isHopeful cid := by
  unfold St.isHopeful dropW
  simp only [List.any_filter]
  congr 1
  funext c
  unfold nonW
  cases hs : c.st <;> simp

@[simp] theorem quota_dropW (s : St α) : (dropW s).quota = s.quota := rfl
@[simp] theorem ballots_dropW (s : St α) : (dropW s).ballots = s.ballots := rfl
@[simp] theorem seats_dropW (s : St α) : (dropW s).seats = s.seats := rfl
@[simp] theorem crash_dropW (s : St α) : (dropW s).crash = s.crash := rfl
@[simp] theorem round_dropW (s : St α) : (dropW s).round = s.round := rfl
@[simp] theorem nballots_dropW (s : St α) : (dropW s).nballots = s.nballots := rfl

theorem mkSnap_dropW (s : St α) : (dropW s).mkSnap A = dropSnap (s.mkSnap A) := by
  unfold St.mkSnap dropSnap
  simp only [eligible_dropW]
  congr 1
  simp only [dropW]
  rw [List.filter_map]
  congr 1
  apply List.filter_congr
  intro c _
  simp only [Function.comp, nonW]
  cases hs : c.st <;> simp [Cand.code, hs]
  split <;> simp

theorem dropW_logAct (s : St α) (tag verb : String) (subj : List Nat) :
    dropW (s.logAct A tag verb subj) = (dropW s).logAct A tag verb subj := by
  unfold St.logAct
  by_cases ht : (tag == "round") = true
  · simp only [ht, if_true]
    have hm : (St.mkSnap A (dropW ({ s with rounds := s.rounds ++ [s.cands] } : St α)))
        = dropSnap (St.mkSnap A ({ s with rounds := s.rounds ++ [s.cands] } : St α)) := mkSnap_dropW A _
    unfold dropW at hm ⊢
    simp only [List.map_append, List.map_cons, List.map_nil] at hm ⊢
    simp only [dropAct, Option.map_some]
    rw [← hm]
  · have hf : (tag == "round") = false := by simpa using ht
    simp only [hf, Bool.false_eq_true, if_false]
    have hm := mkSnap_dropW A s
    unfold dropW at hm ⊢
    simp only [List.map_cons]
    simp only [dropAct, Option.map_some]
    rw [← hm]

theorem dropW_logMsg (s : St α) (verb : String) (subj : List Nat) (val : Option α) :
    dropW (s.logMsg verb subj val) = (dropW s).logMsg verb subj val := by
  unfold St.logMsg dropW
  simp only [List.map_cons, dropAct, Option.map_none]

theorem dropW_upd_keep (s : St α) (cid : Nat) (f : Cand α → Cand α) (hf : ∀ c, (f c).st = c.st) :
    dropW (s.upd cid f) = (dropW s).upd cid f := by
  unfold dropW St.upd
  simp only
  congr 1
  rw [List.filter_map]
  congr 1
  apply List.filter_congr
  intro c _
  simp only [Function.comp, nonW]
  split
  · rw [hf]
  · rfl

theorem dropW_upd_nonW (s : St α) (cid : Nat) (f : Cand α → Cand α)
    (hf : ∀ c, c.st ≠ .withdrawn → (f c).st ≠ .withdrawn) (hno : ∀ c ∈ s.cands, c.cid = cid → c.st ≠ .withdrawn) :
    dropW (s.upd cid f) = (dropW s).upd cid f := by
  unfold dropW St.upd
  simp only
  congr 1
  rw [List.filter_map]
  congr 1
  apply List.filter_congr
  intro c hc
  simp only [Function.comp, nonW]
  by_cases he : (c.cid == cid) = true
  · have h1 := hno c hc (by simpa using he)
    have h2 := hf c h1
    have e1 : ((f c).st != CState.withdrawn) = true := by simpa using h2
    have e2 : (c.st != CState.withdrawn) = true := by simpa using h1
    simp only [he, if_true, e1, e2]
  · have hne : (c.cid == cid) = false := by simpa using he
    simp only [hne, Bool.false_eq_true, if_false]

/-- `cid` is the id of a candidate who is not withdrawn -/
def NonWId (s : St α) (cid : Nat) : Prop := ∃ x ∈ s.cands, x.cid = cid ∧ x.st ≠ .withdrawn

theorem noW_of_nonWId {s : St α} (hwf : s.WF) {cid : Nat} (h : NonWId s cid) :
    ∀ c ∈ s.cands, c.cid = cid → c.st ≠ .withdrawn := by
  obtain ⟨x, hx, hxc, hxs⟩ := h
  intro c hc hcc
  rw [nodup_cid_eq hwf hc hx (hcc.trans hxc.symm)]; exact hxs

theorem dropW_elect {s : St α} (hwf : s.WF) {cid : Nat} (h : NonWId s cid) (verb : String) (p : Bool) :
    dropW (s.elect A cid verb p) = (dropW s).elect A cid verb p := by
  unfold St.elect
  rw [dropW_logAct]
  congr 1
  exact dropW_upd_nonW s cid (fun c => { c with st := .elected, pending := p }) (fun c _ => by simp) (noW_of_nonWId hwf h)

theorem dropW_defeat {s : St α} (hwf : s.WF) {cid : Nat} (h : NonWId s cid) (verb : String) :
    dropW (s.defeat A cid verb) = (dropW s).defeat A cid verb := by
  unfold St.defeat
  rw [dropW_logAct]
  congr 1
  exact dropW_upd_nonW s cid (fun c => { c with st := .defeated }) (fun c _ => by simp) (noW_of_nonWId hwf h)

theorem dropW_unpendLog (s : St α) (cid : Nat) (verb : String) :
    dropW (s.unpendLog A cid verb) = (dropW s).unpendLog A cid verb := by
  unfold St.unpendLog
  rw [dropW_logAct]
  congr 1
  exact dropW_upd_keep s cid (fun c => { c with pending := false }) (fun _ => rfl)

theorem dropW_unpendSilent (s : St α) (cid : Nat) : dropW (s.unpendSilent cid) = (dropW s).unpendSilent cid := by
  unfold St.unpendSilent; exact dropW_upd_keep s cid (fun c => { c with pending := false }) (fun _ => rfl)

theorem dropW_setVote (s : St α) (cid : Nat) (v : α) : dropW (s.setVote cid v) = (dropW s).setVote cid v := by
  unfold St.setVote; exact dropW_upd_keep s cid (fun c => { c with vote := v }) (fun _ => rfl)

theorem dropW_addVote (s : St α) (cid : Nat) (v : α) : dropW (s.addVote A cid v) = (dropW s).addVote A cid v := by
  unfold St.addVote; exact dropW_upd_keep s cid (fun c => { c with vote := A.add c.vote v }) (fun _ => rfl)

theorem dropW_newRound (s : St α) : dropW (s.newRound A) = (dropW s).newRound A := by
  unfold St.newRound; rw [dropW_logAct]; rfl

theorem dropW_setCrash (s : St α) (k : String) : dropW (s.setCrash k) = (dropW s).setCrash k := by
  unfold St.setCrash
  show dropW (match s.crash with | some _ => s | none => { s with crash := some k }) = _
  cases hc : s.crash with
  | some _ => simp only [crash_dropW, hc]
  | none => simp only [crash_dropW, hc]; rfl

theorem dropW_setQuota (s : St α) (q : α) : dropW (s.setQuota q) = (dropW s).setQuota q := rfl
theorem dropW_setExhausted (s : St α) (e : α) : dropW (s.setExhausted e) = (dropW s).setExhausted e := rfl
theorem dropW_setSurplus (s : St α) (v : α) : dropW (s.setSurplus v) = (dropW s).setSurplus v := rfl

theorem WF_logAct {s : St α} (hwf : s.WF) (tag verb : String) (subj : List Nat) : (s.logAct A tag verb subj).WF := by
  unfold St.WF; rw [logAct_cands]; exact hwf

theorem nonWId_upd {s : St α} {c : Nat} (h : NonWId s c) (cid : Nat) (f : Cand α → Cand α) (hcid : ∀ x, (f x).cid = x.cid)
    (hf : ∀ x, x.st ≠ .withdrawn → (f x).st ≠ .withdrawn) : NonWId (s.upd cid f) c := by
  obtain ⟨x, hx, hxc, hxs⟩ := h
  refine ⟨if x.cid == cid then f x else x, mem_upd.2 ⟨x, hx, rfl⟩, ?_, ?_⟩
  · split
    · exact (hcid x).trans hxc
    · exact hxc
  · split
    · exact hf x hxs
    · exact hxs

theorem nonWId_of_cands {s t : St α} {c : Nat} (h : NonWId s c) (hc : t.cands = s.cands) : NonWId t c := by
  unfold NonWId; rw [hc]; exact h

theorem nonWId_of_hopeful {s : St α} {w : Cand α} (h : w ∈ s.hopeful) : NonWId s w.cid := by
  obtain ⟨h1, h2⟩ := mem_hopeful.1 h
  exact ⟨w, h1, rfl, by rw [h2]; intro e; cases e⟩

theorem nonWId_of_pending {s : St α} {w : Cand α} (h : w ∈ s.pendingL) : NonWId s w.cid := by
  obtain ⟨h1, h2, _⟩ := mem_pendingL.1 h
  exact ⟨w, h1, rfl, by rw [h2]; intro e; cases e⟩

theorem nonWId_elect {s : St α} {c : Nat} (h : NonWId s c) (cid : Nat) (verb : String) (p : Bool) :
    NonWId (s.elect A cid verb p) c := by
  unfold St.elect
  exact nonWId_of_cands (nonWId_upd h cid (fun c => { c with st := .elected, pending := p }) (fun _ => rfl) (fun _ _ => by simp))
    (logAct_cands A _ _ _ _)

theorem nonWId_defeat {s : St α} {c : Nat} (h : NonWId s c) (cid : Nat) (verb : String) :
    NonWId (s.defeat A cid verb) c := by
  unfold St.defeat
  exact nonWId_of_cands (nonWId_upd h cid (fun c => { c with st := .defeated }) (fun _ => rfl) (fun _ _ => by simp))
    (logAct_cands A _ _ _ _)

theorem isHopeful_fun_dropW (s : St α) : (fun cid => (dropW s).isHopeful cid) = (fun cid => s.isHopeful cid) := by
  funext cid; exact isHopeful_dropW s cid

theorem transferBallot_dropW (s : St α) (b : Ballot α) :
    transferBallot A (dropW s) b = (dropW (transferBallot A s b).1, (transferBallot A s b).2) := by
  unfold transferBallot
  rw [isHopeful_fun_dropW]
  cases h : (advanceTo (fun cid => s.isHopeful cid) b).top with
  | some c => simp only; rw [dropW_addVote]
  | none => rfl

theorem tstep_dropW (cids : List Nat) (rew : α → α) (a : St α) (l : List (Ballot α)) (b : Ballot α) :
    tstep A cids rew (dropW a, l) b = (dropW (tstep A cids rew (a, l) b).1, (tstep A cids rew (a, l) b).2) := by
  unfold tstep
  cases htop : b.top with
  | none => rfl
  | some c =>
    simp only
    split
    · rw [transferBallot_dropW]
    · rfl

theorem foldl_tstep_dropW (cids : List Nat) (rew : α → α) (bs : List (Ballot α)) (a : St α) (l : List (Ballot α)) :
    bs.foldl (tstep A cids rew) (dropW a, l)
      = (dropW (bs.foldl (tstep A cids rew) (a, l)).1, (bs.foldl (tstep A cids rew) (a, l)).2) := by
  induction bs generalizing a l with
  | nil => rfl
  | cons b bs ih =>
    simp only [List.foldl_cons]
    rw [tstep_dropW, ih]

theorem dropW_transferAll (s : St α) (cids : List Nat) (rew : α → α) :
    dropW (transferAll A s cids rew) = transferAll A (dropW s) cids rew := by
  unfold transferAll
  simp only [ballots_dropW]
  rw [foldl_tstep_dropW]
  rfl

theorem dropW_firstCount (s : St α) : dropW (firstCount A s) = firstCount A (dropW s) := by
  unfold firstCount
  simp only [ballots_dropW]
  generalize s.ballots = bs
  induction bs generalizing s with
  | nil => rfl
  | cons b bs ih =>
    simp only [List.foldl_cons]
    rw [ih]
    congr 1
    cases b.top with
    | none => rfl
    | some c => simp only; rw [dropW_addVote]

theorem foldl_map_comm {β : Type} (T : St α → St α) (Q : St α → Prop) (l : List β) (step : St α → β → St α)
    (hQ : ∀ s, Q s → ∀ b ∈ l, Q (step s b)) (hc : ∀ s, Q s → ∀ b ∈ l, T (step s b) = step (T s) b) :
    ∀ s, Q s → T (l.foldl step s) = l.foldl step (T s) := by
  induction l with
  | nil => intro s _; rfl
  | cons b bs ih =>
    intro s hs
    simp only [List.foldl_cons]
    rw [ih (fun s hs b hb => hQ s hs b (List.mem_cons_of_mem _ hb)) (fun s hs b hb => hc s hs b (List.mem_cons_of_mem _ hb)) _
      (hQ s hs b List.mem_cons_self), hc s hs b List.mem_cons_self]

theorem loopN_dropW (P : St α → Prop) (guard : St α → Bool) (body : St α → St α × Flow)
    (hP : ∀ s, P s → guard s = true → (body s).2 = .cont → P (body s).1)
    (hg : ∀ s, guard (dropW s) = guard s)
    (hb : ∀ s, P s → body (dropW s) = (dropW (body s).1, (body s).2)) :
    ∀ (fuel : Nat) (s : St α), P s → loopN guard body fuel (dropW s) = (loopN guard body fuel s).map dropW :=
  loopN_comm dropW P hP crash_dropW hg hb

theorem dropW_fuel_le (s0 : St α) (k : Nat) : 2 * (dropW s0).cands.length + k ≤ 2 * s0.cands.length + k := by
  have : (dropW s0).cands.length ≤ s0.cands.length := List.length_filter_le _ _
  omega

/-- a count is a loop run from an initial state with `n` units of fuel, followed by an epilogue.  If deleting the withdrawn
    candidates commutes with the body (on the states of a loop invariant `P`) and with the epilogue, then the count of the
    reduced profile, which gets no more fuel, is the reduced count. -/
theorem count_dropW (P : St α → Prop) (guard : St α → Bool) (body : St α → St α × Flow) (epi : St α → St α)
    (hP : ∀ s, P s → guard s = true → P (body s).1)
    (hg : ∀ s, guard (dropW s) = guard s)
    (hb : ∀ s, P s → body (dropW s) = (dropW (body s).1, (body s).2))
    (he : ∀ s, P s → dropW (epi s) = epi (dropW s))
    {n m : Nat} (hnm : m ≤ n) {s t t' : St α} (hs : P s)
    (h : (loopN guard body n s).map epi = some t) (h' : (loopN guard body m (dropW s)).map epi = some t') :
    t' = dropW t := by
  obtain ⟨s4, hl, rfl⟩ := Option.map_eq_some_iff.1 h
  obtain ⟨s4', hl', rfl⟩ := Option.map_eq_some_iff.1 h'
  have h2 := loopN_dropW P guard body (fun s hs hg _ => hP s hs hg) hg hb n s hs
  rw [hl, loopN_fuel_mono guard body m _ _ hl' n hnm] at h2
  rw [Option.some.inj h2, he s4 (loopN_preserves_guard P guard body hP n s s4 hs hl)]

end Droop
