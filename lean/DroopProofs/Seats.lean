import DroopProofs.InvTransfer

/-! # Seats are never over-committed (C09): the quota argument

While every elected candidate holds a quota (`ElectedHoldQuota`) and the quota satisfies the Droop condition, at most `seats`
candidates can be elected (`elected_le_seats`).  The rest of the file shows that each primitive step keeps
`ElectedHoldQuota`. -/
namespace Droop
variable {α : Type} [CommRing α] [LinearOrder α] [IsStrictOrderedRing α] (A : Arith α)

/-- every elected candidate (pending or not) holds at least a quota -/
def ElectedHoldQuota (s : St α) : Prop := ∀ c ∈ s.cands, c.st = .elected → s.quota ≤ c.vote

/-- the Droop condition on the quota: one more than `seats` quotas exceed the ballots -/
def DroopQuota (s : St α) : Prop := ((s.nballots : Int) : α) * A.one < ((s.seats + 1 : Nat) : α) * s.quota

theorem sum_ge_card_mul (l : List (Cand α)) (q : α) (h : ∀ c ∈ l, q ≤ c.vote) :
    (l.length : α) * q ≤ (l.map (·.vote)).sum := by
  induction l with
  | nil => simp
  | cons x xs ih =>
    simp only [List.length_cons, List.map_cons, List.sum_cons]
    have := ih (fun c hc => h c (by simp [hc]))
    have hx := h x (by simp)
    push_cast
    linarith

/-- at most `seats` candidates can hold a quota -/
theorem elected_le_seats {s : St α} (h : Inv A s) (he : ElectedHoldQuota s) (hd : DroopQuota A s) :
    s.elected.length ≤ s.seats := by
  by_contra hlt
  have hgt : s.seats + 1 ≤ s.elected.length := by omega
  have h1 : (s.elected.length : α) * s.quota ≤ (s.elected.map (·.vote)).sum := by
    apply sum_ge_card_mul
    intro c hc
    unfold St.elected at hc
    rw [List.mem_filter] at hc
    exact he c hc.1 (by simpa using hc.2)
  have h2 : (s.elected.map (·.vote)).sum ≤ s.sumVotes := by
    unfold St.elected St.sumVotes
    exact sum_filter_le s.cands _ (·.vote) h.vpos
  have h3 : s.sumVotes ≤ ((s.nballots : Int) : α) * A.one := by
    have := h.cons; unfold St.total at this
    linarith [h.epos]
  have h4 : ((s.seats + 1 : Nat) : α) * s.quota ≤ (s.elected.length : α) * s.quota := by
    apply mul_le_mul_of_nonneg_right _ (le_of_lt h.qpos)
    exact_mod_cast hgt
  unfold DroopQuota at hd
  linarith

/-- the Fixed-point quota `⌊n·S/(s+1)⌋ + 1` units satisfies the Droop condition -/
theorem fixed_droopQuota (p : Nat) (n seats : Nat) :
    ((n : Int)) * pow10 p < ((seats + 1 : Nat) : Int) * (pdiv ((n : Int) * pow10 p * pow10 p) (((seats + 1 : Nat) : Int) * pow10 p) + 1) := by
  have hS := pow10_pos p
  have hk : (0 : Int) < ((seats + 1 : Nat) : Int) := by exact_mod_cast Nat.succ_pos seats
  have hden : (0 : Int) < ((seats + 1 : Nat) : Int) * pow10 p := mul_pos hk hS
  unfold pdiv
  rw [Int.fdiv_eq_ediv_of_nonneg _ (le_of_lt hden)]
  have hlt := Int.lt_ediv_add_one_mul_self ((n : Int) * pow10 p * pow10 p) hden
  -- n·S·S < (q+1)·((s+1)·S)  ⇒  n·S < (s+1)·(q+1)
  have : (n : Int) * pow10 p * pow10 p < (((seats + 1 : Nat) : Int) * ((n : Int) * pow10 p * pow10 p / (((seats + 1 : Nat) : Int) * pow10 p) + 1)) * pow10 p := by
    nlinarith
  exact lt_of_mul_lt_mul_right this (le_of_lt hS)

theorem EHQ.of_same {s t : St α} (h : ElectedHoldQuota s) (hc : t.cands = s.cands) (hq : t.quota = s.quota) :
    ElectedHoldQuota t := by
  intro c hc' he; rw [hq]; exact h c (hc ▸ hc') he

theorem EHQ.logAct {s : St α} (h : ElectedHoldQuota s) (tag verb : String) (subj : List Nat) :
    ElectedHoldQuota (s.logAct A tag verb subj) :=
  EHQ.of_same h (logAct_cands A s tag verb subj) (logAct_quota A s tag verb subj)

theorem EHQ.newRound {s : St α} (h : ElectedHoldQuota s) : ElectedHoldQuota (s.newRound A) := by
  unfold St.newRound
  exact EHQ.logAct A (EHQ.of_same (t := { s with round := s.round + 1 }) h rfl rfl) _ _ _

theorem EHQ.upd_status {s : St α} (h : ElectedHoldQuota s) (cid : Nat) (f : Cand α → Cand α) (hf : statusOnly f)
    (hnew : ∀ c ∈ s.cands, c.cid = cid → (f c).st = .elected → s.quota ≤ c.vote) :
    ElectedHoldQuota (s.upd cid f) := by
  intro c' hc' he
  show s.quota ≤ _
  obtain ⟨c, hc, ⟨hcid, rfl⟩ | ⟨_, rfl⟩⟩ := mem_upd_cases.1 hc'
  · rw [(hf c).2]; exact hnew c hc hcid he
  · exact h c' hc he

theorem EHQ.elect {s : St α} (h : ElectedHoldQuota s) (cid : Nat) (verb : String) (p : Bool)
    (hq : ∀ c ∈ s.cands, c.cid = cid → s.quota ≤ c.vote) : ElectedHoldQuota (s.elect A cid verb p) := by
  unfold St.elect
  apply EHQ.logAct
  exact EHQ.upd_status h cid _ (fun c => ⟨rfl, rfl⟩) (fun c hc hcid _ => hq c hc hcid)

theorem EHQ.defeat {s : St α} (h : ElectedHoldQuota s) (cid : Nat) (verb : String) :
    ElectedHoldQuota (s.defeat A cid verb) := by
  unfold St.defeat
  apply EHQ.logAct
  exact EHQ.upd_status h cid _ (fun c => ⟨rfl, rfl⟩) (fun c _ _ he => by simp at he)

theorem EHQ.unpendLog {s : St α} (h : ElectedHoldQuota s) (cid : Nat) (verb : String) :
    ElectedHoldQuota (s.unpendLog A cid verb) := by
  unfold St.unpendLog
  apply EHQ.logAct
  exact EHQ.upd_status h cid _ (fun c => ⟨rfl, rfl⟩) (fun c hc _ he => h c hc he)

theorem EHQ.breakTie {s : St α} (h : ElectedHoldQuota s) (tied : List (Cand α)) (verb : String) :
    ElectedHoldQuota (Droop.breakTie A s tied verb).1 := by
  obtain ⟨h1, _, _, h4, _⟩ := breakTie_frame A s tied verb
  exact EHQ.of_same h h1 h4

/-- a transfer only adds to the tallies: every elected candidate still holds a quota -/
theorem EHQ.transferAll (hA : LawfulArith A) {s : St α} (hI : Inv A s) (h : ElectedHoldQuota s)
    (cids : List Nat) (rew : α → α) (hr : ∀ b ∈ s.ballots, 0 ≤ rew b.w) :
    ElectedHoldQuota (Droop.transferAll A s cids rew) := by
  have hskel := transferAll_skel A s cids rew
  have hq : (Droop.transferAll A s cids rew).quota = s.quota := transferAll_quota A s cids rew
  have hwf' : (Droop.transferAll A s cids rew).WF := WF_of_skel hskel.symm hI.wf
  intro c1 hc1 he
  rw [hq]
  obtain ⟨c, hc, hsk⟩ := mem_of_skel_eq hskel hc1
  have h1 := voteOf_of_mem hwf' hc1
  have h2 := voteOf_of_mem hI.wf hc
  have h3 := transferAll_voteOf A (lawfulAdd_of hA) s hI.bwf cids rew c1.cid
  rw [h1, ← skel_cid hsk, h2] at h3
  rw [h3]
  have hce : c.st = .elected := (skel_st hsk).1.trans he
  have hnn : 0 ≤ (s.ballots.map (contrib A s cids rew c.cid)).sum :=
    sum_nonneg' _ _ (fun b hb => contrib_nonneg A hA s cids rew c.cid b (hr b hb))
  linarith [h c hc hce]

theorem EHQ.setVote {s : St α} (h : ElectedHoldQuota s) (cid : Nat) (v : α)
    (hv : ∀ c ∈ s.cands, c.cid = cid → c.st = .elected → s.quota ≤ v) : ElectedHoldQuota (s.setVote cid v) := by
  intro c' hc' he
  show s.quota ≤ _
  obtain ⟨c1, hc1, ⟨hcid, rfl⟩ | ⟨_, rfl⟩⟩ := mem_upd_cases.1 hc'
  · exact hv c1 hc1 hcid he
  · exact h c' hc1 he

theorem EHQ.transferAll_setVote (hA : LawfulArith A) {s : St α} (hI : Inv A s) (h : ElectedHoldQuota s)
    (cids : List Nat) (rew : α → α) (hr : ∀ b ∈ s.ballots, 0 ≤ rew b.w) (cid : Nat) (v : α) (hv : s.quota ≤ v) :
    ElectedHoldQuota ((Droop.transferAll A s cids rew).setVote cid v) :=
  EHQ.setVote (EHQ.transferAll A hA hI h cids rew hr) cid v (fun _ _ _ _ => by rw [transferAll_quota]; exact hv)

theorem EHQ.transferSurplus (hA : LawfulArith A) (rew0 : α → α → α → α) (hrew0 : RewLaw rew0) {s : St α} (hI : Inv A s)
    (h : ElectedHoldQuota s) (x : Cand α) (verb : String) (hq : s.quota ≤ x.vote) :
    ElectedHoldQuota (Droop.transferSurplus A s x rew0 verb) := by
  unfold Droop.transferSurplus
  simp only [hA.sub_eq]
  apply EHQ.logAct
  have hv : 0 < x.vote := lt_of_lt_of_le hI.qpos hq
  have hsur : 0 ≤ x.vote - s.quota := sub_nonneg.2 hq
  have hr : ∀ b ∈ s.ballots, 0 ≤ rew0 b.w (x.vote - s.quota) x.vote :=
    fun b hb => (hrew0 b.w _ _ (hI.wpos b hb) hsur hv).1
  have := EHQ.transferAll_setVote A hA hI h [x.cid] (fun w => rew0 w (x.vote - s.quota) x.vote) hr x.cid s.quota (le_refl _)
  rw [transferAll_quota]
  exact this

theorem nonElected_of_skel {s t : St α} (hsk : t.skel = s.skel) {cid : Nat}
    (h : ∀ c ∈ s.cands, c.cid = cid → c.st ≠ .elected) : ∀ c ∈ t.cands, c.cid = cid → c.st ≠ .elected := by
  intro c hc hcc
  obtain ⟨c0, hc0, hsk0⟩ := mem_of_skel_eq hsk hc
  rw [← (skel_st hsk0).1]; exact h c0 hc0 ((skel_cid hsk0).trans hcc)

theorem EHQ.foldSetVote (l : List Nat) {s : St α} (h : ElectedHoldQuota s)
    (hne : ∀ cid ∈ l, ∀ c ∈ s.cands, c.cid = cid → c.st ≠ .elected) :
    ElectedHoldQuota (l.foldl (fun acc c => acc.setVote c A.zero) s) := by
  induction l generalizing s with
  | nil => exact h
  | cons x xs ih =>
    simp only [List.foldl_cons]
    apply ih (EHQ.setVote h x _ (fun c hc e he => absurd he (hne x (by simp) c hc e)))
    intro cid hcid
    exact nonElected_of_skel (setVote_skel s x A.zero) (hne cid (by simp [hcid]))

theorem EHQ.transferDefeated (hA : LawfulArith A) {s : St α} (hI : Inv A s) (h : ElectedHoldQuota s) (cids : List Nat)
    (verb : String) (hne : ∀ cid ∈ cids, ∀ c ∈ s.cands, c.cid = cid → c.st ≠ .elected) :
    ElectedHoldQuota (Droop.transferDefeated A s cids verb) := by
  unfold Droop.transferDefeated
  dsimp only
  apply EHQ.logAct
  apply EHQ.foldSetVote A cids (EHQ.transferAll A hA hI h cids id (fun b hb => hI.wpos b hb))
  intro cid hcid
  exact nonElected_of_skel (transferAll_skel A s cids id) (hne cid hcid)

theorem EHQ.transferDefeated1 (hA : LawfulArith A) {s : St α} (hI : Inv A s) (h : ElectedHoldQuota s) (x : Cand α)
    (verb : String) (hx : x ∈ s.cands) (hne : x.st ≠ .elected) :
    ElectedHoldQuota (Droop.transferDefeated A s [x.cid] verb) :=
  EHQ.transferDefeated A hA hI h [x.cid] verb (fun cid hcid c hc hcc => by
    rw [List.mem_singleton] at hcid; subst hcid
    rw [nodup_cid_eq hI.wf hc hx hcc]; exact hne)

/-- loop invariant: the bundle, plus every elected candidate holds a quota -/
def InvE (s : St α) : Prop := Inv A s ∧ ElectedHoldQuota s

end Droop
