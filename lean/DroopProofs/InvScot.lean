import DroopProofs.InvInit

/-! # The Scottish rule: every stage preserves the bundle; conservation and tally invariants at run level -/
namespace Droop
variable {α : Type} [CommRing α] [LinearOrder α] [IsStrictOrderedRing α] (A : Arith α)

theorem scotBreakTie_frame (s : St α) (tied : List (Cand α)) (lowest : Bool) (reason : String) :
    (scotBreakTie A s tied lowest reason).1.cands = s.cands ∧ (scotBreakTie A s tied lowest reason).1.ballots = s.ballots
    ∧ (scotBreakTie A s tied lowest reason).1.exhausted = s.exhausted ∧ (scotBreakTie A s tied lowest reason).1.quota = s.quota
    ∧ (scotBreakTie A s tied lowest reason).1.nballots = s.nballots := by
  unfold scotBreakTie
  split
  · exact setCrash_frame s _
  · exact ⟨rfl, rfl, rfl, rfl, rfl⟩
  · dsimp only
    split
    · exact logAct_frame A s _ _ _
    · exact logAct_frame A s _ _ _

theorem Inv.scotBreakTie {s : St α} (h : Inv A s) (tied : List (Cand α)) (lowest : Bool) (reason : String) :
    Inv A (Droop.scotBreakTie A s tied lowest reason).1 := by
  unfold Droop.scotBreakTie
  split
  · exact h.setCrash A _
  · exact h
  · dsimp only
    split
    · exact h.logAct A _ _ _
    · exact h.logAct A _ _ _

theorem scotBreakTie_mem (s : St α) (tied : List (Cand α)) (lowest : Bool) (reason : String) (c : Cand α)
    (h : (scotBreakTie A s tied lowest reason).2 = some c) : c ∈ tied := by
  unfold scotBreakTie at h
  split at h
  · cases h
  · cases h; simp
  · dsimp only at h
    split at h
    · exact List.mem_of_find?_eq_some h
    · have : c ∈ byTieOrder tied := List.mem_of_head? h
      exact (mem_pySorted _ _ _ _).1 this

theorem Inv.setSurplus {s : St α} (h : Inv A s) (v : α) : Inv A (s.setSurplus v) :=
  h.of_same A rfl rfl rfl rfl rfl rfl rfl

theorem Inv.scotSurplusStep (hA : LawfulArith A) {s : St α} (h : Inv A s) : Inv A (Droop.scotSurplusStep A s) := by
  unfold Droop.scotSurplusStep
  split
  · exact h
  · rename_i hv _
    have hI1 := h.scotBreakTie A (s.pendingL.filter (fun c => A.eq c.vote hv)) false "largest surplus"
    have hfr := scotBreakTie_frame A s (s.pendingL.filter (fun c => A.eq c.vote hv)) false "largest surplus"
    have hmem := scotBreakTie_mem A s (s.pendingL.filter (fun c => A.eq c.vote hv)) false "largest surplus"
    split
    · rename_i s3 hc heq
      rw [heq] at hI1 hfr hmem
      have hm := (List.mem_filter.1 (hmem hc rfl)).1
      unfold St.pendingL at hm
      rw [← show s3.cands = s.cands from hfr.1] at hm
      exact (gstep_surplusOf A hA _ (rewMuldivDown_law A hA) hI1 hm _ _).inv
    · rename_i s3 heq
      rw [heq] at hI1
      exact hI1

theorem Inv.scotDefeatStep (hA : LawfulArith A) {s : St α} (h : Inv A s) : Inv A (Droop.scotDefeatStep A s) := by
  unfold Droop.scotDefeatStep
  split
  · exact h
  · rename_i lv _
    have hI1 := h.scotBreakTie A (s.hopeful.filter (fun c => A.eq c.vote lv)) true "defeat low candidate"
    have hfr := scotBreakTie_frame A s (s.hopeful.filter (fun c => A.eq c.vote lv)) true "defeat low candidate"
    have hmem := scotBreakTie_mem A s (s.hopeful.filter (fun c => A.eq c.vote lv)) true "defeat low candidate"
    split
    · rename_i s3 lc heq
      rw [heq] at hI1 hfr hmem
      have hm := (List.mem_filter.1 (hmem lc rfl)).1
      unfold St.hopeful at hm
      rw [← show s3.cands = s.cands from hfr.1] at hm
      exact (gstep_defeatOne A hA hI1 hm _ _).inv
    · rename_i s3 heq
      rw [heq] at hI1
      exact hI1

theorem Inv.scotElect (hA : LawfulArith A) (hex : A.exact = false) {s : St α} (h : Inv A s) : Inv A (Droop.scotElect A s) := by
  unfold Droop.scotElect
  apply h.electWinners A
  intro c hc
  exact hasQuotaGE_sound A hA hex s c hc

/-- a Scottish round keeps whatever the election step, the new stage with its reporting surplus, the surplus step and the
    exclusion step keep -/
theorem scotBody_keeps (P : St α → Prop) {s : St α} (he : P (scotElect A s))
    (hr : ∀ t, P t → P ((t.newRound A).setSurplus (A.sum ((t.newRound A).pendingL.map (candSurplus A (t.newRound A))))))
    (hsur : ∀ t, P t → P (scotSurplusStep A t)) (hdef : ∀ t, P t → P (scotDefeatStep A t)) : P (scotBody A s).1 := by
  unfold scotBody
  split
  · exact he
  · have h2 : P (scotRound A (scotElect A s)) := hr _ he
    unfold scotStage
    split
    · exact hsur _ h2
    · split
      · unfold scotFinish; split <;> exact hdef _ h2
      · unfold scotFinish; split <;> exact h2

theorem Inv.scotBody (hA : LawfulArith A) (hex : A.exact = false) {s : St α} (h : Inv A s) :
    Inv A (Droop.scotBody A s).1 :=
  scotBody_keeps A (Inv A) (h.scotElect A hA hex) (fun _ ht => (ht.newRound A).setSurplus A _)
    (fun _ ht => ht.scotSurplusStep A hA) (fun _ ht => ht.scotDefeatStep A hA)

theorem Inv.foldElectRemaining {s : St α} (h : Inv A s) (ws : List (Cand α)) (verb : String)
    (hnd : (ws.map (·.cid)).Nodup) (hw : ∀ w ∈ ws, w ∈ s.cands ∧ w.st = .hopeful) :
    Inv A (ws.foldl (fun acc c => acc.elect A c.cid verb false) s) := by
  apply h.foldElect A ws (fun _ => verb) (fun _ => false) hnd
  intro w hw'
  obtain ⟨a, b⟩ := hw w hw'
  exact ⟨a, b, fun hp => by cases hp⟩

theorem Inv.scotEpilogue {s : St α} (h : Inv A s) : Inv A (Droop.scotEpilogue A s) := by
  unfold Droop.scotEpilogue
  dsimp only
  have h5 := h.foldUnpend A s.pendingL
  apply Inv.foldDefeat
  split
  · exact h5.foldElectRemaining A _ _ (hopeful_cids_nodup h5.wf) (fun w hw => mem_hopeful.1 hw)
  · exact h5

/-- Scottish rule: conservation, non-negativity and the tally invariant hold in the final state and in every snapshot of the
    record, for every input -/
theorem scot_conservation (hA : LawfulArith A) (hex : A.exact = false) (s0 t : St α) (h0 : Init A s0)
    (hq : 0 < A.ofInt (pdiv s0.nballots (s0.seats + 1) + 1)) (h : scotCount A s0 = some t) :
    Inv A (t.logAct A "end" "Count Complete" []) := by
  rw [scotCount_eq] at h
  obtain ⟨s4, hl, rfl⟩ := Option.map_eq_some_iff.1 h
  have h4 : Inv A s4 :=
    loopN_preserves_guard (Inv A) (fun _ => true) (scotBody A) (fun s hs _ => hs.scotBody A hA hex) _ _ _
      (Inv.scotInit A hA h0 hq) hl
  exact (h4.scotEpilogue A).logAct A _ _ _

end Droop
