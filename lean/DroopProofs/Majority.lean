import DroopModel.Driver
import DroopProofs.LowerRun
import DroopProofs.Sticky

/-! # C05, one seat: the candidate elected at the first election step is the winner

`Shown w r`: the newest snapshot of `r` lists candidate `w`, and lists it as elected. A fold of `elect` over a list that
contains `w` ends in such a state, and every later state with a forward-only record still has `w` elected; what depends on
the rule is only that its first election step folds `elect` over a list containing the majority candidate. -/
namespace Droop
variable {α : Type} [CommRing α] [LinearOrder α] [IsStrictOrderedRing α] (A : Arith α)

def Shown (w : Nat) (r : St α) : Prop := ∃ sn, (snaps r.acts).head? = some sn ∧ AllEl w sn ∧ HasC w sn

theorem Shown.final {w : Nat} {r t : St α} (h : Shown w r) (hx : Ext r t) (hM : Mon t) :
    ∃ x ∈ t.cands, x.cid = w ∧ x.st = .elected := by
  obtain ⟨sn, h1, h2, h3⟩ := h
  exact elected_sticky hM hx sn h1 h2 h3

theorem elect_cands (s : St α) (cid : Nat) (verb : String) (p : Bool) :
    (s.elect A cid verb p).cands = (s.upd cid (fun c => { c with st := .elected, pending := p })).cands := by
  unfold St.elect; rw [logAct_cands]

theorem elect_sets (s : St α) (w : Nat) (verb : String) (p : Bool) :
    ∀ x ∈ (s.elect A w verb p).cands, x.cid = w → x.st = .elected := by
  intro x hx hw
  rw [elect_cands] at hx
  obtain ⟨c, _, ⟨_, rfl⟩ | ⟨hne, rfl⟩⟩ := mem_upd_cases.1 hx
  · rfl
  · exact absurd hw hne

theorem elect_keeps (s : St α) (cid : Nat) (verb : String) (p : Bool) (w : Nat)
    (h : ∀ x ∈ s.cands, x.cid = w → x.st = .elected) :
    ∀ x ∈ (s.elect A cid verb p).cands, x.cid = w → x.st = .elected := by
  intro x hx hw
  rw [elect_cands] at hx
  obtain ⟨c, hc, ⟨_, rfl⟩ | ⟨_, rfl⟩⟩ := mem_upd_cases.1 hx
  · rfl
  · exact h _ hc hw

theorem elect_has (s : St α) (cid : Nat) (verb : String) (p : Bool) (w : Nat) (h : ∃ x ∈ s.cands, x.cid = w) :
    ∃ x ∈ (s.elect A cid verb p).cands, x.cid = w := by
  obtain ⟨x, hx, hw⟩ := h
  rw [elect_cands]
  refine ⟨if x.cid == cid then { x with st := .elected, pending := p } else x, mem_upd.2 ⟨x, hx, rfl⟩, ?_⟩
  split <;> exact hw

theorem foldElect_keeps (ws : List (Cand α)) (verb : Cand α → String) (pend : Cand α → Bool) (s : St α) (w : Nat)
    (h : ∀ x ∈ s.cands, x.cid = w → x.st = .elected) :
    ∀ x ∈ (ws.foldl (fun acc x => acc.elect A x.cid (verb x) (pend x)) s).cands, x.cid = w → x.st = .elected := by
  induction ws generalizing s with
  | nil => exact h
  | cons v vs ih => simp only [List.foldl_cons]; exact ih _ (elect_keeps A s v.cid _ _ w h)

theorem foldElect_all (ws : List (Cand α)) (verb : Cand α → String) (pend : Cand α → Bool) (s : St α) (w : Cand α)
    (hw : w ∈ ws) :
    ∀ x ∈ (ws.foldl (fun acc x => acc.elect A x.cid (verb x) (pend x)) s).cands, x.cid = w.cid → x.st = .elected := by
  induction ws generalizing s with
  | nil => cases hw
  | cons v vs ih =>
    simp only [List.foldl_cons]
    rcases List.mem_cons.1 hw with rfl | hin
    · exact foldElect_keeps A vs verb pend _ w.cid (elect_sets A s w.cid _ _)
    · exact ih _ hin

theorem foldElect_has (ws : List (Cand α)) (verb : Cand α → String) (pend : Cand α → Bool) (s : St α) (w : Nat)
    (h : ∃ x ∈ s.cands, x.cid = w) :
    ∃ x ∈ (ws.foldl (fun acc x => acc.elect A x.cid (verb x) (pend x)) s).cands, x.cid = w := by
  induction ws generalizing s with
  | nil => exact h
  | cons v vs ih => simp only [List.foldl_cons]; exact ih _ (elect_has A s v.cid _ _ w h)

/-- a fold of `elect` over a list containing `w` ends with `w` shown elected in the newest snapshot -/
theorem shown_foldElect (ws : List (Cand α)) (verb : Cand α → String) (pend : Cand α → Bool) (s : St α) (w : Cand α)
    (hw : w ∈ ws) (hs : ∃ x ∈ s.cands, x.cid = w.cid) :
    Shown w.cid (ws.foldl (fun acc x => acc.elect A x.cid (verb x) (pend x)) s) := by
  refine ⟨_, head_snap_foldElect A ws (by intro h; rw [h] at hw; cases hw) verb pend s, ?_, ?_⟩
  · exact allEl_mkSnap A (foldElect_all A ws verb pend s w hw)
  · exact hasC_mkSnap A (foldElect_has A ws verb pend s w.cid hs)

theorem shown_electWinners (hasQ : St α → Cand α → Bool) (pend : St α → Cand α → Bool) (verb : St α → Cand α → String)
    (s : St α) (w : Cand α) (hw : w ∈ s.hopeful) (hq : hasQ s w = true) :
    Shown w.cid (electWinners A hasQ pend verb s) := by
  unfold electWinners
  apply shown_foldElect A _ (verb s) (pend s) s w
  · rw [List.mem_filter]; exact ⟨(mem_pySorted _ _ _ _).2 hw, hq⟩
  · exact ⟨w, (mem_hopeful.1 hw).1, rfl⟩

/-- whoever a state `r` on the way through the first round shows elected is elected when the count ends: the rest of the
    round, the remaining rounds and the epilogue only extend the log, and the final record is forward-only -/
theorem first_elected_of_loop (guard : St α → Bool) (body : St α → St α × Flow) (epi : St α → St α)
    (hbody : ∀ s, Ext s (body s).1) (hepi : ∀ s, Ext s (epi s)) (n : Nat) (s1 s4 : St α) (hcr : s1.crash = none)
    (hg : guard s1 = true) (hl : loopN guard body (n + 1) s1 = some s4) (hM : Mon (epi s4)) {w : Nat} {r : St α}
    (hsh : Shown w r) (hxr : Ext r (body s1).1) : ∃ x ∈ (epi s4).cands, x.cid = w ∧ x.st = .elected :=
  hsh.final (hxr.trans ((loopN_first (fun _ => True) Ext Ext.refl Ext.trans (fun _ _ _ _ => trivial) (fun s _ _ => hbody s) trivial hcr hg hl).trans (hepi s4))) hM

theorem fcStep_crash (s : St α) (b : Ballot α) : (fcStep A s b).crash = s.crash := by
  unfold fcStep; split <;> rfl

theorem foldl_fcStep_crash (bs : List (Ballot α)) (s : St α) : (bs.foldl (fcStep A) s).crash = s.crash := by
  induction bs generalizing s with
  | nil => rfl
  | cons b bs ih => simp only [List.foldl_cons]; rw [ih, fcStep_crash]

theorem gInit_crash (q : α) (s0 : St α) : (gInit A q s0).crash = s0.crash := by
  unfold gInit
  rw [crash_logAct]
  show (firstCount A (s0.setQuota q)).crash = _
  rw [firstCount_eq, foldl_fcStep_crash]; rfl

theorem gInit_ballots (q : α) (s0 : St α) : (gInit A q s0).ballots = s0.ballots := by
  unfold gInit
  rw [logAct_ballots]
  show (firstCount A (s0.setQuota q)).ballots = _
  rw [firstCount_eq, (foldl_fcStep_frame A _ _).1]; rfl

end Droop
