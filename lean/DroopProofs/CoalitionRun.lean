import DroopProofs.Coalition
import DroopProofs.Majority

/-! # C05: the coalition invariant through the steps of the Gregory drivers

`CInv`: positions and resting places are sound, the coalition ballots have lost at most one quota (plus `u` per ballot) per
member whose surplus has been transferred — as long as a member is still hopeful — and at least `kk` members are hopeful or
elected.  Elections, surplus transfers and *single* exclusions (of a lowest candidate, in a round with no surplus pending
and nobody hopeful above the quota) preserve it. -/
namespace Droop
variable {α : Type} [CommRing α] [LinearOrder α] [IsStrictOrderedRing α] (A : Arith α)

structure CInv (S : List Nat) (m : Nat) (kk k : Nat) (u nV : α) (N : Nat) (s : St α) : Prop where
  pos : Pos s
  rest : RestX s []
  vm : Vmult S m s = nV
  len : s.cands.length = N
  d2 : 1 ≤ hopS S s → nV * A.one ≤ Vval A S m s + (doneS S s : α) * (s.quota + u * nV)
  alive : kk ≤ hopS S s + elS S s
  big : (k : α) * s.quota + (N : α) * (u * nV) < nV * A.one

variable {S : List Nat} {m : Nat} {kk k : Nat} {u nV : α} {N : Nat}

theorem countsS_of_skel {s t : St α} (hsk : t.skel = s.skel) :
    hopS S t = hopS S s ∧ elS S t = elS S s ∧ doneS S t = doneS S s ∧ t.cands.length = s.cands.length := by
  have key : ∀ (p : Nat × Nat × Nat × Bool × CState × Bool → Bool) (u : St α),
      (u.cands.filter (fun c => p c.skel)).length = (u.skel.filter p).length := by
    intro p u
    unfold St.skel
    rw [List.filter_map, List.length_map]; rfl
  refine ⟨?_, ?_, ?_, ?_⟩
  · have a := key (fun k => S.contains k.1 && k.2.2.2.2.1 == .hopeful) t
    have b := key (fun k => S.contains k.1 && k.2.2.2.2.1 == .hopeful) s
    unfold hopS; unfold Cand.skel at a b; simp only at a b; rw [a, b, hsk]
  · have a := key (fun k => S.contains k.1 && k.2.2.2.2.1 == .elected) t
    have b := key (fun k => S.contains k.1 && k.2.2.2.2.1 == .elected) s
    unfold elS; unfold Cand.skel at a b; simp only at a b; rw [a, b, hsk]
  · have a := key (fun k => S.contains k.1 && (k.2.2.2.2.1 == .elected && !k.2.2.2.2.2)) t
    have b := key (fun k => S.contains k.1 && (k.2.2.2.2.1 == .elected && !k.2.2.2.2.2)) s
    unfold doneS; unfold Cand.skel at a b; simp only at a b; rw [a, b, hsk]
  · have := congrArg List.length hsk
    unfold St.skel at this; simpa using this

/-- `CInv` reads the state only through the ids and statuses of the candidates, the ballots and the quota -/
theorem CInv.of_skel {s t : St α} (h : CInv A S m kk k u nV N s) (hsk : t.skel = s.skel) (hb : t.ballots = s.ballots)
    (hq : t.quota = s.quota) : CInv A S m kk k u nV N t := by
  obtain ⟨k1, k2, k3, k4⟩ := countsS_of_skel (S := S) hsk
  exact ⟨h.pos.of_skel hb hsk, h.rest.of_skel hb hsk, (Vmult_congr S m hb).trans h.vm, k4.trans h.len,
    by rw [k1, Vval_congr A S m hb, k3, hq]; exact h.d2, by rw [k1, k2]; exact h.alive, by rw [hq]; exact h.big⟩

theorem CInv.of_same {s t : St α} (h : CInv A S m kk k u nV N s) (hc : t.cands = s.cands) (hb : t.ballots = s.ballots)
    (hq : t.quota = s.quota) : CInv A S m kk k u nV N t :=
  h.of_skel A (congrArg (List.map Cand.skel) hc) hb hq

theorem CInv.logAct {s : St α} (h : CInv A S m kk k u nV N s) (tag verb : String) (subj : List Nat) :
    CInv A S m kk k u nV N (s.logAct A tag verb subj) :=
  h.of_same A (logAct_cands A s tag verb subj) (logAct_ballots A s tag verb subj) (logAct_quota A s tag verb subj)

theorem CInv.newRound {s : St α} (h : CInv A S m kk k u nV N s) : CInv A S m kk k u nV N (s.newRound A) := by
  unfold St.newRound
  exact (h.of_same A (t := { s with round := s.round + 1 }) rfl rfl rfl).logAct A _ _ _

theorem CInv.setSurplus {s : St α} (h : CInv A S m kk k u nV N s) (v : α) : CInv A S m kk k u nV N (s.setSurplus v) :=
  h.of_same A rfl rfl rfl

theorem CInv.breakTie {s : St α} (h : CInv A S m kk k u nV N s) (tied : List (Cand α)) (verb : String) :
    CInv A S m kk k u nV N (Droop.breakTie A s tied verb).1 := by
  obtain ⟨e1, e2, _, e4, _⟩ := breakTie_frame A s tied verb
  exact h.of_same A e1 e2 e4

theorem CInv.scotBreakTie {s : St α} (h : CInv A S m kk k u nV N s) (tied : List (Cand α)) (lowest : Bool) (reason : String) :
    CInv A S m kk k u nV N (Droop.scotBreakTie A s tied lowest reason).1 := by
  obtain ⟨e1, e2, _, e4, _⟩ := scotBreakTie_frame A s tied lowest reason
  exact h.of_same A e1 e2 e4

theorem cnt_upd (p : Cand α → Bool) {s : St α} (hwf : s.WF) (a : Cand α) (ha : a ∈ s.cands) (f : Cand α → Cand α) :
    ((s.upd a.cid f).cands.filter p).length + (if p a then 1 else 0)
      = (s.cands.filter p).length + (if p (f a) then 1 else 0) := by
  unfold St.upd
  exact count_upd_unique p s.cands a f hwf ha

theorem countsS_elect {s : St α} (hwf : s.WF) (w : Cand α) (hw : w ∈ s.cands) (hh : w.st = .hopeful) (verb : String) (pd : Bool) :
    hopS S (s.elect A w.cid verb pd) + (if S.contains w.cid = true then 1 else 0) = hopS S s
    ∧ elS S (s.elect A w.cid verb pd) = elS S s + (if S.contains w.cid = true then 1 else 0)
    ∧ doneS S (s.elect A w.cid verb pd) = doneS S s + (if (S.contains w.cid && !pd) = true then 1 else 0) := by
  have hc : (s.elect A w.cid verb pd).cands = (s.upd w.cid (fun c => { c with st := .elected, pending := pd })).cands := by
    unfold St.elect; rw [logAct_cands]
  have c1 := cnt_upd (fun c => S.contains c.cid && c.st == .hopeful) hwf w hw (fun c => { c with st := .elected, pending := pd })
  have c2 := cnt_upd (fun c => S.contains c.cid && c.st == .elected) hwf w hw (fun c => { c with st := .elected, pending := pd })
  have c3 := cnt_upd (fun c => S.contains c.cid && (c.st == .elected && !c.pending)) hwf w hw
    (fun c => { c with st := .elected, pending := pd })
  have t1 : (CState.hopeful == CState.hopeful) = true := rfl
  have t2 : (CState.elected == CState.hopeful) = false := rfl
  have t3 : (CState.elected == CState.elected) = true := rfl
  have t4 : (CState.hopeful == CState.elected) = false := rfl
  simp only [hh, t1, t2, t3, t4, Bool.and_true, Bool.and_false, Bool.true_and, Bool.false_and, Bool.false_eq_true,
    if_false] at c1 c2 c3
  unfold hopS elS doneS
  rw [hc]
  exact ⟨by omega, by omega, by omega⟩

theorem countsS_defeat {s : St α} (hwf : s.WF) (w : Cand α) (hw : w ∈ s.cands) (hh : w.st = .hopeful) (verb : String) :
    hopS S (s.defeat A w.cid verb) + (if S.contains w.cid = true then 1 else 0) = hopS S s
    ∧ elS S (s.defeat A w.cid verb) = elS S s ∧ doneS S (s.defeat A w.cid verb) = doneS S s := by
  have hc : (s.defeat A w.cid verb).cands = (s.upd w.cid (fun c => { c with st := .defeated })).cands := by
    unfold St.defeat; rw [logAct_cands]
  have c1 := cnt_upd (fun c => S.contains c.cid && c.st == .hopeful) hwf w hw (fun c => { c with st := .defeated })
  have c2 := cnt_upd (fun c => S.contains c.cid && c.st == .elected) hwf w hw (fun c => { c with st := .defeated })
  have c3 := cnt_upd (fun c => S.contains c.cid && (c.st == .elected && !c.pending)) hwf w hw (fun c => { c with st := .defeated })
  have t1 : (CState.hopeful == CState.hopeful) = true := rfl
  have t2 : (CState.defeated == CState.hopeful) = false := rfl
  have t3 : (CState.defeated == CState.elected) = false := rfl
  have t4 : (CState.hopeful == CState.elected) = false := rfl
  simp only [hh, t1, t2, t3, t4, Bool.and_true, Bool.and_false, Bool.false_and, Bool.false_eq_true, if_false] at c1 c2 c3
  unfold hopS elS doneS
  rw [hc]
  exact ⟨by omega, by omega, by omega⟩

theorem countsS_unpendLog {s : St α} (hwf : s.WF) (w : Cand α) (hw : w ∈ s.cands) (he : w.st = .elected)
    (hp : w.pending = true) (verb : String) :
    hopS S (s.unpendLog A w.cid verb) = hopS S s ∧ elS S (s.unpendLog A w.cid verb) = elS S s
    ∧ doneS S (s.unpendLog A w.cid verb) = doneS S s + (if S.contains w.cid = true then 1 else 0) := by
  have hc : (s.unpendLog A w.cid verb).cands = (s.upd w.cid (fun c => { c with pending := false })).cands := by
    unfold St.unpendLog; rw [logAct_cands]
  have c1 := cnt_upd (fun c => S.contains c.cid && c.st == .hopeful) hwf w hw (fun c => { c with pending := false })
  have c2 := cnt_upd (fun c => S.contains c.cid && c.st == .elected) hwf w hw (fun c => { c with pending := false })
  have c3 := cnt_upd (fun c => S.contains c.cid && (c.st == .elected && !c.pending)) hwf w hw (fun c => { c with pending := false })
  have t3 : (CState.elected == CState.elected) = true := rfl
  simp only [he, hp, t3, Bool.not_true, Bool.not_false, Bool.and_true, Bool.and_false, Bool.false_eq_true,
    if_false] at c1 c2 c3
  unfold hopS elS doneS
  rw [hc]
  exact ⟨by omega, by omega, by omega⟩

theorem isHopeful_upd_sub (s : St α) (cid : Nat) (f : Cand α → Cand α) (hcid : ∀ x, (f x).cid = x.cid)
    (hf : ∀ x, (f x).st = .hopeful → x.st = .hopeful) (c : Nat) (h : (s.upd cid f).isHopeful c = true) :
    s.isHopeful c = true := by
  obtain ⟨y, hy, hy1, hy2⟩ := isHopeful_iff.1 h
  obtain ⟨x, hx, ⟨_, e⟩ | ⟨_, e⟩⟩ := mem_upd_cases.1 hy
  · rw [e] at hy1 hy2
    exact isHopeful_iff.2 ⟨x, hx, (hcid x).symm.trans hy1, hf x hy2⟩
  · rw [e] at hy1 hy2
    exact isHopeful_iff.2 ⟨x, hx, hy1, hy2⟩

theorem Pos.upd {s : St α} (h : Pos s) (cid : Nat) (f : Cand α → Cand α) (hcid : ∀ x, (f x).cid = x.cid)
    (hf : ∀ x, (f x).st = .hopeful → x.st = .hopeful) : Pos (s.upd cid f) :=
  h.of_sub rfl (isHopeful_upd_sub s cid f hcid hf)

theorem CInv.elect {s : St α} (h : CInv A S m kk k u nV N s) (hI : Inv A s) (w : Cand α)
    (hw : w ∈ s.cands) (hh : w.st = .hopeful) (verb : String) :
    CInv A S m kk k u nV N (s.elect A w.cid verb true) := by
  obtain ⟨e1, e2, e3⟩ := countsS_elect (S := S) A hI.wf w hw hh verb true
  rw [Bool.not_true, Bool.and_false, if_neg Bool.false_ne_true, Nat.add_zero] at e3
  have hsk : (s.elect A w.cid verb true).skel = (s.upd w.cid (fun c => { c with st := .elected, pending := true })).skel := by
    unfold St.elect St.skel; rw [logAct_cands]
  have hb : (s.elect A w.cid verb true).ballots = s.ballots := by unfold St.elect; rw [logAct_ballots]; rfl
  refine ⟨(h.pos.upd w.cid (fun c => { c with st := .elected, pending := true }) (fun _ => rfl) (fun _ hx => nomatch hx)).of_skel hb hsk,
    (h.rest.upd_keep w.cid (fun c => { c with st := .elected, pending := true }) (fun _ => rfl)
      (fun _ _ _ => Or.inr ⟨rfl, rfl⟩)).of_skel hb hsk,
    (Vmult_congr S m hb).trans h.vm, ?_, ?_, ?_, ?_⟩
  · rw [(countsS_of_skel (S := S) hsk).2.2.2, ← h.len]
    exact List.length_map _
  · intro h1
    rw [Vval_congr A S m hb, e3, ((stepRel_frame A).elect s w.cid verb true).1]
    exact h.d2 (by omega)
  · have := h.alive
    omega
  · rw [((stepRel_frame A).elect s w.cid verb true).1]; exact h.big

theorem CInv.foldElect (hA : LawfulArith A) {s : St α} (h : CInv A S m kk k u nV N s) (hI : Inv A s) (ws : List (Cand α))
    (verb : Cand α → String) (hnd : (ws.map (·.cid)).Nodup)
    (hw : ∀ w ∈ ws, w ∈ s.cands ∧ w.st = .hopeful ∧ s.quota ≤ w.vote) :
    CInv A S m kk k u nV N (ws.foldl (fun acc c => acc.elect A c.cid (verb c) true) s) := by
  induction ws generalizing s with
  | nil => exact h
  | cons w ws ih =>
    simp only [List.foldl_cons]
    simp only [List.map_cons, List.nodup_cons, List.mem_map, not_exists, not_and] at hnd
    have hI1 : Inv A (s.elect A w.cid (verb w) true) :=
      hI.elect A w.cid _ true
        (fun c hc hcid => by
          have : c = w := nodup_cid_eq hI.wf hc (hw w (by simp)).1 hcid
          rw [this]; exact (hw w (by simp)).2.1)
        (fun c hc hcid _ => by
          have : c = w := nodup_cid_eq hI.wf hc (hw w (by simp)).1 hcid
          rw [this]; exact (hw w (by simp)).2.2)
    apply ih (h.elect A hI w (hw w (by simp)).1 (hw w (by simp)).2.1 _) hI1 hnd.2
    intro w' hw'
    obtain ⟨hc', hh', hq'⟩ := hw w' (by simp [hw'])
    have hne : w'.cid ≠ w.cid := fun e => hnd.1 w' hw' e
    refine ⟨mem_elect_of_ne A hc' w.cid _ true hne, hh', ?_⟩
    unfold St.elect; rw [logAct_quota]; exact hq'

/-! Both transfers have the same shape: the status of `cid` changes (`s1`, from `s` by an update `g` that makes nobody
hopeful), then `transferAll` moves the papers resting on `cid`.  What is left to each is the value of the coalition's
ballots (`hd2`) and the count of its members (`halive`). -/

theorem CInv.moveOne {s s1 : St α} (h : CInv A S m kk k u nV N s) (cid : Nat) (g : Cand α → Cand α)
    (hgc : ∀ x, (g x).cid = x.cid) (hgh : ∀ x, (g x).st = .hopeful → x.st = .hopeful)
    (hc1 : s1.cands = (s.upd cid g).cands) (hb1 : s1.ballots = s.ballots) (hq1 : s1.quota = s.quota) (rew : α → α)
    (hd2 : 1 ≤ hopS S s1 →
      nV * A.one ≤ Vval A S m (transferAll A s1 [cid] rew) + (doneS S s1 : α) * (s.quota + u * nV))
    (halive : kk ≤ hopS S s1 + elS S s1) :
    CInv A S m kk k u nV N (transferAll A s1 [cid] rew) := by
  have hsk1 : s1.skel = (s.upd cid g).skel := congrArg (List.map Cand.skel) hc1
  have p1 : Pos s1 := (h.pos.upd cid g hgc hgh).of_skel hb1 hsk1
  have r1 : RestX s1 [cid] := ((h.rest.upd cid g).weaken (fun c hc => by simpa using hc)).of_skel hb1 hsk1
  have hsk := transferAll_skel A s1 [cid] rew
  have hq := transferAll_quota A s1 [cid] rew
  obtain ⟨k1, k2, k3, k4⟩ := countsS_of_skel (S := S) hsk
  refine ⟨p1.transferAll A [cid] rew, r1.transferAll A rew,
    ((Vmult_transferAll A S m s1 [cid] rew).trans (Vmult_congr S m hb1)).trans h.vm, ?_, ?_, ?_, ?_⟩
  · rw [k4, hc1, ← h.len]
    exact List.length_map _
  · rw [k1, k3, hq, hq1]
    exact hd2
  · rw [k1, k2]
    exact halive
  · rw [hq, hq1]
    exact h.big

theorem CInv.setVote {s : St α} (h : CInv A S m kk k u nV N s) (cid : Nat) (v : α) : CInv A S m kk k u nV N (s.setVote cid v) :=
  h.of_skel A (upd_vote_skel s cid (fun _ => v)) rfl rfl

/-- `c.unpend(msg)` of an elected candidate followed by the transfer of its surplus -/
theorem CInv.unpendTransfer (hA : LawfulArith A) (hu : 0 ≤ u) (rew0 : α → α → α → α) (hlow : RewLower A u rew0)
    {s : St α} (h : CInv A S m kk k u nV N s) (hI : Inv A s) (hq1 : A.one ≤ s.quota)
    (hc : Cand α) (hcs : hc ∈ s.cands) (hce : hc.st = .elected) (hcp : hc.pending = true) (verb1 verb2 : String) :
    CInv A S m kk k u nV N (Droop.transferSurplus A (s.unpendLog A hc.cid verb1) hc rew0 verb2) := by
  obtain ⟨e1, e2, e3⟩ := countsS_unpendLog (S := S) A hI.wf hc hcs hce hcp verb1
  have s1c : (s.unpendLog A hc.cid verb1).cands = (s.upd hc.cid (fun c => { c with pending := false })).cands := by
    unfold St.unpendLog; rw [logAct_cands]
  have s1b : (s.unpendLog A hc.cid verb1).ballots = s.ballots := by unfold St.unpendLog; rw [logAct_ballots]; rfl
  have s1q : (s.unpendLog A hc.cid verb1).quota = s.quota := ((stepRel_frame A).unpendLog s hc.cid verb1).1
  unfold Droop.transferSurplus
  apply CInv.logAct
  apply CInv.setVote
  apply h.moveOne A hc.cid (fun c => { c with pending := false }) (fun _ => rfl) (fun _ hx => hx) s1c s1b s1q
  · intro hh
    rw [e1] at hh
    have hD := h.d2 hh
    rw [e3, s1q, hA.sub_eq]
    by_cases hS : S.contains hc.cid = true
    · -- a member's surplus: the coalition's papers on it are worth at most its tally
      have hqv : s.quota ≤ hc.vote := hI.pq hc hcs hce hcp
      have hX : ((s.unpendLog A hc.cid verb1).ballots.map (fun b =>
          if isVb S m b.rank && (b.top == some hc.cid) then b.w * ((b.mult : Int) : α) else 0)).sum ≤ hc.vote := by
        rw [hI.i1 hc hcs (Or.inr ⟨hce, hcp⟩), tally_explicit A hA, s1b]
        apply sum_le_sum'
        intro b hb
        by_cases ht : b.top = some hc.cid
        · rw [ht, beq_self_eq_true, Bool.and_true, if_pos rfl]
          split
          · exact le_refl _
          · exact mul_nonneg (hI.wpos b hb) (by exact_mod_cast Nat.zero_le _)
        · rw [beq_eq_false_iff_ne.2 ht, Bool.and_false, if_neg Bool.false_ne_true, if_neg ht]
      have hb := Vval_surplus A S m hA u hu rew0 hlow (s.unpendLog A hc.cid verb1) hc.cid (hc.vote - s.quota) hc.vote
        (sub_nonneg.2 hqv) (by linarith [hI.qpos]) (le_trans hq1 hqv) (fun b hb => hI.wpos b (by rw [← s1b]; exact hb)) hX
      rw [Vval_congr A S m s1b, Vmult_congr S m s1b, h.vm] at hb
      rw [if_pos hS]
      push_cast
      linarith
    · -- somebody else's surplus: while a member is hopeful no coalition paper rests there
      rw [if_neg hS, Nat.add_zero]
      obtain ⟨x, hxS, hxh⟩ := exists_hopeful_of_hopS hh
      rw [Vval_transferAll_disjoint A S m hA, Vval_congr A S m s1b]
      · exact hD
      · intro b hb hv d hd
        obtain ⟨c0, hc0, hc0S⟩ := top_in_S S m h.pos b (by rw [← s1b]; exact hb) hv x hxS hxh
        have hdc : d = c0 := Option.some.inj (hd.symm.trans hc0)
        have hne : d ≠ hc.cid := fun e => hS (by rw [← e, hdc]; simpa using hc0S)
        simp [hne]
  · rw [e1, e2]
    exact h.alive

/-- `c.defeat(msg)` of a hopeful candidate followed by the transfer of its papers at unchanged value; if the candidate
    belongs to the coalition, more than `k` of its members must still be hopeful or elected -/
theorem CInv.defeatTransfer1 (hA : LawfulArith A) {s : St α} (h : CInv A S m kk k u nV N s) (hI : Inv A s) (hkk : kk ≤ k)
    (lc : Cand α) (hlc : lc ∈ s.hopeful) (hsafe : S.contains lc.cid = true → k < hopS S s + elS S s) (verbD verbT : String) :
    CInv A S m kk k u nV N (transferDefeated A (s.defeat A lc.cid verbD) [lc.cid] verbT) := by
  obtain ⟨hcs, hch⟩ := mem_hopeful.1 hlc
  obtain ⟨e1, e2, e3⟩ := countsS_defeat (S := S) A hI.wf lc hcs hch verbD
  have s1c : (s.defeat A lc.cid verbD).cands = (s.upd lc.cid (fun c => { c with st := .defeated })).cands := by
    unfold St.defeat; rw [logAct_cands]
  have s1b : (s.defeat A lc.cid verbD).ballots = s.ballots := defeat_ballots A s lc.cid verbD
  have s1q : (s.defeat A lc.cid verbD).quota = s.quota := ((stepRel_frame A).defeat s lc.cid verbD).1
  unfold transferDefeated
  apply CInv.logAct
  apply CInv.setVote
  apply h.moveOne A lc.cid (fun c => { c with st := .defeated }) (fun _ => rfl) (fun _ hx => nomatch hx) s1c s1b s1q
  · intro hh
    rw [Vval_transferAll_id A S m hA, Vval_congr A S m s1b, e3]
    exact h.d2 (by omega)
  · have := h.alive
    by_cases hS : S.contains lc.cid = true
    · have := hsafe hS
      rw [if_pos hS] at e1
      omega
    · rw [if_neg hS] at e1
      omega

/-- after the election step every candidate still hopeful failed the quota test, with the tally it had before -/
theorem electWinners_rest_below (hasQ : St α → Cand α → Bool) (pend : St α → Cand α → Bool) (verb : St α → Cand α → String)
    {s : St α} (hwf : s.WF) :
    ∀ c ∈ (electWinners A hasQ pend verb s).hopeful, c ∈ s.hopeful ∧ hasQ s c = false := by
  unfold electWinners
  -- general statement about folding `elect` over a list of candidates of `s`
  have key : ∀ (ws : List (Cand α)) (t : St α), (∀ c ∈ t.hopeful, c ∈ s.hopeful ∧ (c ∈ ws ∨ hasQ s c = false)) →
      (∀ w ∈ ws, w ∈ s.hopeful) →
      ∀ c ∈ (ws.foldl (fun acc c => acc.elect A c.cid (verb s c) (pend s c)) t).hopeful, c ∈ s.hopeful ∧ hasQ s c = false := by
    intro ws
    induction ws with
    | nil =>
      intro t ht _ c hc
      obtain ⟨h1, h2⟩ := ht c hc
      rcases h2 with h2 | h2
      · cases h2
      · exact ⟨h1, h2⟩
    | cons w ws ih =>
      intro t ht hws c hc
      simp only [List.foldl_cons] at hc
      apply ih (t.elect A w.cid (verb s w) (pend s w)) ?_ (fun x hx => hws x (by simp [hx])) c hc
      intro c' hc'
      -- hopeful after electing `w`: hopeful before, and not `w`
      have hc'' := mem_hopeful.1 hc'
      unfold St.elect at hc''
      rw [logAct_cands] at hc''
      obtain ⟨x, hx, ⟨_, hxe⟩ | ⟨hne, hxe⟩⟩ := mem_upd_cases.1 hc''.1
      · rw [hxe] at hc''; simp at hc''
      · rw [hxe] at hc'' ⊢
        obtain ⟨h1, h2⟩ := ht x (mem_hopeful.2 ⟨hx, hc''.2⟩)
        refine ⟨h1, ?_⟩
        rcases h2 with h2 | h2
        · rcases List.mem_cons.1 h2 with h3 | h3
          · exact absurd (congrArg Cand.cid h3) hne
          · exact Or.inl h3
        · exact Or.inr h2
  apply key
  · intro c hc
    refine ⟨hc, ?_⟩
    by_cases hq : hasQ s c = true
    · left; rw [List.mem_filter]; exact ⟨(mem_pySorted _ _ _ _).2 hc, hq⟩
    · right; simpa using hq
  · intro w hw
    rw [List.mem_filter] at hw
    exact (mem_pySorted _ _ _ _).1 hw.1

/-- the election step of scotland and wigm: the hopeful candidates that pass a sound quota test are elected, their
    transfers pending; whoever stays hopeful failed a complete one -/
theorem CInv.electWinners (hA : LawfulArith A) (hasQ : St α → Cand α → Bool) (verb : St α → Cand α → String) {s : St α}
    (hsound : ∀ c, hasQ s c = true → s.quota ≤ c.vote) (hcomplete : ∀ c, hasQ s c = false → c.vote ≤ s.quota)
    (h : CInv A S m kk k u nV N s) (hI : Inv A s) :
    CInv A S m kk k u nV N (electWinners A hasQ (fun _ _ => true) verb s)
    ∧ ∀ c ∈ (electWinners A hasQ (fun _ _ => true) verb s).hopeful,
        c.vote ≤ (electWinners A hasQ (fun _ _ => true) verb s).quota := by
  obtain ⟨hnd, hw⟩ := electWinners_list A hasQ hI.wf hsound
  refine ⟨h.foldElect A hA hI _ _ hnd hw, fun c hc => ?_⟩
  rw [((stepRel_frame A).electWinners _ _ _ s).1]
  exact hcomplete c (electWinners_rest_below A hasQ _ verb hI.wf c hc).2

theorem hopS_pos_of_mem {s : St α} {c : Cand α} (hc : c ∈ s.hopeful) (hS : S.contains c.cid = true) : 1 ≤ hopS S s :=
  List.length_pos_of_mem (List.mem_filter.2 ⟨(mem_hopeful.1 hc).1, by rw [hS, (mem_hopeful.1 hc).2]; rfl⟩)

theorem CInv.safe (hA : LawfulArith A) (hu : 0 ≤ u) {s : St α} (h : CInv A S m kk k u nV N s) (hI : Inv A s)
    (hpend : s.pendingL = []) (hbelow : ∀ c ∈ s.hopeful, c.vote ≤ s.quota) (lc : Cand α) (hlc : lc ∈ s.hopeful) :
    S.contains lc.cid = true → k < hopS S s + elS S s := by
  intro hS
  have hh := hopS_pos_of_mem (S := S) hlc hS
  have hD := h.d2 hh
  have hb := h.big
  rw [← h.vm] at hD hb
  rw [← h.len] at hb
  exact alive_gt A S m hA u hu hI h.pos h.rest hpend hbelow hh k hD hb

/-! In the two steps after a tie-break `s3` is what the tie-break leaves: `s` with, at most, one more entry in the record. -/

theorem CInv.surplusPicked (hA : LawfulArith A) (hu : 0 ≤ u) (rew0 : α → α → α → α) (hlow : RewLower A u rew0)
    {s s3 : St α} (h : CInv A S m kk k u nV N s) (hc3 : s3.cands = s.cands) (hb3 : s3.ballots = s.ballots)
    (hq3 : s3.quota = s.quota) (hI3 : Inv A s3) (hq1 : A.one ≤ s.quota) (hc : Cand α) (hm : hc ∈ s.pendingL)
    (verb1 verb2 : String) :
    CInv A S m kk k u nV N (Droop.transferSurplus A (s3.unpendLog A hc.cid verb1) hc rew0 verb2) := by
  obtain ⟨hcs, hce, hcp⟩ := mem_pendingL.1 hm
  exact CInv.unpendTransfer A hA hu rew0 hlow (h.of_same A hc3 hb3 hq3) hI3 (by rw [hq3]; exact hq1) hc
    (by rw [hc3]; exact hcs) hce hcp _ _

/-- a lowest candidate is excluded in a round with no surplus pending and nobody hopeful above the quota -/
theorem CInv.defeatPicked (hA : LawfulArith A) (hu : 0 ≤ u) (hkk : kk ≤ k)
    {s s3 : St α} (h : CInv A S m kk k u nV N s) (hc3 : s3.cands = s.cands) (hb3 : s3.ballots = s.ballots)
    (hq3 : s3.quota = s.quota) (hI3 : Inv A s3) (hpend : s.pendingL = []) (hbelow : ∀ c ∈ s.hopeful, c.vote ≤ s.quota)
    (lc : Cand α) (hm : lc ∈ s.hopeful) (verbD verbT : String) :
    CInv A S m kk k u nV N (transferDefeated A (s3.defeat A lc.cid verbD) [lc.cid] verbT) := by
  have hp3 : s3.pendingL = s.pendingL := by unfold St.pendingL; rw [hc3]
  have hh3 : s3.hopeful = s.hopeful := by unfold St.hopeful; rw [hc3]
  have h3 := h.of_same A hc3 hb3 hq3
  have hlc : lc ∈ s3.hopeful := by rw [hh3]; exact hm
  exact CInv.defeatTransfer1 A hA h3 hI3 hkk lc hlc
    (CInv.safe A hA hu h3 hI3 (hp3.trans hpend) (fun c hc => by rw [hq3]; exact hbelow c (hh3 ▸ hc)) lc hlc) _ _

/-- the quota tests are complete: a failed test means the tally does not exceed the quota -/
def QuotaComplete : Prop := (∀ a b : α, A.ge a b = false → a ≤ b) ∧ (∀ a b : α, A.gt a b = false → a ≤ b)

theorem WF_upd {s : St α} (hwf : s.WF) (cid : Nat) (f : Cand α → Cand α) (hcid : ∀ x, (f x).cid = x.cid) : (s.upd cid f).WF :=
  WF_of_reach (reach_upd s cid f hcid) hwf

theorem cnt_upd_keep (p : Cand α → Bool) (s : St α) (cid : Nat) (f : Cand α → Cand α)
    (h : ∀ c, p (if c.cid == cid then f c else c) = p c) :
    ((s.upd cid f).cands.filter p).length = (s.cands.filter p).length := by
  unfold St.upd
  rw [List.filter_map, List.length_map]
  congr 1
  apply List.filter_congr
  intro c _
  exact h c

theorem countsS_unpendSilent (s : St α) (cid : Nat) :
    hopS S (s.unpendSilent cid) = hopS S s ∧ elS S (s.unpendSilent cid) = elS S s := by
  unfold St.unpendSilent hopS elS
  refine ⟨cnt_upd_keep _ s cid _ ?_, cnt_upd_keep _ s cid _ ?_⟩ <;> intro c <;> split <;> rfl

theorem countsS_foldUnpend (l : List (Cand α)) (s : St α) :
    hopS S (l.foldl (fun acc c => acc.unpendSilent c.cid) s) = hopS S s
    ∧ elS S (l.foldl (fun acc c => acc.unpendSilent c.cid) s) = elS S s := by
  induction l generalizing s with
  | nil => exact ⟨rfl, rfl⟩
  | cons c cs ih =>
    simp only [List.foldl_cons]
    obtain ⟨a, b⟩ := ih (s.unpendSilent c.cid)
    obtain ⟨a', b'⟩ := countsS_unpendSilent (S := S) s c.cid
    exact ⟨a.trans a', b.trans b'⟩

theorem WF_elect {s : St α} (hwf : s.WF) (cid : Nat) (verb : String) (p : Bool) : (s.elect A cid verb p).WF :=
  WF_of_reach ((stepRel_reach A).elect s cid verb p) hwf
theorem WF_defeat {s : St α} (hwf : s.WF) (cid : Nat) (verb : String) : (s.defeat A cid verb).WF :=
  WF_of_reach ((stepRel_reach A).defeat s cid verb) hwf

/-- electing a list of distinct hopeful candidates: the coalition keeps its hopeful-plus-elected count, nobody is un-elected -/
theorem countsS_foldElect {s : St α} (hwf : s.WF) (ws : List (Cand α)) (verb : String) (pd : Bool)
    (hnd : (ws.map (·.cid)).Nodup) (hw : ∀ w ∈ ws, w ∈ s.cands ∧ w.st = .hopeful) :
    hopS S (ws.foldl (fun acc c => acc.elect A c.cid verb pd) s) + elS S (ws.foldl (fun acc c => acc.elect A c.cid verb pd) s)
      = hopS S s + elS S s
    ∧ elS S s ≤ elS S (ws.foldl (fun acc c => acc.elect A c.cid verb pd) s) := by
  have := foldl_hopefuls (fun _ t => t.WF ∧ hopS S t + elS S t = hopS S s + elS S s ∧ elS S s ≤ elS S t)
    (fun acc c => acc.elect A c.cid verb pd)
    (by
      intro n t w hP hwm hwh
      obtain ⟨hwf', a, b⟩ := hP
      obtain ⟨c1, c2, _⟩ := countsS_elect (S := S) A hwf' w hwm hwh verb pd
      exact ⟨⟨WF_elect A hwf' _ _ _, by omega, by omega⟩, fun c hc' hne => mem_elect_of_ne A hc' _ _ _ hne⟩)
    ws hnd hw ⟨hwf, rfl, Nat.le_refl _⟩
  exact ⟨this.2.1, this.2.2⟩

/-- defeating a list of distinct hopeful candidates leaves the coalition's elected members elected -/
theorem countsS_foldDefeat {s : St α} (hwf : s.WF) (ws : List (Cand α)) (verb : String)
    (hnd : (ws.map (·.cid)).Nodup) (hw : ∀ w ∈ ws, w ∈ s.cands ∧ w.st = .hopeful) :
    elS S (ws.foldl (fun acc c => acc.defeat A c.cid verb) s) = elS S s := by
  have := foldl_hopefuls (fun _ t => t.WF ∧ elS S t = elS S s)
    (fun acc c => acc.defeat A c.cid verb)
    (by
      intro n t w hP hwm hwh
      obtain ⟨hwf', a⟩ := hP
      obtain ⟨_, c2, _⟩ := countsS_defeat (S := S) A hwf' w hwm hwh verb
      exact ⟨⟨WF_defeat A hwf' _ _, by omega⟩, fun c hc' hne => mem_defeat_of_ne A hc' _ _ hne⟩)
    ws hnd hw ⟨hwf, rfl⟩
  exact this.2

theorem hopS_le_nHop (s : St α) : hopS S s ≤ nHop s := by
  unfold hopS nHop St.hopeful
  apply length_filter_le_of_imp
  intro c _ h
  simp only [Bool.and_eq_true] at h
  exact h.2

/-- what the coalition argument needs about the state a Gregory count starts in -/
structure CStart (S : List Nat) (m : Nat) (kk k : Nat) (u : α) (q : α) (s0 : St α) : Prop where
  tops : ∀ b ∈ s0.ballots, ∀ c, b.top = some c → s0.isHopeful c = true
  idx0 : ∀ b ∈ s0.ballots, b.idx = 0 ∧ b.w = A.one
  noEl : ∀ c ∈ s0.cands, c.st ≠ .elected
  kk_le : kk ≤ k
  alive : kk ≤ hopS S s0
  q1 : A.one ≤ q
  big : (k : α) * q + (s0.cands.length : α) * (u * Vmult S m s0) < Vmult S m s0 * A.one

theorem CInv.gInit (hA : LawfulArith A) (q : α) {s0 : St α} (h : CStart A S m kk k u q s0) :
    CInv A S m kk k u (Vmult S m s0) s0.cands.length (Droop.gInit A q s0) := by
  obtain ⟨hsk, _, _, hq, _, _, _⟩ := gInit_facts A q s0
  have hb : (Droop.gInit A q s0).ballots = s0.ballots := gInit_ballots A q s0
  obtain ⟨k1, k2, k3, k4⟩ := countsS_of_skel (S := S) hsk
  have hd0 : doneS S s0 = 0 := by
    unfold doneS
    rw [List.length_eq_zero_iff, List.filter_eq_nil_iff]
    intro c hc hcc
    simp only [Bool.and_eq_true, beq_iff_eq] at hcc
    exact h.noEl c hc hcc.2.1
  refine ⟨?_, ?_, by unfold Vmult; rw [hb], k4, ?_, by rw [k1]; have := h.alive; omega, by rw [hq]; exact h.big⟩
  · intro b hbm j c hj _
    rw [hb] at hbm
    have := (h.idx0 b hbm).1
    omega
  · intro b hbm c hc
    rw [hb] at hbm
    left
    apply inScopeId_of_skel hsk
    exact inScopeId_of_hopeful (h.tops b hbm c hc)
  · intro _
    rw [k3, hd0]
    have : Vval A S m (Droop.gInit A q s0) = Vmult S m s0 * A.one := by
      rw [Vval_eq A S m hA, hb]
      unfold Vmult
      have key : ∀ l : List (Ballot α), (∀ b ∈ l, b.w = A.one) →
          (l.map (fun b => if isVb S m b.rank then b.w * ((b.mult : Int) : α) else 0)).sum
            = (l.map (fun b => if isVb S m b.rank then ((b.mult : Int) : α) else 0)).sum * A.one := by
        intro l
        induction l with
        | nil => intro _; simp
        | cons b bs ih =>
          intro hl
          simp only [List.map_cons, List.sum_cons, add_mul]
          rw [ih (fun b' hb' => hl b' (by simp [hb']))]
          congr 1
          split
          · rw [hl b (by simp)]; ring
          · ring
      exact key s0.ballots (fun b hb' => (h.idx0 b hb').2)
    rw [this]; simp

theorem CInv.full (hA : LawfulArith A) (hu : 0 ≤ u) {s : St α} (h : CInv A S m kk k u nV N s) (hI : Inv A s)
    (hE : ElectedHoldQuota s) (hD : DroopQuota A s) (hkk : kk ≤ k) (hfull : s.seats ≤ nEl s) : kk ≤ elS S s := by
  by_cases hh : 1 ≤ hopS S s
  · have hD2 := h.d2 hh
    have hb := h.big
    rw [← h.vm] at hD2 hb
    rw [← h.len] at hb
    have := elS_ge_of_full A S m hA u hu hI hE hD h.pos h.rest hh k hD2 hb hfull
    omega
  · have := h.alive; omega

/-- a main loop started from `gInit` whose rounds keep the round invariant, the coalition bundle and the quota: in the state
    it returns, `kk` coalition members are hopeful or elected, and `kk` are elected if the seats are all taken -/
theorem CInv.loop (hA : LawfulArith A) (hu : 0 ≤ u) {q : α} {s0 s4 : St α} (hc : CStart A S m kk k u q s0)
    (hG : GInv A (Droop.gInit A q s0)) (guard : St α → Bool) (body : St α → St α × Flow) (fuel : Nat)
    (hstep : ∀ s, GInv A s → CInv A S m kk k u (Vmult S m s0) s0.cands.length s → A.one ≤ s.quota → guard s = true →
      GInv A (body s).1 ∧ CInv A S m kk k u (Vmult S m s0) s0.cands.length (body s).1 ∧ (body s).1.quota = s.quota)
    (hl : loopN guard body fuel (Droop.gInit A q s0) = some s4) :
    Good A s4 ∧ kk ≤ hopS S s4 + elS S s4 ∧ (s4.seats ≤ nEl s4 → kk ≤ elS S s4) := by
  obtain ⟨⟨hE, hM, hD, _⟩, hC4, _⟩ := loopN_preserves_guard
    (fun s => GInv A s ∧ CInv A S m kk k u (Vmult S m s0) s0.cands.length s ∧ A.one ≤ s.quota) guard body
    (fun s hs hg => by
      obtain ⟨a, b, e⟩ := hstep s hs.1 hs.2.1 hs.2.2 hg
      exact ⟨a, b, by rw [e]; exact hs.2.2⟩)
    fuel _ s4 ⟨hG, CInv.gInit A hA q hc, by rw [(gInit_facts A q s0).2.2.2.1]; exact hc.q1⟩ hl
  exact ⟨⟨hE.1, hM⟩, hC4.alive, hC4.full A hA hu hE.1 hE.2 hD hc.kk_le⟩

end Droop
