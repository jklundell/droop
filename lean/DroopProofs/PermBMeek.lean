import DroopProofs.MeekComm
import DroopProofs.PermBMore

/-! # C10 for the Meek family: the order of the ballot lines does not matter (meek, warren; strict rankings)

A Meek distribution is a fold over the ballot list; one ballot credits a rounded share to each candidate it passes and the rest
to the residual.  What a ballot credits depends on the state only through the keep factors, which no credit changes; credits are
additions, additions commute.  So a ballot's step commutes with any state transformer `g` that commutes with `addVote`, keeps the keep
factors and commutes with a residual increment (`Blind`): another credit, a residual increment, another ballot's step (two ballots
commute), the rearrangement of the ballot list itself (the step does not care how the list is stored). -/
namespace Droop
variable {α : Type} [CommRing α] [LinearOrder α] [IsStrictOrderedRing α] (A : Arith α)

theorem kfOf_addVote (st : St α) (c : Nat) (v : α) (c' : Nat) : kfOf (st.addVote A c v) c' = kfOf st c' := by
  unfold kfOf St.cand? St.addVote St.upd
  simp only [List.find?_map]
  have hp : ((fun x : Cand α => x.cid == c') ∘ fun x : Cand α => if (x.cid == c) = true then { x with vote := A.add x.vote v } else x)
      = fun x : Cand α => x.cid == c' := by
    funext x; simp only [Function.comp]; split <;> rfl
  rw [hp]
  cases List.find? (fun x : Cand α => x.cid == c') st.cands with
  | none => rfl
  | some x => simp only [Option.map_some]; split <;> rfl

/-- a state transformer a ballot's step cannot tell apart from the identity -/
structure Blind (g : St α → St α) : Prop where
  add : ∀ (st : St α) (c : Nat) (v : α), g (st.addVote A c v) = (g st).addVote A c v
  kf : ∀ (st : St α) (c : Nat), kfOf (g st) c = kfOf st c
  res : ∀ (st : St α) (x : α), g { st with residual := A.add st.residual x } = { g st with residual := A.add (g st).residual x }

theorem genRankStep_blind {g : St α → St α} (hg : Blind A g) (keep : α → α → α × α) (mult : α) (a : St α × α × α × Bool)
    (cid : Nat) :
    genRankStep A keep mult (g a.1, a.2) cid = (g (genRankStep A keep mult a cid).1, (genRankStep A keep mult a cid).2) := by
  unfold genRankStep
  simp only [hg.kf]
  by_cases hs : a.2.2.2 = true
  · simp only [hs, if_true]
  · simp only [hs, Bool.false_eq_true, if_false]
    cases kfOf a.1 cid with
    | none => rfl
    | some k =>
      simp only
      by_cases hz : A.isZero k = true
      · simp only [hz, if_true]
      · simp only [hz, Bool.false_eq_true, if_false, hg.add]

theorem genFoldRank_blind {g : St α → St α} (hg : Blind A g) (keep : α → α → α × α) (mult : α) (rank : List Nat)
    (a : St α × α × α × Bool) :
    rank.foldl (genRankStep A keep mult) (g a.1, a.2)
      = (g (rank.foldl (genRankStep A keep mult) a).1, (rank.foldl (genRankStep A keep mult) a).2) := by
  induction rank generalizing a with
  | nil => rfl
  | cons c cs ih =>
    simp only [List.foldl_cons]
    rw [genRankStep_blind A hg, ih]

theorem foldRank_blind {g : St α → St α} (hg : Blind A g) (w : Bool) (mult : α) (rank : List Nat) (a : St α × α × α × Bool) :
    rank.foldl (distRankStep A w mult) (g a.1, a.2)
      = (g (rank.foldl (distRankStep A w mult) a).1, (rank.foldl (distRankStep A w mult) a).2) := by
  rw [distRankStep_gen]
  exact genFoldRank_blind A hg _ mult rank a

theorem genBallotStep_blind {g : St α → St α} (hg : Blind A g) (keep : α → α → α × α) (s : St α) (b : Ballot α) :
    genBallotStep A keep (g s) b = g (genBallotStep A keep s b) := by
  unfold genBallotStep
  have h := genFoldRank_blind A hg keep (A.ofInt b.mult) b.rank (s, A.one, A.ofInt b.mult, false)
  simp only at h
  rw [h]
  exact (hg.res _ _).symm

theorem distBallotStep_blind {g : St α → St α} (hg : Blind A g) (w : Bool) (s : St α) (b : Ballot α) :
    distBallotStep A w (g s) b = g (distBallotStep A w s b) := by
  rw [distBallotStep_gen]
  exact genBallotStep_blind A hg _ s b

theorem blind_addVote (hA : LawfulArith A) (c : Nat) (v : α) : Blind A (fun st => st.addVote A c v) :=
  ⟨fun st c' v' => addVote_comm A hA st c' c v' v, fun st c' => kfOf_addVote A st c v c', fun _ _ => rfl⟩

theorem blind_residual (hA : LawfulArith A) (x : α) : Blind A (fun st : St α => { st with residual := A.add st.residual x }) := by
  refine ⟨fun _ _ _ => rfl, fun _ _ => rfl, fun st y => ?_⟩
  show ({ st with residual := A.add (A.add st.residual y) x } : St α) = { st with residual := A.add (A.add st.residual x) y }
  congr 1
  simp only [hA.add_eq]; ring

theorem kfOf_genRankStep (keep : α → α → α × α) (mult : α) (a : St α × α × α × Bool) (cid c : Nat) :
    kfOf (genRankStep A keep mult a cid).1 c = kfOf a.1 c := by
  unfold genRankStep
  split
  · rfl
  · split
    · split
      · rfl
      · exact kfOf_addVote A _ _ _ _
    · rfl

theorem kfOf_genFoldRank (keep : α → α → α × α) (mult : α) (rank : List Nat) (a : St α × α × α × Bool) (c : Nat) :
    kfOf (rank.foldl (genRankStep A keep mult) a).1 c = kfOf a.1 c := by
  induction rank generalizing a with
  | nil => rfl
  | cons x xs ih => simp only [List.foldl_cons]; rw [ih, kfOf_genRankStep]

theorem blind_genBallotStep (hA : LawfulArith A) (keep : α → α → α × α) (b : Ballot α) :
    Blind A (fun st => genBallotStep A keep st b) :=
  ⟨fun st c v => genBallotStep_blind A (blind_addVote A hA c v) keep st b,
   fun st c => kfOf_genFoldRank A keep (A.ofInt b.mult) b.rank (st, A.one, A.ofInt b.mult, false) c,
   fun st x => genBallotStep_blind A (blind_residual A hA x) keep st b⟩

theorem foldl_genBallotStep_perm (hA : LawfulArith A) (keep : α → α → α × α) {l l' : List (Ballot α)} (hp : l'.Perm l) (st : St α) :
    l'.foldl (genBallotStep A keep) st = l.foldl (genBallotStep A keep) st :=
  hp.foldl_eq' (fun x _ y _ z => genBallotStep_blind A (blind_genBallotStep A hA keep x) keep z y) st

theorem distBallotStep_comm (hA : LawfulArith A) (w : Bool) (s : St α) (b b' : Ballot α) :
    distBallotStep A w (distBallotStep A w s b) b' = distBallotStep A w (distBallotStep A w s b') b := by
  rw [distBallotStep_gen]
  exact genBallotStep_blind A (blind_genBallotStep A hA _ b) _ s b'

theorem foldl_distBallotStep_perm (hA : LawfulArith A) (w : Bool) {l l' : List (Ballot α)} (hp : l'.Perm l) (st : St α) :
    l'.foldl (distBallotStep A w) st = l.foldl (distBallotStep A w) st := by
  rw [distBallotStep_gen]
  exact foldl_genBallotStep_perm A hA _ hp st

theorem mfcStep_comm (hA : LawfulArith A) (s : St α) (b b' : Ballot α) :
    mfcStep A (mfcStep A s b) b' = mfcStep A (mfcStep A s b') b := by
  unfold mfcStep
  cases b.top <;> cases b'.top <;> try rfl
  exact addVote_comm A hA s _ _ _ _

theorem foldl_mfcStep_perm (hA : LawfulArith A) {l l' : List (Ballot α)} (hp : l'.Perm l) (st : St α) :
    l'.foldl (mfcStep A) st = l.foldl (mfcStep A) st :=
  hp.foldl_eq' (fun x _ y _ z => mfcStep_comm A hA z x y) st

/-- what a transformation of the ballot list (and of the logged ballot views) must satisfy for a Meek count to commute with it -/
structure XMeek (fb : List (Ballot α) → List (Ballot α)) (fw : List (Nat × α) → List (Nat × α)) : Prop extends XF A fb fw where
  dist : ∀ (w : Bool) (st : St α) (l : List (Ballot α)), (fb l).foldl (distBallotStep A w) st = l.foldl (distBallotStep A w) st
  mfirst : ∀ (st : St α) (l : List (Ballot α)), (fb l).foldl (mfcStep A) st = l.foldl (mfcStep A) st
  nil : fw [] = []

variable {fb : List (Ballot α) → List (Ballot α)} {fw : List (Nat × α) → List (Nat × α)}

theorem blind_xB : Blind A (xB fb fw) := ⟨fun _ _ _ => rfl, fun _ _ => rfl, fun _ _ => rfl⟩

theorem xB_logMsg (hnil : fw [] = []) (s : St α) (verb : String) (subj : List Nat) (v : Option α) :
    xB fb fw (s.logMsg verb subj v) = (xB fb fw s).logMsg verb subj v := by
  unfold St.logMsg xB
  simp only [List.map_cons, hnil]

theorem xB_distStrict (hx : XMeek A fb fw) (w : Bool) (s : St α) :
    xB fb fw (distStrict A w s) = distStrict A w (xB fb fw s) := by
  unfold distStrict
  rw [ballots_xB, hx.dist]
  generalize s.ballots = bs
  induction bs generalizing s with
  | nil => rfl
  | cons b bs ih =>
    simp only [List.foldl_cons]
    rw [ih, distBallotStep_blind A (blind_xB A)]

theorem distEqual_nil (w : Bool) (s : St α) (hq : s.ballotsEq = []) : distEqual A w s = s := by
  unfold distEqual; rw [hq]; rfl

theorem xB_distributeVotes (hx : XMeek A fb fw) (w : Bool) (s : St α) (hq : s.ballotsEq = []) :
    xB fb fw (distributeVotes A w s) = distributeVotes A w (xB fb fw s) := by
  rw [distributeVotes_strict A w s hq, distributeVotes_strict A w (xB fb fw s) hq, xB_distStrict A hx]
  rfl

theorem xB_kfStep (cap : Bool) (acc : St α) (c : Cand α) : kfStep A cap (xB fb fw acc) c = xB fb fw (kfStep A cap acc c) := by
  unfold kfStep
  cases c.kf with
  | none => simp only; rw [xB_setCrash]
  | some k =>
    simp only
    split
    · rw [xB_setCrash]
    · rfl

theorem xB_kfUpdate (cap : Bool) (s : St α) : kfUpdate A cap (xB fb fw s) = xB fb fw (kfUpdate A cap s) := by
  rw [kfUpdate_eq, kfUpdate_eq, elected_xB]
  generalize s.elected = l
  induction l generalizing s with
  | nil => rfl
  | cons c cs ih => simp only [List.foldl_cons]; rw [xB_kfStep, ih]

theorem xB_meekS3 (hx : XMeek A fb fw) (o : MeekOpts) (s : St α) (hq : s.ballotsEq = []) :
    meekS3 A o (xB fb fw s) = xB fb fw (meekS3 A o s) := by
  unfold meekS3
  rw [← xB_distributeVotes A hx o.warren s hq]
  rfl

theorem xB_meekIterCore (hx : XMeek A fb fw) (o : MeekOpts) (s : St α) (hq : s.ballotsEq = []) :
    meekIterCore A o (xB fb fw s) = xB fb fw (meekIterCore A o s) := by
  have e4 : meekS4 A o (xB fb fw s) = xB fb fw (meekS4 A o s) := by
    unfold meekS4
    rw [xB_meekS3 A hx o s hq]
    exact (xB_foldElect A hx.toXF (meekWinners A (meekS3 A o s)) (fun _ => "Elect") (fun _ => false) (meekS3 A o s)).symm
  rw [meekIterCore_eq, meekIterCore_eq, e4]
  rfl

theorem xB_meekIterElected (hx : XMeek A fb fw) (o : MeekOpts) (s : St α) (hq : s.ballotsEq = []) :
    meekIterElected A o (xB fb fw s) = meekIterElected A o s := by
  rw [meekIterElected_eq, meekIterElected_eq, xB_meekS3 A hx o s hq]
  rfl

theorem batchDefeatGroups_xB (s : St α) (sp : α) : batchDefeatGroups A (xB fb fw s) sp = batchDefeatGroups A s sp := rfl

theorem iterBlind_xB (hnil : fw [] = []) : IterBlind A (xB fb fw) :=
  ⟨fun _ => rfl, fun _ => rfl, xB_setCrash, xB_logMsg hnil, fun _ _ => rfl, xB_kfUpdate A⟩

theorem xB_meekIterate (hA : LawfulArith A) (hx : XMeek A fb fw) (o : MeekOpts) (omega : α) :
    ∀ (fuel : Nat) (last : α) (s : St α), MInv A s →
      meekIterate A o omega fuel last (xB fb fw s)
        = (xB fb fw (meekIterate A o omega fuel last s).1, (meekIterate A o omega fuel last s).2) :=
  meekIterate_comm A (iterBlind_xB A hx.nil) o omega (fun _ h => (h.meekIterCore A hA o).kfUpdate A true)
    (fun s h => xB_meekIterElected A hx o s h.noEq) (fun s h => xB_meekIterCore A hx o s h.noEq)

theorem meekComm_xB (hA : LawfulArith A) (hx : XMeek A fb fw) (o : MeekOpts) : MeekComm A o (xB fb fw) False where
  step := stepComm_xB A hA hx.toXF
  surplus := fun _ => rfl
  dist := fun s h => (xB_distributeVotes A hx o.warren s h.noEq).symm
  iterate := xB_meekIterate A hA hx o
  batchList := fun _ _ _ _ => rfl
  final := fun _ => rfl

theorem xB_foldl_mfcStep (bs : List (Ballot α)) (t : St α) :
    xB fb fw (bs.foldl (mfcStep A) t) = bs.foldl (mfcStep A) (xB fb fw t) :=
  foldl_map_comm (xB fb fw) (fun _ => True) bs (mfcStep A) (fun _ _ _ _ => trivial)
    (fun s _ b _ => by unfold mfcStep; cases b.top <;> rfl) t trivial

theorem xB_meekFirstCount (hx : XMeek A fb fw) (s : St α) (hq : s.ballotsEq = []) :
    xB fb fw (meekFirstCount A s) = meekFirstCount A (xB fb fw s) := by
  rw [meekFirstCount_eq A s hq, meekFirstCount_eq A (xB fb fw s) hq, ballots_xB, hx.mfirst]
  exact xB_foldl_mfcStep A _ _

theorem xB_meekInit (hx : XMeek A fb fw) (s0 : St α) (hq : s0.ballotsEq = []) :
    xB fb fw (meekInit A s0) = meekInit A (xB fb fw s0) := by
  unfold meekInit
  have e := xB_meekFirstCount A hx
    (((s0.setVotes (A.ofInt s0.nballots)).setQuota (meekQuota A (s0.setVotes (A.ofInt s0.nballots)))).initKf A.one) hq
  rw [xB_logAct A hx.toXF, e]
  rfl

/-- **C10 for meek and warren, run level**: the count of the rearranged profile is the count of the original, with the ballot
    list and the logged ballot views rearranged (strict rankings; every lawful arithmetic whose zero is recognised as zero) -/
theorem meek_xB (hA : LawfulArith A) (hz : A.isZero A.zero = true) (hx : XMeek A fb fw) (o : MeekOpts) (iterFuel : Nat)
    (s0 : St α) (h0 : MInit A s0) :
    meekCount A o iterFuel (xB fb fw s0) = (meekCount A o iterFuel s0).map (xB fb fw) := by
  unfold meekCount
  split
  · simp only [Option.map_some]; rw [xB_setCrash]
  · have hlen : (xB fb fw s0).cands.length = s0.cands.length := rfl
    rw [hlen, ← xB_meekInit A hx s0 h0.noEq, (meekComm_xB A hA hx o).loop hA hz _ iterFuel _ (MInv.meekInit A hA h0)]
    cases hl : loopN (fun s => !meekCountComplete s) (meekBody A o (A.divV A.one (A.ofInt (10 ^ o.omega10))) iterFuel)
        (2 * s0.cands.length + 3) (meekInit A s0) with
    | none => rfl
    | some s7 =>
      simp only [Option.map_some]
      have h7 := (meek_loop_identity A hA hz o _ iterFuel _ _ s7 (MInv.meekInit A hA h0) hl).1
      rw [(meekComm_xB A hA hx o).epilogue hA hz h7]

/-- natural permutations of the ballot list are such transformations -/
theorem XMeek_of_natPerm (hA : LawfulArith A) {π : ∀ {β : Type}, List β → List β} (hπ : NatPerm π) : XMeek A (π (β := Ballot α)) (π (β := Nat × α)) :=
  { toXF := XF_of_natPerm A hA hπ
    dist := fun w st l => foldl_distBallotStep_perm A hA w (hπ.perm l) st
    mfirst := fun st l => foldl_mfcStep_perm A hA (hπ.perm l) st
    nil := List.Perm.eq_nil (hπ.perm []) }

end Droop
