import DroopProofs.DropWQpq
import DroopProofs.PermBPrf

/-! # C11 for meek and warren (strict rankings): a withdrawn candidate is an absent candidate

`dropW` commutes with a Meek distribution because a withdrawn candidate keeps nothing (no keep factor, or a zero one): the ballot
passes it by exactly as it passes an id that is not a candidate at all.  Everything else reads the candidates through `hopeful` /
`elected`, or updates one candidate keeping its status, or elects / excludes a hopeful one. -/
namespace Droop
variable {α : Type} [CommRing α] [LinearOrder α] [IsStrictOrderedRing α] (A : Arith α)

/-- distinct ids, and withdrawn candidates keep nothing -/
def WDead (s : St α) : Prop := s.WF ∧ ∀ c ∈ s.cands, c.st = .withdrawn → c.noKeep A

theorem WDead.of_MInv {s : St α} (h : MInv A s) : WDead A s := ⟨h.wf, fun c hc hw => (h.dead c hc (Or.inr hw)).2⟩

/-- the keep factor read in the reduced state: the same, or none where the full state has none or a zero one -/
theorem kfOf_dropW {s : St α} (h : WDead A s) (cid : Nat) :
    kfOf (dropW s) cid = kfOf s cid
    ∨ (kfOf (dropW s) cid = none ∧ ∃ k, kfOf s cid = some k ∧ A.isZero k = true) := by
  have hwfd : (dropW s).WF := WF_dropW' h.1
  unfold kfOf
  cases hf : s.cand? cid with
  | none =>
    left
    cases hd : (dropW s).cand? cid with
    | none => rfl
    | some d =>
      obtain ⟨hdm, hdc⟩ := cand?_some_mem hd
      have : d ∈ s.cands := (List.mem_filter.1 hdm).1
      have := (cand?_isSome_iff s cid).2 ⟨d, this, hdc⟩
      rw [hf] at this; cases this
  | some c =>
    obtain ⟨hcm, hcc⟩ := cand?_some_mem hf
    by_cases hw : c.st = .withdrawn
    · have hnone : (dropW s).cand? cid = none := by
        cases hd : (dropW s).cand? cid with
        | none => rfl
        | some d =>
          obtain ⟨hdm, hdc⟩ := cand?_some_mem hd
          obtain ⟨hdm', hdn⟩ := List.mem_filter.1 hdm
          have : d = c := nodup_cid_eq h.1 hdm' hcm (by rw [hdc, hcc])
          rw [this] at hdn
          unfold nonW at hdn; rw [hw] at hdn; cases hdn
      rw [hnone]
      rcases h.2 c hcm hw with hk | ⟨k, hk, hz⟩
      · left; exact hk.symm
      · right; exact ⟨rfl, k, hk, hz⟩
    · left
      have hcd : c ∈ (dropW s).cands := List.mem_filter.2 ⟨hcm, by unfold nonW; simpa using hw⟩
      have := cand?_of_mem hwfd hcd
      rw [hcc] at this
      rw [this]

theorem WDead.addVote {s : St α} (h : WDead A s) (cid : Nat) (v : α) : WDead A (s.addVote A cid v) := by
  refine ⟨WF_upd h.1 cid _ (fun _ => rfl), ?_⟩
  intro c' hc' hw
  unfold St.addVote at hc'
  obtain ⟨c, hc, rfl⟩ := mem_upd.1 hc'
  by_cases he : (c.cid == cid) = true
  · rw [if_pos he] at hw ⊢; exact h.2 c hc hw
  · rw [if_neg he] at hw ⊢; exact h.2 c hc hw

/-- a ballot passes a withdrawn candidate by exactly as it passes an id that is no candidate: one step of its descent,
    however a keep factor divides a weight -/
theorem genRankStep_dropW (keep : α → α → α × α) (mult : α) (acc : St α × α × α × Bool) (h : WDead A acc.1) (cid : Nat) :
    genRankStep A keep mult (dropW acc.1, acc.2) cid
      = (dropW (genRankStep A keep mult acc cid).1, (genRankStep A keep mult acc cid).2)
    ∧ WDead A (genRankStep A keep mult acc cid).1 := by
  unfold genRankStep
  by_cases hstop : acc.2.2.2 = true
  · rw [if_pos hstop, if_pos hstop]; exact ⟨rfl, h⟩
  · rw [if_neg hstop, if_neg hstop]
    rcases kfOf_dropW A h cid with e | ⟨e, k, hk, hz⟩
    · rw [e]
      cases hkf : kfOf acc.1 cid with
      | none => exact ⟨rfl, h⟩
      | some kf =>
        by_cases hz : A.isZero kf = true
        · simp only [hz, if_true]; exact ⟨trivial, h⟩
        · simp only [hz, Bool.false_eq_true, if_false]
          exact ⟨by rw [dropW_addVote], h.addVote A cid _⟩
    · rw [e, hk]
      simp only [hz, if_true]
      exact ⟨trivial, h⟩

theorem distRankStep_dropW (w : Bool) (mult : α) (acc : St α × α × α × Bool) (h : WDead A acc.1) (cid : Nat) :
    distRankStep A w mult (dropW acc.1, acc.2) cid
      = (dropW (distRankStep A w mult acc cid).1, (distRankStep A w mult acc cid).2)
    ∧ WDead A (distRankStep A w mult acc cid).1 := by
  rw [distRankStep_gen]
  exact genRankStep_dropW A _ mult acc h cid

theorem foldl_genRankStep_dropW (keep : α → α → α × α) (mult : α) (rank : List Nat) :
    ∀ (acc : St α × α × α × Bool), WDead A acc.1 →
    rank.foldl (genRankStep A keep mult) (dropW acc.1, acc.2)
      = (dropW (rank.foldl (genRankStep A keep mult) acc).1, (rank.foldl (genRankStep A keep mult) acc).2)
    ∧ WDead A (rank.foldl (genRankStep A keep mult) acc).1 := by
  induction rank with
  | nil => intro acc h; exact ⟨rfl, h⟩
  | cons c cs ih =>
    intro acc h
    simp only [List.foldl_cons]
    obtain ⟨e, h'⟩ := genRankStep_dropW A keep mult acc h c
    rw [e]
    exact ih _ h'

theorem WDead.setResidual {s : St α} (h : WDead A s) (r : α) : WDead A ({ s with residual := r } : St α) := h

theorem genBallotStep_dropW (keep : α → α → α × α) (s : St α) (h : WDead A s) (b : Ballot α) :
    genBallotStep A keep (dropW s) b = dropW (genBallotStep A keep s b) ∧ WDead A (genBallotStep A keep s b) := by
  unfold genBallotStep
  obtain ⟨e, h'⟩ := foldl_genRankStep_dropW A keep (A.ofInt b.mult) b.rank (s, A.one, A.ofInt b.mult, false) h
  simp only at e
  rw [e]
  exact ⟨rfl, h'⟩

theorem foldl_genBallotStep_dropW (keep : α → α → α × α) (bs : List (Ballot α)) : ∀ (s : St α), WDead A s →
    bs.foldl (genBallotStep A keep) (dropW s) = dropW (bs.foldl (genBallotStep A keep) s)
    ∧ WDead A (bs.foldl (genBallotStep A keep) s) := by
  induction bs with
  | nil => intro s h; exact ⟨rfl, h⟩
  | cons b bs ih =>
    intro s h
    simp only [List.foldl_cons]
    obtain ⟨e, h'⟩ := genBallotStep_dropW A keep s h b
    rw [e]
    exact ih _ h'

theorem distStrict_dropW (w : Bool) (s : St α) (h : WDead A s) :
    distStrict A w (dropW s) = dropW (distStrict A w s) ∧ WDead A (distStrict A w s) := by
  unfold distStrict
  rw [distBallotStep_gen]
  exact foldl_genBallotStep_dropW A _ s.ballots s h

theorem WDead.startDist {s : St α} (h : WDead A s) : WDead A (Droop.startDist A s) := by
  unfold Droop.startDist zeroActiveVotes St.setResidual
  refine ⟨?_, ?_⟩
  · unfold St.WF at *
    simp only [List.map_map]
    have : ((fun c : Cand α => c.cid) ∘ fun c => if (c.st == CState.hopeful || c.st == CState.elected) = true then { c with vote := A.zero } else c)
        = fun c => c.cid := by
      funext c; simp only [Function.comp]; split <;> rfl
    rw [this]; exact h.1
  · intro c' hc' hw
    simp only at hc'
    obtain ⟨c, hc, rfl⟩ := List.mem_map.1 hc'
    by_cases hcond : (c.st == CState.hopeful || c.st == CState.elected) = true
    · rw [if_pos hcond] at hw ⊢; exact h.2 c hc hw
    · rw [if_neg hcond] at hw ⊢; exact h.2 c hc hw

theorem zeroActiveVotes_dropW (s : St α) : zeroActiveVotes A (dropW s) = dropW (zeroActiveVotes A s) :=
  (dropW_mapCands s (fun c => if c.st == .hopeful || c.st == .elected then { c with vote := A.zero } else c)
    (fun c => by unfold nonW; split <;> rfl)).symm

theorem startDist_dropW (s : St α) : startDist A (dropW s) = dropW (startDist A s) := by
  unfold startDist
  rw [zeroActiveVotes_dropW]
  rfl

theorem distributeVotes_dropW (w : Bool) (s : St α) (h : WDead A s) (hq : s.ballotsEq = []) :
    distributeVotes A w (dropW s) = dropW (distributeVotes A w s) := by
  rw [distributeVotes_strict A w s hq, distributeVotes_strict A w (dropW s) hq, startDist_dropW]
  exact (distStrict_dropW A w (startDist A s) (h.startDist A)).1

theorem activeVotes_dropW (s : St α) : activeVotes A (dropW s) = activeVotes A s := by
  unfold activeVotes; rw [hopeful_dropW, elected_dropW]

theorem meekQuota_dropW (s : St α) : meekQuota A (dropW s) = meekQuota A s := rfl

theorem meekWinners_dropW (s : St α) : meekWinners A (dropW s) = meekWinners A s := by
  unfold meekWinners; rw [hopeful_dropW]; rfl

theorem WF_distributeVotes (hA : LawfulArith A) (w : Bool) {s : St α} (hwf : s.WF) (hq : s.ballotsEq = []) :
    (distributeVotes A w s).WF := WF_of_skel (distributeVotes_skel A w s hwf hq hA).symm hwf

theorem meekS3_dropW (o : MeekOpts) {s : St α} (hI : MInv A s) : meekS3 A o (dropW s) = dropW (meekS3 A o s) := by
  unfold meekS3
  rw [distributeVotes_dropW A o.warren s (WDead.of_MInv A hI) hI.noEq, activeVotes_dropW]
  generalize distributeVotes A o.warren s = d
  rfl

theorem meekIterCore_dropW (hA : LawfulArith A) (o : MeekOpts) {s : St α} (hI : MInv A s) :
    meekIterCore A o (dropW s) = dropW (meekIterCore A o s) := by
  have hwf : (meekS3 A o s).WF := by
    unfold St.WF; rw [meekS3_cands]; exact WF_distributeVotes A hA o.warren hI.wf hI.noEq
  have e4 : meekS4 A o (dropW s) = dropW (meekS4 A o s) := by
    unfold meekS4
    rw [meekS3_dropW A o hI, meekWinners_dropW]
    exact (dropW_foldElect A (meekWinners A (meekS3 A o s)) (fun _ => "Elect") (fun _ => false) hwf
      (fun w hw => nonWId_of_hopeful (List.mem_filter.1 hw).1)).symm
  rw [meekIterCore_eq, meekIterCore_eq, e4, elected_dropW]
  generalize meekS4 A o s = f
  rfl

theorem meekIterElected_dropW (o : MeekOpts) {s : St α} (hI : MInv A s) : meekIterElected A o (dropW s) = meekIterElected A o s := by
  rw [meekIterElected_eq, meekIterElected_eq, meekS3_dropW A o hI, meekWinners_dropW]

theorem kfUpdate_dropW (cap : Bool) (s : St α) : kfUpdate A cap (dropW s) = dropW (kfUpdate A cap s) := by
  unfold kfUpdate
  rw [elected_dropW]
  generalize s.elected = l
  induction l generalizing s with
  | nil => rfl
  | cons c cs ih =>
    simp only [List.foldl_cons]
    cases hk : c.kf with
    | none =>
      simp only
      rw [← dropW_setCrash]; exact ih _
    | some kf =>
      simp only [quota_dropW]
      split
      · rw [← dropW_setCrash]; exact ih _
      · rw [← dropW_upd_keep s c.cid (fun x => { x with kf := some (kfCap A cap (A.div .up (A.mul .up kf s.quota) c.vote)) }) (fun _ => rfl)]; exact ih _

theorem WDead.of_MPre {s : St α} (h : MPre A s) : WDead A s := ⟨h.wf, fun c hc hw => (h.dead c hc (Or.inr hw)).2⟩

theorem batchDefeatGroups_dropW (s : St α) (sp : α) : batchDefeatGroups A (dropW s) sp = batchDefeatGroups A s sp := by
  unfold batchDefeatGroups
  simp only [hopeful_dropW, seatsLeft_dropW]

theorem iterBlind_dropW : IterBlind A (dropW (α := α)) :=
  ⟨fun _ => rfl, fun _ => rfl, dropW_setCrash, dropW_logMsg, batchDefeatGroups_dropW A, kfUpdate_dropW A⟩

theorem meekIterate_dropW (hA : LawfulArith A) (o : MeekOpts) (omega : α) :
    ∀ (fuel : Nat) (last : α) (s : St α), MInv A s →
      meekIterate A o omega fuel last (dropW s)
        = (dropW (meekIterate A o omega fuel last s).1, (meekIterate A o omega fuel last s).2) :=
  meekIterate_comm A (iterBlind_dropW A) o omega (fun _ h => (h.meekIterCore A hA o).kfUpdate A true)
    (fun _ h => meekIterElected_dropW A o h) (fun _ h => meekIterCore_dropW A hA o h)

theorem meekFinal_dropW (s : St α) : meekFinal A (dropW s) = dropW (meekFinal A s) := by
  unfold meekFinal
  rw [elected_dropW]
  rfl

theorem meekComm_dropW (hA : LawfulArith A) (o : MeekOpts) : MeekComm A o (dropW (α := α)) True where
  step := stepComm_dropW A
  surplus := fun _ => rfl
  dist := fun s h => distributeVotes_dropW A o.warren s (WDead.of_MPre A h) h.noEq
  iterate := meekIterate_dropW A hA o
  final := meekFinal_dropW A
  batchList := by
    intro s cids hI hc
    show (s.cands.filter nonW).filter _ = _
    rw [List.filter_filter]
    apply List.filter_congr
    intro c hcm
    by_cases hp : cids.contains c.cid = true
    · obtain ⟨w, hw, hwc⟩ := hc c.cid (by simpa using hp)
      obtain ⟨hw1, hw2⟩ := mem_hopeful.1 hw
      rw [nodup_cid_eq hI.wf hw1 hcm hwc] at hw2
      rw [hp]; simp [nonW, hw2]
    · rw [(by simpa using hp : cids.contains c.cid = false)]; simp

theorem meekBody_dropW (hA : LawfulArith A) (hz : A.isZero A.zero = true) (o : MeekOpts) (omega : α) (fuel : Nat) {s : St α}
    (hI : MInv A s) :
    meekBody A o omega fuel (dropW s) = (dropW (meekBody A o omega fuel s).1, (meekBody A o omega fuel s).2) :=
  (meekComm_dropW A hA o).body hA hz omega fuel hI

theorem foldl_dropW_comm {β : Type} (f : St α → β → St α) (hf : ∀ acc b, f (dropW acc) b = dropW (f acc b)) (l : List β) :
    ∀ s, l.foldl f (dropW s) = dropW (l.foldl f s) :=
  fun s => (foldl_map_comm dropW (fun _ => True) l f (fun _ _ _ _ => trivial) (fun t _ b _ => (hf t b).symm) s trivial).symm

theorem meekFirstCount_dropW (s : St α) : meekFirstCount A (dropW s) = dropW (meekFirstCount A s) := by
  unfold meekFirstCount
  have hb : (dropW s).ballots = s.ballots := rfl
  have hbe : (dropW s).ballotsEq = s.ballotsEq := rfl
  rw [hb, hbe]
  have key : ∀ (f : St α → Ballot α → St α), (∀ acc b, f (dropW acc) b = dropW (f acc b)) →
      List.foldl f (dropW s) s.ballots = dropW (List.foldl f s s.ballots) := fun f hf => foldl_dropW_comm f hf s.ballots s
  rw [key]
  · apply foldl_dropW_comm
    intro acc b
    cases b.rank.head? with
    | none => rfl
    | some grp =>
      simp only
      exact foldl_dropW_comm (fun (acc2 : St α) (cid : Nat) =>
        acc2.addVote A cid (A.mulV (A.divV A.one (A.ofInt grp.length)) (A.ofInt b.mult)))
        (fun acc2 cid => (dropW_addVote A acc2 cid _).symm) grp acc
  · intro acc b
    cases b.top with
    | none => rfl
    | some c => exact (dropW_addVote A acc c _).symm

theorem initKf_dropW (s : St α) (one : α) : (dropW s).initKf one = dropW (s.initKf one) :=
  (dropW_mapCands s (fun (c : Cand α) => if c.st == .hopeful then { c with kf := some one } else c)
    (fun c => by unfold nonW; split <;> rfl)).symm

theorem meekInit_dropW (s0 : St α) : meekInit A (dropW s0) = dropW (meekInit A s0) := by
  unfold meekInit
  rw [dropW_logAct, ← meekFirstCount_dropW, ← initKf_dropW]
  rfl

theorem meekEpilogue_dropW (hA : LawfulArith A) (hz : A.isZero A.zero = true) (o : MeekOpts) {s : St α} (hI : MInv A s) :
    meekEpilogue A o (dropW s) = dropW (meekEpilogue A o s) :=
  (meekComm_dropW A hA o).epilogue hA hz hI

/-- **C11, second clause, meek and warren (strict rankings)**: counting the profile with the withdrawn candidates deleted gives
    exactly the state (record included) obtained by deleting them from the count of the full profile -/
theorem meek_dropW (hA : LawfulArith A) (hz : A.isZero A.zero = true) (o : MeekOpts) (iterFuel : Nat) (s0 t t' : St α)
    (h0 : MInit A s0) (h : meekCount A o iterFuel s0 = some t) (h' : meekCount A o iterFuel (dropW s0) = some t') :
    t' = dropW t := by
  unfold meekCount at h h'
  by_cases hn : (A.name == "integer") = true
  · rw [if_pos hn] at h h'
    rw [← Option.some.inj h, ← Option.some.inj h', dropW_setCrash]
  · rw [if_neg hn] at h h'
    have hI0 : MInv A (meekInit A s0) := MInv.meekInit A hA h0
    rw [meekInit_dropW] at h'
    cases hl : loopN (fun s => !meekCountComplete s) (meekBody A o (A.divV A.one (A.ofInt (10 ^ o.omega10))) iterFuel)
        (2 * s0.cands.length + 3) (meekInit A s0) with
    | none => rw [hl] at h; cases h
    | some s7 =>
      rw [hl] at h
      cases hl' : loopN (fun s => !meekCountComplete s) (meekBody A o (A.divV A.one (A.ofInt (10 ^ o.omega10))) iterFuel)
          (2 * (dropW s0).cands.length + 3) (dropW (meekInit A s0)) with
      | none => rw [hl'] at h'; cases h'
      | some s7' =>
        rw [hl'] at h'
        have ht : t = meekEpilogue A o s7 := (Option.some.inj h).symm
        have ht' : t' = meekEpilogue A o s7' := (Option.some.inj h').symm
        have hlen : (dropW s0).cands.length ≤ s0.cands.length := List.length_filter_le _ _
        have h1 := loopN_fuel_mono (fun s => !meekCountComplete s) (meekBody A o (A.divV A.one (A.ofInt (10 ^ o.omega10))) iterFuel)
          _ _ _ hl' (2 * s0.cands.length + 3) (by omega)
        have h2 := (meekComm_dropW A hA o).loop hA hz (A.divV A.one (A.ofInt (10 ^ o.omega10))) iterFuel
          (2 * s0.cands.length + 3) hI0
        rw [h1, hl] at h2
        have e7 : s7' = dropW s7 := by simpa using h2
        have hI7 : MInv A s7 := (meek_loop_identity A hA hz o _ iterFuel _ _ _ hI0 hl).1
        rw [ht', ht, e7, meekEpilogue_dropW A hA hz o hI7]

end Droop
