import DroopProofs.PermBPrf
import DroopProofs.SplitB

/-! # C10 for the Meek family: splitting a ballot line through its multiplier (and merging, read backwards)

What one ballot credits in a Meek distribution is, for each candidate it passes, a share of its weight that depends only on the keep
factors and the ranking — not on the multiplier and not on the tallies — times the multiplier; the rest of the multiplier goes to the
residual.  `genFold_eq` makes that explicit (`credits`); two halves of a split line therefore credit, together, what the whole line
credits (`applyCr_add`).  The same development serves `distRankStep` (meek, warren) and `prfRankStep` (meek-prf): they differ only in
how a keep factor divides a weight. -/
namespace Droop
variable {α : Type} [CommRing α] [LinearOrder α] [IsStrictOrderedRing α] (A : Arith α)

/-- the shares a ranking receives: (candidate, share) in the order credited, then the weight and stop flag left -/
def credits (keep : α → α → α × α) (kf : Nat → Option α) : List Nat → α → Bool → List (Nat × α) × α × Bool
  | [], w, stop => ([], w, stop)
  | cid :: rest, w, stop =>
    if stop then ([], w, stop) else
    match kf cid with
    | some k =>
      if A.isZero k then credits keep kf rest w stop
      else
        let r := credits keep kf rest (keep k w).2 (A.le (keep k w).2 A.zero)
        ((cid, (keep k w).1) :: r.1, r.2)
    | none => credits keep kf rest w stop

def applyCr (cr : List (Nat × α)) (m : Int) (s : St α) : St α :=
  cr.foldl (fun st (e : Nat × α) => st.addVote A e.1 (A.mulV e.2 (A.ofInt m))) s

def crSum (cr : List (Nat × α)) : α := (cr.map (·.2)).sum

theorem genFold_stop (keep : α → α → α × α) (mult : α) (rank : List Nat) (s : St α) (w r : α) :
    rank.foldl (genRankStep A keep mult) (s, w, r, true) = (s, w, r, true) := by
  induction rank with
  | nil => rfl
  | cons c cs ih =>
    simp only [List.foldl_cons]
    have : genRankStep A keep mult (s, w, r, true) c = (s, w, r, true) := by unfold genRankStep; rfl
    rw [this, ih]

/-- a ranking's fold is: apply the credits, pass on what is left -/
theorem genFold_eq (hA : LawfulArith A) (keep : α → α → α × α) (m : Int) (rank : List Nat) :
    ∀ (s : St α) (w r : α) (stop : Bool),
      rank.foldl (genRankStep A keep (A.ofInt m)) (s, w, r, stop)
        = (applyCr A (credits A keep (kfOf s) rank w stop).1 m s, (credits A keep (kfOf s) rank w stop).2.1,
           r - crSum (credits A keep (kfOf s) rank w stop).1 * (m : α), (credits A keep (kfOf s) rank w stop).2.2) := by
  induction rank with
  | nil => intro s w r stop; simp [credits, applyCr, crSum]
  | cons c cs ih =>
    intro s w r stop
    simp only [List.foldl_cons]
    by_cases hs : stop = true
    · subst hs
      have h1 : genRankStep A keep (A.ofInt m) (s, w, r, true) c = (s, w, r, true) := by unfold genRankStep; rfl
      rw [h1, genFold_stop]
      simp [credits, applyCr, crSum]
    · have hs' : stop = false := by simpa using hs
      subst hs'
      cases hk : kfOf s c with
      | none =>
        have hstep : genRankStep A keep (A.ofInt m) (s, w, r, false) c = (s, w, r, false) := by
          unfold genRankStep; simp only [Bool.false_eq_true, if_false, hk]
        rw [hstep, ih]
        simp only [credits, hk, Bool.false_eq_true, if_false]
      | some k =>
        by_cases hz : A.isZero k = true
        · have hstep : genRankStep A keep (A.ofInt m) (s, w, r, false) c = (s, w, r, false) := by
            unfold genRankStep; simp only [Bool.false_eq_true, if_false, hk, hz, if_true]
          rw [hstep, ih]
          simp only [credits, hk, hz, if_true, Bool.false_eq_true, if_false]
        · have hstep : genRankStep A keep (A.ofInt m) (s, w, r, false) c
              = (s.addVote A c (A.mulV (keep k w).1 (A.ofInt m)), (keep k w).2, A.sub r (A.mulV (keep k w).1 (A.ofInt m)),
                  A.le (keep k w).2 A.zero) := by
            unfold genRankStep; simp only [Bool.false_eq_true, if_false, hk, hz]
          rw [hstep, ih]
          have hkf : kfOf (s.addVote A c (A.mulV (keep k w).1 (A.ofInt m))) = kfOf s := by
            funext c'; exact kfOf_addVote A s c _ c'
          rw [hkf]
          simp only [credits, hk, hz, Bool.false_eq_true, if_false, applyCr, List.foldl_cons, crSum, List.map_cons, List.sum_cons,
            hA.sub_eq, hA.mulV_ofInt]
          refine Prod.ext rfl (Prod.ext rfl (Prod.ext ?_ rfl))
          simp only
          ring

theorem addVote_add (hA : LawfulArith A) (s : St α) (c : Nat) (v1 v2 : α) :
    (s.addVote A c v1).addVote A c v2 = s.addVote A c (v1 + v2) := by
  unfold St.addVote St.upd
  simp only [List.map_map]
  congr 1
  apply List.map_congr_left
  intro x _
  simp only [Function.comp]
  by_cases h : (x.cid == c) = true
  · simp only [h, if_true, hA.add_eq]; congr 1; ring
  · simp only [h, Bool.false_eq_true, if_false]

theorem applyCr_addVote (hA : LawfulArith A) (cr : List (Nat × α)) (m : Int) (s : St α) (c : Nat) (v : α) :
    applyCr A cr m (s.addVote A c v) = (applyCr A cr m s).addVote A c v := by
  unfold applyCr
  induction cr generalizing s with
  | nil => rfl
  | cons e es ih =>
    simp only [List.foldl_cons]
    rw [addVote_comm A hA, ih]

/-- the two halves credit what the whole credits -/
theorem applyCr_add (hA : LawfulArith A) (cr : List (Nat × α)) (m1 m2 : Int) (s : St α) :
    applyCr A cr m2 (applyCr A cr m1 s) = applyCr A cr (m1 + m2) s := by
  induction cr generalizing s with
  | nil => rfl
  | cons e es ih =>
    have h1 : applyCr A (e :: es) m1 s = applyCr A es m1 (s.addVote A e.1 (A.mulV e.2 (A.ofInt m1))) := rfl
    have h2 : ∀ t, applyCr A (e :: es) m2 t = applyCr A es m2 (t.addVote A e.1 (A.mulV e.2 (A.ofInt m2))) := fun _ => rfl
    have h3 : applyCr A (e :: es) (m1 + m2) s = applyCr A es (m1 + m2) (s.addVote A e.1 (A.mulV e.2 (A.ofInt (m1 + m2)))) := rfl
    rw [h1, h2, h3, ← applyCr_addVote A hA, ih, addVote_add A hA]
    congr 2
    simp only [hA.mulV_ofInt]
    push_cast; ring

theorem applyCr_residual (cr : List (Nat × α)) (m : Int) (s : St α) (x : α) :
    applyCr A cr m ({ s with residual := x } : St α) = { applyCr A cr m s with residual := x } := by
  unfold applyCr
  induction cr generalizing s with
  | nil => rfl
  | cons e es ih =>
    simp only [List.foldl_cons]
    have : (({ s with residual := x } : St α).addVote A e.1 (A.mulV e.2 (A.ofInt m)))
        = ({ s.addVote A e.1 (A.mulV e.2 (A.ofInt m)) with residual := x } : St α) := rfl
    rw [this]
    exact ih _

theorem applyCr_residual_get (cr : List (Nat × α)) (m : Int) (s : St α) : (applyCr A cr m s).residual = s.residual := by
  unfold applyCr
  induction cr generalizing s with
  | nil => rfl
  | cons e es ih => simp only [List.foldl_cons]; rw [ih]; rfl

theorem kfOf_applyCr (cr : List (Nat × α)) (m : Int) (s : St α) : kfOf (applyCr A cr m s) = kfOf s := by
  unfold applyCr
  induction cr generalizing s with
  | nil => rfl
  | cons e es ih =>
    simp only [List.foldl_cons]
    rw [ih]
    funext c'; exact kfOf_addVote A s _ _ c'

theorem genBallotStep_eq (hA : LawfulArith A) (keep : α → α → α × α) (s : St α) (b : Ballot α) (m : Nat) :
    genBallotStep A keep s { b with mult := m }
      = { applyCr A (credits A keep (kfOf s) b.rank A.one false).1 m s with
          residual := s.residual + ((m : Int) : α) * A.one - crSum (credits A keep (kfOf s) b.rank A.one false).1 * ((m : Int) : α) } := by
  unfold genBallotStep
  simp only
  rw [genFold_eq A hA keep (m : Int) b.rank s A.one (A.ofInt (m : Int)) false]
  simp only [hA.add_eq, applyCr_residual_get, hA.ofInt_eq]
  congr 1
  ring

/-- the two halves of a split line distribute as the whole line -/
theorem genBallotStep_split (hA : LawfulArith A) (keep : α → α → α × α) (s : St α) (b : Ballot α) (m1 : Nat) :
    (splitOne m1 b).foldl (genBallotStep A keep) s = genBallotStep A keep s b := by
  unfold splitOne
  simp only [List.foldl_cons, List.foldl_nil]
  have e1 := genBallotStep_eq A hA keep s b (min m1 b.mult)
  have e3 := genBallotStep_eq A hA keep s b b.mult
  have hb : ({ b with mult := b.mult } : Ballot α) = b := rfl
  rw [hb] at e3
  rw [e1, e3, genBallotStep_eq A hA keep _ b (b.mult - min m1 b.mult)]
  -- the keep factors of the intermediate state are those of `s`
  have hkf : kfOf ({ applyCr A (credits A keep (kfOf s) b.rank A.one false).1 (min m1 b.mult : Nat) s with
      residual := s.residual + (((min m1 b.mult : Nat) : Int) : α) * A.one
        - crSum (credits A keep (kfOf s) b.rank A.one false).1 * (((min m1 b.mult : Nat) : Int) : α) } : St α) = kfOf s := by
    have : ∀ (t : St α) (x : α), kfOf ({ t with residual := x } : St α) = kfOf t := fun _ _ => rfl
    rw [this, kfOf_applyCr]
  rw [hkf, applyCr_residual, applyCr_add A hA]
  have hle : min m1 b.mult ≤ b.mult := Nat.min_le_right _ _
  have h1 : ((min m1 b.mult : Nat) : Int) + ((b.mult - min m1 b.mult : Nat) : Int) = (b.mult : Int) := by omega
  rw [h1]
  congr 1
  simp only
  have h2 : (((min m1 b.mult : Nat) : Int) : α) + (((b.mult - min m1 b.mult : Nat) : Int) : α) = ((b.mult : Int) : α) := by
    rw [← Int.cast_add, h1]
  rw [← h2]
  ring

theorem mfcStep_split (hA : LawfulArith A) (st : St α) (b : Ballot α) (m1 : Nat) :
    (splitOne m1 b).foldl (mfcStep A) st = mfcStep A st b := by
  unfold splitOne
  simp only [List.foldl_cons, List.foldl_nil]
  unfold mfcStep
  have ht1 : ({ b with mult := min m1 b.mult } : Ballot α).top = b.top := rfl
  have ht2 : ({ b with mult := b.mult - min m1 b.mult } : Ballot α).top = b.top := rfl
  rw [ht1, ht2]
  cases b.top with
  | none => rfl
  | some c =>
    simp only
    rw [addVote_add A hA]
    congr 1
    simp only [hA.ofInt_eq]
    have hle : min m1 b.mult ≤ b.mult := Nat.min_le_right _ _
    have h1 : ((min m1 b.mult : Nat) : Int) + ((b.mult - min m1 b.mult : Nat) : Int) = (b.mult : Int) := by omega
    have h2 : (((min m1 b.mult : Nat) : Int) : α) + (((b.mult - min m1 b.mult : Nat) : Int) : α) = ((b.mult : Int) : α) := by
      rw [← Int.cast_add, h1]
    rw [← h2]; ring

theorem foldl_split (f : St α → Ballot α → St α) (hf : ∀ st b m1, (splitOne m1 b).foldl f st = f st b) (i m1 : Nat)
    (st : St α) (l : List (Ballot α)) : (splitBallots i m1 l).foldl f st = l.foldl f st := by
  unfold splitBallots
  conv_rhs => rw [← List.take_append_drop i l]
  rw [List.foldl_append, List.foldl_append]
  cases l.drop i with
  | nil => rfl
  | cons b r =>
    simp only [List.foldl_append, List.foldl_cons]
    rw [hf]

theorem splitViews_nil (i : Nat) : splitViews (α := α) i [] = [] := by
  unfold splitViews; simp

/-- splitting one ballot line is a transformation the Meek / Warren count commutes with -/
theorem XMeek_split (hA : LawfulArith A) (i m1 : Nat) : XMeek A (splitBallots (α := α) i m1) (splitViews i) :=
  { toXF := XF_split A hA i m1
    dist := fun w st l => by
      rw [distBallotStep_gen]
      exact foldl_split _ (fun st b m1 => genBallotStep_split A hA _ st b m1) i m1 st l
    mfirst := fun st l => foldl_split _ (fun st b m1 => mfcStep_split A hA st b m1) i m1 st l
    nil := splitViews_nil i }

/-- splitting one ballot line is a transformation the meek-prf count commutes with -/
theorem XPrf_split (hA : LawfulArith A) (i m1 : Nat) : XPrf A (splitBallots (α := α) i m1) (splitViews i) :=
  { toXF := XF_split A hA i m1
    prf := fun st l => by
      rw [prfBallotStep_gen]
      exact foldl_split _ (fun st b m1 => genBallotStep_split A hA _ st b m1) i m1 st l
    pfirst := fun st l => foldl_split _ (fun st b m1 => mfcStep_split A hA st b m1) i m1 st l
    nil := splitViews_nil i }

end Droop
