import DroopModel.Meek
import DroopProofs.Conserve

/-! # Distribution in the Meek family: votes credited plus residual equal the ballots, unconditionally (C08, C02)

`genRankStep` / `genBallotStep` are the common shape of a ballot's step in meek, warren (`distRankStep`) and meek-prf (`prfRankStep`):
the rules differ only in how a keep factor divides a weight.  Conservation and the fields a distribution leaves alone (`DFrame`) are
proved for the common shape. -/
namespace Droop
variable {α : Type} [CommRing α] [LinearOrder α] [IsStrictOrderedRing α] (A : Arith α)

/-- the common shape of `distRankStep` and `prfRankStep`; `keep kf w` = (share kept, weight passed on) -/
def genRankStep (keep : α → α → α × α) (mult : α) (acc : St α × α × α × Bool) (cid : Nat) : St α × α × α × Bool :=
  if acc.2.2.2 then acc else
  match kfOf acc.1 cid with
  | some kf =>
    if A.isZero kf then acc else
    ((acc.1.addVote A cid (A.mulV (keep kf acc.2.1).1 mult), (keep kf acc.2.1).2, A.sub acc.2.2.1 (A.mulV (keep kf acc.2.1).1 mult),
      A.le (keep kf acc.2.1).2 A.zero))
  | none => acc

theorem distRankStep_gen (w : Bool) : distRankStep A w = genRankStep A (keepWeight A w) := by
  funext mult acc cid
  unfold distRankStep genRankStep
  rfl

theorem prfRankStep_gen : prfRankStep A = genRankStep A (fun kf w => (A.mul .up w kf, A.sub w (A.mul .up w kf))) := by
  funext mult acc cid
  unfold prfRankStep genRankStep
  rfl

def genBallotStep (keep : α → α → α × α) (s : St α) (b : Ballot α) : St α :=
  { (b.rank.foldl (genRankStep A keep (A.ofInt b.mult)) (s, A.one, A.ofInt b.mult, false)).1 with
    residual := A.add (b.rank.foldl (genRankStep A keep (A.ofInt b.mult)) (s, A.one, A.ofInt b.mult, false)).1.residual
                  (b.rank.foldl (genRankStep A keep (A.ofInt b.mult)) (s, A.one, A.ofInt b.mult, false)).2.2.1 }

theorem distBallotStep_gen (w : Bool) : distBallotStep A w = genBallotStep A (keepWeight A w) := by
  funext s b
  unfold distBallotStep genBallotStep
  rw [distRankStep_gen]

theorem prfBallotStep_gen : prfBallotStep A = genBallotStep A (fun kf w => (A.mul .up w kf, A.sub w (A.mul .up w kf))) := by
  funext s b
  unfold prfBallotStep genBallotStep
  rw [prfRankStep_gen]

/-- inner fold over one ballot's ranking: (Σ votes) + (the ballot's running residual) is constant, however a keep factor
    divides a weight -/
theorem genRankStep_sum (hA : LawfulArith A) (keep : α → α → α × α) (mult : α) (acc : St α × α × α × Bool) (cid : Nat)
    (hwf : acc.1.WF) :
    (genRankStep A keep mult acc cid).1.sumVotes + (genRankStep A keep mult acc cid).2.2.1 = acc.1.sumVotes + acc.2.2.1
    ∧ (genRankStep A keep mult acc cid).1.skel = acc.1.skel
    ∧ (genRankStep A keep mult acc cid).1.residual = acc.1.residual := by
  unfold genRankStep
  split
  · exact ⟨rfl, rfl, rfl⟩
  · cases hk : kfOf acc.1 cid with
    | none => exact ⟨rfl, rfl, rfl⟩
    | some kf =>
      simp only
      split
      · exact ⟨rfl, rfl, rfl⟩
      · have hsome : (acc.1.cand? cid).isSome := by
          unfold kfOf at hk
          cases hc : acc.1.cand? cid with
          | none => rw [hc] at hk; cases hk
          | some c => rfl
        refine ⟨?_, addVote_skel A _ _ _, rfl⟩
        simp only
        rw [sumVotes_addVote A hA _ _ _ hwf hsome, hA.sub_eq]
        ring

theorem foldl_genRankStep_sum (hA : LawfulArith A) (keep : α → α → α × α) (mult : α) (rank : List Nat)
    (acc : St α × α × α × Bool) (hwf : acc.1.WF) :
    (rank.foldl (genRankStep A keep mult) acc).1.sumVotes + (rank.foldl (genRankStep A keep mult) acc).2.2.1
      = acc.1.sumVotes + acc.2.2.1
    ∧ (rank.foldl (genRankStep A keep mult) acc).1.skel = acc.1.skel
    ∧ (rank.foldl (genRankStep A keep mult) acc).1.residual = acc.1.residual := by
  induction rank generalizing acc with
  | nil => exact ⟨rfl, rfl, rfl⟩
  | cons c cs ih =>
    simp only [List.foldl_cons]
    obtain ⟨h1, h2, h3⟩ := genRankStep_sum A hA keep mult acc c hwf
    obtain ⟨g1, g2, g3⟩ := ih (genRankStep A keep mult acc c) (WF_of_skel h2.symm hwf)
    exact ⟨g1.trans h1, g2.trans h2, g3.trans h3⟩

/-- one ballot: Σ votes + residual grows by exactly the ballot's multiplier -/
theorem genBallotStep_sum (hA : LawfulArith A) (keep : α → α → α × α) (s : St α) (b : Ballot α) (hwf : s.WF) :
    (genBallotStep A keep s b).sumVotes + (genBallotStep A keep s b).residual = s.sumVotes + s.residual + A.ofInt b.mult
    ∧ (genBallotStep A keep s b).skel = s.skel := by
  obtain ⟨h1, h2, h3⟩ := foldl_genRankStep_sum A hA keep (A.ofInt b.mult) b.rank (s, A.one, A.ofInt b.mult, false) hwf
  refine ⟨?_, h2⟩
  simp only at h1 h3
  show (b.rank.foldl (genRankStep A keep (A.ofInt b.mult)) (s, A.one, A.ofInt b.mult, false)).1.sumVotes + A.add _ _ = _
  rw [hA.add_eq, h3]
  linarith

/-- all ballots: votes credited + residual grow by exactly the number of ballots, whatever the keep factors are -/
theorem foldl_genBallotStep_sum (hA : LawfulArith A) (keep : α → α → α × α) (bs : List (Ballot α)) (s : St α) (hwf : s.WF) :
    (bs.foldl (genBallotStep A keep) s).sumVotes + (bs.foldl (genBallotStep A keep) s).residual
      = s.sumVotes + s.residual + (bs.map (fun b => A.ofInt b.mult)).sum
    ∧ (bs.foldl (genBallotStep A keep) s).skel = s.skel := by
  induction bs generalizing s with
  | nil => simp
  | cons b bs ih =>
    simp only [List.foldl_cons, List.map_cons, List.sum_cons]
    obtain ⟨h1, h2⟩ := genBallotStep_sum A hA keep s b hwf
    obtain ⟨g1, g2⟩ := ih (genBallotStep A keep s b) (WF_of_skel h2.symm hwf)
    exact ⟨by rw [g1, h1]; ring, g2.trans h2⟩

theorem distRankStep_sum (hA : LawfulArith A) (warren : Bool) (mult : α) (acc : St α × α × α × Bool) (cid : Nat)
    (hwf : acc.1.WF) :
    (distRankStep A warren mult acc cid).1.sumVotes + (distRankStep A warren mult acc cid).2.2.1
      = acc.1.sumVotes + acc.2.2.1
    ∧ (distRankStep A warren mult acc cid).1.skel = acc.1.skel
    ∧ (distRankStep A warren mult acc cid).1.residual = acc.1.residual := by
  rw [distRankStep_gen]
  exact genRankStep_sum A hA _ mult acc cid hwf

theorem distBallotStep_sum (hA : LawfulArith A) (warren : Bool) (s : St α) (b : Ballot α) (hwf : s.WF) :
    (distBallotStep A warren s b).sumVotes + (distBallotStep A warren s b).residual
      = s.sumVotes + s.residual + A.ofInt b.mult
    ∧ (distBallotStep A warren s b).skel = s.skel := by
  rw [distBallotStep_gen]
  exact genBallotStep_sum A hA _ s b hwf

theorem foldl_distBallotStep_sum (hA : LawfulArith A) (warren : Bool) (bs : List (Ballot α)) (s : St α) (hwf : s.WF) :
    (bs.foldl (distBallotStep A warren) s).sumVotes + (bs.foldl (distBallotStep A warren) s).residual
      = s.sumVotes + s.residual + (bs.map (fun b => A.ofInt b.mult)).sum
    ∧ (bs.foldl (distBallotStep A warren) s).skel = s.skel := by
  rw [distBallotStep_gen]
  exact foldl_genBallotStep_sum A hA _ bs s hwf

theorem startDist_skel (s : St α) : (startDist A s).skel = s.skel := by
  unfold startDist zeroActiveVotes St.setResidual St.skel
  simp only [List.map_map]
  apply List.map_congr_left
  intro c _
  simp only [Function.comp]
  split <;> rfl

/-- fields no step of a distribution touches -/
def DFrame (s t : St α) : Prop :=
  t.ballots = s.ballots ∧ t.ballotsEq = s.ballotsEq ∧ t.nballots = s.nballots ∧ t.method = s.method ∧ t.acts = s.acts

theorem DFrame.refl (s : St α) : DFrame s s := ⟨rfl, rfl, rfl, rfl, rfl⟩
theorem DFrame.trans {s t u : St α} (h1 : DFrame s t) (h2 : DFrame t u) : DFrame s u :=
  ⟨h2.1.trans h1.1, h2.2.1.trans h1.2.1, h2.2.2.1.trans h1.2.2.1, h2.2.2.2.1.trans h1.2.2.2.1, h2.2.2.2.2.trans h1.2.2.2.2⟩

theorem genRankStep_frame (keep : α → α → α × α) (mult : α) (acc : St α × α × α × Bool) (cid : Nat) :
    DFrame acc.1 (genRankStep A keep mult acc cid).1 := by
  unfold genRankStep
  split
  · exact DFrame.refl _
  · split
    · split
      · exact DFrame.refl _
      · exact ⟨rfl, rfl, rfl, rfl, rfl⟩
    · exact DFrame.refl _

theorem genBallotStep_frame (keep : α → α → α × α) (s : St α) (b : Ballot α) : DFrame s (genBallotStep A keep s b) := by
  have : ∀ (rank : List Nat) (acc : St α × α × α × Bool), DFrame acc.1 (rank.foldl (genRankStep A keep (A.ofInt b.mult)) acc).1 := by
    intro rank
    induction rank with
    | nil => intro acc; exact DFrame.refl _
    | cons c cs ih => intro acc; exact (genRankStep_frame A keep _ acc c).trans (ih _)
  exact this b.rank (s, A.one, A.ofInt b.mult, false)

theorem foldl_genBallotStep_frame (keep : α → α → α × α) (bs : List (Ballot α)) (s : St α) :
    DFrame s (bs.foldl (genBallotStep A keep) s) := by
  induction bs generalizing s with
  | nil => exact DFrame.refl _
  | cons b bs ih => exact (genBallotStep_frame A keep s b).trans (ih _)

theorem distStrict_frame (warren : Bool) (s : St α) : DFrame s (distStrict A warren s) := by
  unfold distStrict
  rw [distBallotStep_gen]
  exact foldl_genBallotStep_frame A _ _ s

theorem distStrict_ballotsEq (warren : Bool) (s : St α) : (distStrict A warren s).ballotsEq = s.ballotsEq :=
  (distStrict_frame A warren s).2.1

/-- without equal rankings a distribution is the strict ballots' fold over the zeroed state -/
theorem distributeVotes_strict (warren : Bool) (s : St α) (hq : s.ballotsEq = []) :
    distributeVotes A warren s = distStrict A warren (startDist A s) := by
  have hbe : (distStrict A warren (startDist A s)).ballotsEq = [] := (distStrict_ballotsEq A warren _).trans hq
  unfold distributeVotes distEqual
  rw [hbe]
  rfl

theorem distributeVotes_frame (warren : Bool) (s : St α) (hq : s.ballotsEq = []) : DFrame s (distributeVotes A warren s) := by
  rw [distributeVotes_strict A warren s hq]
  exact DFrame.trans (t := startDist A s) ⟨rfl, rfl, rfl, rfl, rfl⟩ (distStrict_frame A warren _)

/-- **after a Meek/Warren distribution over strict ballots: votes credited + residual = the tallies that were
    not zeroed + the number of ballots** — whatever the keep factors are (no hypothesis on kf, precision, omega). -/
theorem distributeVotes_sum (hA : LawfulArith A) (warren : Bool) (s : St α) (hwf : s.WF) (hq : s.ballotsEq = []) :
    (distributeVotes A warren s).sumVotes + (distributeVotes A warren s).residual
      = (startDist A s).sumVotes + (s.ballots.map (fun b => A.ofInt b.mult)).sum := by
  rw [distributeVotes_strict A warren s hq]
  have hwf1 : (startDist A s).WF := WF_of_skel (startDist_skel A s).symm hwf
  obtain ⟨h1, _⟩ := foldl_distBallotStep_sum A hA warren (startDist A s).ballots (startDist A s) hwf1
  unfold distStrict
  rw [h1]
  show _ + A.zero + (s.ballots.map _).sum = _
  rw [hA.zero_eq]; ring

end Droop
