import DroopProofs.QpqComm

/-! # C11 for QPQ: a withdrawn candidate is an absent candidate

`dropW` (delete the withdrawn candidates from the candidate list and from every snapshot) commutes with every stage of a QPQ
round, with the start and with the closing stage: the statuses are read through `hopeful` / `elected` / `isHopeful`, which are
blind to withdrawn candidates; the maps over the candidate list keep a withdrawn candidate withdrawn; the tally touches candidates
through updates that keep the status; elections and exclusions address hopeful candidates. -/
namespace Droop
variable {α : Type} [CommRing α] [LinearOrder α] [IsStrictOrderedRing α] (A : Arith α)

def dropQ (q : QSt α) : QSt α := { q with s := dropW q.s }

/-- a map over the candidate list that keeps "withdrawn or not" commutes with the deletion -/
theorem dropW_mapCands (s : St α) (f : Cand α → Cand α) (hf : ∀ c, nonW (f c) = nonW c) :
    dropW ({ s with cands := s.cands.map f } : St α) = { dropW s with cands := (dropW s).cands.map f } := by
  unfold dropW
  simp only
  congr 1
  rw [List.filter_map]
  congr 1
  apply List.filter_congr
  intro c _
  simp only [Function.comp, hf]

theorem qComm_dropW : QComm A (dropW (α := α)) True where
  step := stepComm_dropW A
  isHopeful := isHopeful_fun_dropW
  mapCands := dropW_mapCands
  mapB := fun _ _ _ => rfl
  setQuota := fun _ _ => rfl
  tallyB := fun _ _ => rfl
  vaSum := fun _ => rfl

theorem qpqBody_dropQ (q : QSt α) (hwf : q.s.WF) :
    qpqBody A (dropQ q) = (dropQ (qpqBody A q).1, (qpqBody A q).2) :=
  (qComm_dropW A).body q (fun _ => hwf)

theorem qpqLoop_dropQ : ∀ (fuel : Nat) (q : QSt α), q.s.WF → qpqLoop A fuel (dropQ q) = (qpqLoop A fuel q).map dropQ :=
  fun fuel q hwf => (qComm_dropW A).loop fuel q (fun _ => hwf)

theorem dropW_qpqFinish (q : QSt α) (hwf : q.s.WF) : dropW (qpqFinish A q) = qpqFinish A (dropQ q) :=
  (qComm_dropW A).finish q (fun _ => hwf)

theorem qpqLoop_succ : ∀ (fuel : Nat) (q r : QSt α), qpqLoop A fuel q = some r → qpqLoop A (fuel + 1) q = some r := by
  intro fuel
  induction fuel with
  | zero => intro q r h; cases h
  | succ n ih =>
    intro q r h
    by_cases hs : q.s.crash.isSome = true ∨ qpqCountComplete q.s = true
    · rw [qpqLoop_stop A _ q hs] at h ⊢
      exact h
    · have hc : q.s.crash.isSome = false := eq_false_of_ne_true (fun h => hs (Or.inl h))
      have hg : qpqCountComplete q.s = false := eq_false_of_ne_true (fun h => hs (Or.inr h))
      rw [qpqLoop_round A _ q hc hg] at h ⊢
      cases hq : qpqBody A q with
      | mk q' fl =>
        rw [hq] at h
        cases fl with
        | cont => exact ih q' r h
        | brk => exact h

theorem qpqLoop_le (f f' : Nat) (hle : f' ≤ f) (q r : QSt α) (h : qpqLoop A f' q = some r) : qpqLoop A f q = some r := by
  obtain ⟨k, rfl⟩ := Nat.exists_eq_add_of_le hle
  induction k with
  | zero => exact h
  | succ k ih => exact qpqLoop_succ A _ q r (ih (Nat.le_add_right _ _))

theorem WF_dropW' {s : St α} (hwf : s.WF) : (dropW s).WF := by
  unfold St.WF dropW at *
  exact List.Nodup.sublist ((List.filter_sublist).map _) hwf

/-- C11 for QPQ: counting the state with the withdrawn candidates deleted gives the count of the full state with the
    withdrawn candidates deleted — from the candidate list and from every snapshot of the record -/
theorem qpq_dropW (s0 : St α) (hwf : s0.WF) : qpqCount A (dropW s0) = (qpqCount A s0).map dropW := by
  have hwfd : (dropW s0).WF := WF_dropW' hwf
  obtain ⟨t', ht'⟩ := qpqCount_terminates A (dropW s0) hwfd
  rw [ht']
  rw [qpqCount_eq] at ht' ⊢
  have hlen : (dropW s0).cands.length ≤ s0.cands.length := by
    unfold dropW; exact List.length_filter_le _ _
  have hfuel : (dropW s0).cands.length * ((dropW s0).cands.length + 2) + 3 ≤ s0.cands.length * (s0.cands.length + 2) + 3 := by
    have := Nat.mul_le_mul hlen (Nat.add_le_add_right hlen 2)
    omega
  cases hl : qpqLoop A ((dropW s0).cands.length * ((dropW s0).cands.length + 2) + 3) (qpqStart A (dropW s0)) with
  | none => rw [hl] at ht'; cases ht'
  | some r' =>
    rw [hl] at ht'
    have hbig := qpqLoop_le A _ _ hfuel _ r' hl
    have := (qComm_dropW A).run s0 hwf (s0.cands.length * (s0.cands.length + 2) + 3)
    rw [hbig] at this
    rw [← this]
    exact ht'.symm

end Droop
