import DroopProofs.RunCommon

/-! # Once the record shows a candidate elected, the final state has that candidate elected

A consequence of the forward-only record (`Mon`) and the append-only log (`Ext`), for every rule whose run satisfies them:
if the newest snapshot of some state `s` on the way shows every entry of candidate `w` with an elected code, then any later
state `t` (its log extends that of `s`) with `Mon t` has a candidate with id `w`, and it is elected. -/
namespace Droop
variable {α : Type} [CommRing α] [LinearOrder α] [IsStrictOrderedRing α] (A : Arith α)

def AllEl (w : Nat) (sn : Snap α) : Prop := ∀ e ∈ sn.cs, e.1 = w → (e.2.1 = "e" ∨ e.2.1 = "E")
def HasC (w : Nat) (sn : Snap α) : Prop := ∃ e ∈ sn.cs, e.1 = w

theorem fwd_from_elected {a b : String} (ha : a = "e" ∨ a = "E") (h : fwd a b = true) : b = "e" ∨ b = "E" := by
  unfold fwd at h
  rcases ha with rfl | rfl
  · simp only [Bool.or_eq_true, beq_iff_eq, Bool.and_eq_true] at h
    rcases h with (h | h) | h
    · left; exact h.symm
    · exact absurd h.1 (by decide)
    · right; exact h.2
  · simp only [Bool.or_eq_true, beq_iff_eq, Bool.and_eq_true] at h
    rcases h with (h | h) | h
    · right; exact h.symm
    · exact absurd h.1 (by decide)
    · exact absurd h.1 (by decide)

theorem SnapStep.allEl {old new : Snap α} (h : SnapStep old new) {w : Nat} (ho : AllEl w old) : AllEl w new := by
  intro e' he' hw
  obtain ⟨e, he, h1, h2⟩ := h.1 e' he'
  exact fwd_from_elected (ho e he (h1.trans hw)) h2

theorem SnapStep.hasC {old new : Snap α} (h : SnapStep old new) {w : Nat} (ho : HasC w old) : HasC w new := by
  obtain ⟨e, he, hw⟩ := ho
  obtain ⟨e', he', h1⟩ := h.2 e he
  exact ⟨e', he', h1.trans hw⟩

/-- in a forward-only record (newest first), what an older snapshot shows as elected the newest one shows as elected -/
theorem RecMon.head_of_mem {w : Nat} : ∀ (tl : List (Snap α)) (hd old : Snap α), RecMon (hd :: tl) → old ∈ hd :: tl →
    AllEl w old → HasC w old → AllEl w hd ∧ HasC w hd := by
  intro tl
  induction tl with
  | nil =>
    intro hd old _ hmem h1 h2
    simp only [List.mem_singleton] at hmem
    subst hmem; exact ⟨h1, h2⟩
  | cons h2 tl ih =>
    intro hd old hrm hmem ha hc
    rcases List.mem_cons.1 hmem with rfl | hmem'
    · exact ⟨ha, hc⟩
    · obtain ⟨hstep, hrest⟩ := hrm
      obtain ⟨a2, c2⟩ := ih h2 old hrest hmem' ha hc
      exact ⟨hstep.allEl a2, hstep.hasC c2⟩

theorem snaps_suffix {s t : St α} (h : Ext s t) : snaps s.acts <:+ snaps t.acts := by
  unfold snaps; exact List.IsSuffix.filterMap _ h

/-- **sticky election**: `s` earlier than `t`, the newest snapshot of `s` shows `w` (present and) elected, the record of
    `t` is forward-only and its newest snapshot is behind `t`: then `t` has a candidate `w`, and it is elected -/
theorem elected_sticky {s t : St α} (hMt : Mon t) (hx : Ext s t) {w : Nat} (sn : Snap α)
    (hs : (snaps s.acts).head? = some sn) (hAll : AllEl w sn) (hHas : HasC w sn) :
    ∃ x ∈ t.cands, x.cid = w ∧ x.st = .elected := by
  have hsuf := snaps_suffix hx
  have hmem : sn ∈ snaps t.acts := by
    apply hsuf.subset
    cases hl : snaps s.acts with
    | nil => rw [hl] at hs; cases hs
    | cons a l => rw [hl] at hs; simp only [List.head?_cons, Option.some.injEq] at hs; rw [hs]; simp
  cases hl : snaps t.acts with
  | nil => rw [hl] at hmem; cases hmem
  | cons hd tl =>
    rw [hl] at hmem
    have hrm : RecMon (hd :: tl) := by have := hMt.1; rw [hl] at this; exact this
    obtain ⟨ha, hc⟩ := RecMon.head_of_mem tl hd sn hrm hmem hAll hHas
    have hb := hMt.2 hd (by rw [hl]; rfl)
    obtain ⟨e, he, hew⟩ := hc
    obtain ⟨x, hx', hxe⟩ := hb.2 e he
    refine ⟨x, hx', hxe.trans hew, ?_⟩
    obtain ⟨e2, he2, h1, _, h3⟩ := hb.1 x hx'
    have hcode := fwd_from_elected (ha e2 he2 (h1.trans (hxe.trans hew))) h3
    unfold Cand.code at hcode
    cases hst : x.st with
    | elected => rfl
    | hopeful => rw [hst] at hcode; simp at hcode
    | defeated => rw [hst] at hcode; simp at hcode
    | withdrawn => rw [hst] at hcode; simp at hcode

theorem mkSnap_logAct (s : St α) (tag verb : String) (subj : List Nat) :
    (s.logAct A tag verb subj).mkSnap A = s.mkSnap A := by
  unfold St.logAct; simp only; split <;> rfl

theorem head_snap_logAct (s : St α) (tag verb : String) (subj : List Nat) :
    (snaps (s.logAct A tag verb subj).acts).head? = some (s.mkSnap A) := by
  unfold St.logAct snaps; simp only; split <;> rfl

theorem head_snap_elect (s : St α) (cid : Nat) (verb : String) (p : Bool) :
    (snaps (s.elect A cid verb p).acts).head? = some ((s.elect A cid verb p).mkSnap A) := by
  unfold St.elect; rw [head_snap_logAct, mkSnap_logAct]

theorem head_snap_foldElect (ws : List (Cand α)) (hne : ws ≠ []) (verb : Cand α → String) (pend : Cand α → Bool) (s : St α) :
    (snaps (ws.foldl (fun acc x => acc.elect A x.cid (verb x) (pend x)) s).acts).head?
      = some ((ws.foldl (fun acc x => acc.elect A x.cid (verb x) (pend x)) s).mkSnap A) := by
  induction ws generalizing s with
  | nil => exact absurd rfl hne
  | cons x xs ih =>
    simp only [List.foldl_cons]
    cases xs with
    | nil => simp only [List.foldl_nil]; exact head_snap_elect A s x.cid _ _
    | cons y ys => exact ih (by simp) _

theorem allEl_mkSnap {s : St α} {w : Nat} (h : ∀ c ∈ s.cands, c.cid = w → c.st = .elected) : AllEl w (s.mkSnap A) := by
  intro e he hw
  unfold St.mkSnap at he
  obtain ⟨c, hc, rfl⟩ := List.mem_map.1 he
  have := h c hc hw
  simp only [Cand.code, this]
  split
  · left; rfl
  · right; rfl

theorem hasC_mkSnap {s : St α} {w : Nat} (h : ∃ c ∈ s.cands, c.cid = w) : HasC w (s.mkSnap A) := by
  obtain ⟨c, hc, hw⟩ := h
  refine ⟨(c.cid, c.code s.method, c.vote, c.kf, c.quotient), ?_, hw⟩
  unfold St.mkSnap
  exact List.mem_map.2 ⟨c, hc, rfl⟩

end Droop
