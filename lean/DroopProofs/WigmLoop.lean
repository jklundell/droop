import DroopProofs.InvInit
import DroopProofs.SeatsLoop

/-! # The main loop of wigm / wigm-prf without batch exclusions: C01 and C09 at run level

Every round is a `GStep` and lowers the measure `mu` or raises the crash flag.  Hence the elected never exceed the seats, the
count returns, it ends with exactly `seats` elected and nobody hopeful, and no status moves backwards in the record. -/
namespace Droop
variable {α : Type} [CommRing α] [LinearOrder α] [IsStrictOrderedRing α] (A : Arith α)


variable {A} in
theorem GStep.invE {s t : St α} (hs : GStep A s t) (h : InvE A s) : InvE A t := ⟨hs.inv, hs.ehq h.2⟩

theorem InvE.foldElect {s : St α} (h : InvE A s) (ws : List (Cand α)) (verb : Cand α → String) (pend : Cand α → Bool)
    (hnd : (ws.map (·.cid)).Nodup)
    (hw : ∀ w ∈ ws, w ∈ s.cands ∧ w.st = .hopeful ∧ s.quota ≤ w.vote) :
    InvE A (ws.foldl (fun acc c => acc.elect A c.cid (verb c) (pend c)) s) :=
  (gstep_foldElect A h.1 ws verb pend hnd hw).invE h

theorem InvE.electWinners {s : St α} (h : InvE A s) (hasQ : St α → Cand α → Bool) (pend : St α → Cand α → Bool)
    (verb : St α → Cand α → String) (hsound : ∀ c, hasQ s c = true → s.quota ≤ c.vote) :
    InvE A (Droop.electWinners A hasQ pend verb s) :=
  (gstep_electWinners A h.1 hasQ pend verb hsound).invE h

theorem InvE.wigmSurplusStep (hA : LawfulArith A) {s : St α} (h : InvE A s) : InvE A (Droop.wigmSurplusStep A s) :=
  (gstep_wigmSurplusStep A hA h.1).invE h

theorem InvE.wigmDefeatStep1 (hA : LawfulArith A) (o : WigmOpts) (hz : o.batchZero = false) {s : St α} (h : InvE A s) :
    InvE A (Droop.wigmDefeatStep A o s) :=
  (gstep_wigmDefeatStep A hA o hz h.1).invE h

theorem InvE.wigmBody (hA : LawfulArith A) (o : WigmOpts) (ho : o.plain) (hex : o.prf = true → A.exact = false)
    {s : St α} (h : InvE A s) : InvE A (Droop.wigmBody A o s).1 :=
  (gstep_wigmBody A hA o ho hex h.1).invE h

/-- C09 (seats never over-committed), wigm / wigm-prf without batch exclusions: whenever the main loop stops, the elected do
    not exceed the seats -/
theorem wigm_loop_elected_le_seats (hA : LawfulArith A) (o : WigmOpts) (ho : o.plain)
    (hex : o.prf = true → A.exact = false) (s0 s4 : St α)
    (hinit : InvE A (wigmInit A o s0)) (hd : DroopQuota A (wigmInit A o s0))
    (hl : loopN stdGuard (wigmBody A o) (2 * s0.cands.length + 3) (wigmInit A o s0) = some s4) :
    s4.elected.length ≤ s4.seats := by
  have hP := loopN_preserves_guard (fun s => InvE A s ∧ DroopQuota A s) stdGuard (wigmBody A o)
    (fun s hs _ => ⟨hs.1.wigmBody A hA o ho hex, hs.2.of_frame A (frame_wigmBody A o s)⟩) _ _ _ ⟨hinit, hd⟩ hl
  exact elected_le_seats A hP.1.1 hP.1.2 hP.2


/-- a candidate in scope stays in scope (under its id) while others are elected with transfer pending -/
theorem inScope_foldElect (ws : List (Cand α)) (verb : Cand α → String) (s : St α) (cid : Nat)
    (h : ∃ c ∈ s.cands, c.cid = cid ∧ c.inScope) :
    ∃ c ∈ (ws.foldl (fun acc c => acc.elect A c.cid (verb c) true) s).cands, c.cid = cid ∧ c.inScope := by
  induction ws generalizing s with
  | nil => exact h
  | cons w ws ih =>
    simp only [List.foldl_cons]
    apply ih
    obtain ⟨c, hc, hcid, hact⟩ := h
    unfold St.elect; rw [logAct_cands]
    by_cases he : c.cid = w.cid
    · exact ⟨_, mem_upd_of_eq (f := fun x => { x with st := .elected, pending := true }) hc he, hcid, Or.inr ⟨rfl, rfl⟩⟩
    · exact ⟨c, mem_upd_of_ne hc he, hcid, hact⟩

theorem guard_hopeful_ne (s : St α) (h : stdGuard s = true) : s.hopeful ≠ [] := by
  unfold stdGuard at h
  simp only [Bool.and_eq_true, decide_eq_true_eq] at h
  intro hn
  rw [hn] at h
  simp only [List.length_nil] at h
  omega

theorem ne_nil_of_not_isEmpty {β : Type} {l : List β} (h : (!l.isEmpty) = true) : l ≠ [] := by
  intro e; rw [e] at h; cases h

theorem eq_nil_of_not_not_isEmpty {β : Type} {l : List β} (h : ¬ (!l.isEmpty) = true) : l = [] := by
  cases l with
  | nil => rfl
  | cons x xs => exact absurd rfl h

theorem wigmBody_progress (hA : LawfulArith A) (o : WigmOpts) (ho : o.plain) (hex : o.prf = true → A.exact = false)
    {s : St α} (hI : Inv A s) (hg : stdGuard s = true) :
    mu (wigmBody A o s).1 < mu s ∨ (wigmBody A o s).1.crash.isSome = true := by
  have h2 := gstep_wigmRoundElect A hA o hex hI
  unfold wigmBody
  rw [wigmAfterElect_plain A o ho]
  dsimp only
  split
  · rename_i hp
    exact (wigmSurplusStep_progress A h2.inv (ne_nil_of_not_isEmpty hp)).imp_left (fun h => Nat.lt_of_lt_of_le h h2.mu)
  · split
    · rename_i _ hh
      exact (wigmDefeatStep_progress A o ho.1 h2.inv (ne_nil_of_not_isEmpty hh)).imp_left
        (fun h => Nat.lt_of_lt_of_le h h2.mu)
    · -- impossible: the guard gives a hopeful candidate, and the election step only turns hopefuls into elected with a
      -- transfer pending, so somebody is still hopeful or pending
      rename_i hp hh
      exfalso
      obtain ⟨c, hc⟩ := List.exists_mem_of_ne_nil _ (guard_hopeful_ne s hg)
      obtain ⟨hcm, hch⟩ := mem_hopeful.1 hc
      obtain ⟨c', hc'm, _, hact⟩ : ∃ c' ∈ (wigmElect A o (s.newRound A)).cands, c'.cid = c.cid ∧ c'.inScope :=
        inScope_foldElect A _ (fun _ => "Elect, transfer pending") (s.newRound A) c.cid
          ⟨c, by unfold St.newRound; rw [logAct_cands]; exact hcm, rfl, Or.inl hch⟩
      rcases hact with hho | ⟨hel, hpe⟩
      · have hmem := mem_hopeful.2 ⟨hc'm, hho⟩
        rw [eq_nil_of_not_not_isEmpty hh] at hmem
        cases hmem
      · have hmem := mem_pendingL.2 ⟨hc'm, hel, hpe⟩
        rw [eq_nil_of_not_not_isEmpty hp] at hmem
        cases hmem

theorem wigmInit_cands_length (o : WigmOpts) (s0 : St α) : (wigmInit A o s0).cands.length = s0.cands.length := by
  have : (wigmInit A o s0).skel = s0.skel := by
    unfold wigmInit
    unfold St.skel; rw [logAct_cands]
    show ((firstCount A (s0.setQuota (wigmQuota A o s0))).setExhausted A.zero).skel = _
    rw [firstCount_eq]
    exact (foldl_fcStep_skel A _ _)
  have h2 := congrArg List.length this
  unfold St.skel at h2; simpa using h2

/-- C01 (termination), wigm / wigm-prf without batch exclusions: the fuelled loop of the model returns, so the count does -/
theorem wigmCount_terminates (hA : LawfulArith A) (o : WigmOpts) (ho : o.plain) (hex : o.prf = true → A.exact = false)
    (s0 : St α) (h0 : Init A s0) (hq : 0 < wigmQuota A o s0) : ∃ t, wigmCount A o s0 = some t := by
  have hinit := Inv.wigmInit A hA o h0 hq
  have hfuel : mu (wigmInit A o s0) + 2 ≤ 2 * s0.cands.length + 3 := by
    have := mu_le_two_mul (wigmInit A o s0)
    rw [wigmInit_cands_length] at this
    omega
  obtain ⟨t, ht⟩ := loopN_terminates (guard := stdGuard) (body := wigmBody A o) mu (Inv A)
    (fun s hs _ _ => hs.wigmBody A hA o ho hex)
    (fun s hs hg _ => wigmBody_progress A hA o ho hex hs hg)
    (2 * s0.cands.length + 3) (wigmInit A o s0) hinit (by omega) (Or.inr hfuel)
  exact ⟨epilogueElectOrDefeat A t, by unfold wigmCount; rw [ht]⟩


/-- J1: if more candidates than seats remain when a round starts (the loop guard), at least `seats` remain after it:
    the election step and a surplus transfer change no count, an exclusion takes out one candidate -/
theorem J1_wigmBody (hA : LawfulArith A) (o : WigmOpts) (ho : o.plain) (hex : o.prf = true → A.exact = false)
    {s : St α} (hI : Inv A s) (hg : s.seats < sumHE s) : (wigmBody A o s).1.seats ≤ sumHE (wigmBody A o s).1 := by
  rw [(frame_wigmBody A o s).2.1]
  have h2 : sumHE (wigmElect A o (s.newRound A)) = sumHE s :=
    (electWinners_sumHE A (hI.newRound A) _ _ _ (wigm_hasQ_sound A hA o hex _)).trans (sumHE_newRound A s)
  unfold wigmBody
  rw [wigmAfterElect_plain A o ho]
  dsimp only
  split
  · rw [sumHE_wigmSurplusStep, h2]; omega
  · split
    · have := sumHE_wigmDefeatStep A o ho.1 (gstep_wigmRoundElect A hA o hex hI).inv
      omega
    · rw [h2]; omega


theorem wigmBody_cont (o : WigmOpts) (ho : o.plain) (s : St α) : (wigmBody A o s).2 = .cont := by
  unfold wigmBody; rw [wigmAfterElect_plain A o ho]

theorem crash_epilogue (s : St α) : (epilogueElectOrDefeat A s).crash = s.crash := by
  unfold epilogueElectOrDefeat
  refine (foldl_proj St.crash _ ?_ _ _).trans (crash_foldUnpend _ s)
  intro acc c
  split
  · exact crash_elect A acc c.cid _ _
  · exact crash_defeat A acc c.cid _

/-- C01, wigm / wigm-prf without batch exclusions: the count returns; if it did not crash, exactly `seats` candidates are
    elected and no candidate is left hopeful -/
theorem wigm_seats_filled (hA : LawfulArith A) (o : WigmOpts) (ho : o.plain) (hex : o.prf = true → A.exact = false)
    (s0 : St α) (h0 : Init A s0) (hq : 0 < wigmQuota A o s0)
    (hE : ElectedHoldQuota (wigmInit A o s0)) (hD : DroopQuota A (wigmInit A o s0))
    (hJ : (wigmInit A o s0).seats ≤ sumHE (wigmInit A o s0)) :
    ∃ t, wigmCount A o s0 = some t ∧ (t.crash = none → nEl t = t.seats ∧ nHop t = 0) := by
  obtain ⟨t, ht⟩ := wigmCount_terminates A hA o ho hex s0 h0 hq
  refine ⟨t, ht, ?_⟩
  intro hcr
  unfold wigmCount at ht
  cases hl : loopN stdGuard (wigmBody A o) (2 * s0.cands.length + 3) (wigmInit A o s0) with
  | none => rw [hl] at ht; cases ht
  | some s4 =>
    rw [hl] at ht; cases ht
    have hinit := Inv.wigmInit A hA o h0 hq
    have hP := loopN_preserves_guard (fun s => (InvE A s ∧ DroopQuota A s) ∧ s.seats ≤ sumHE s) stdGuard (wigmBody A o)
      (fun s hs hg => ⟨⟨hs.1.1.wigmBody A hA o ho hex, hs.1.2.of_frame A (frame_wigmBody A o s)⟩,
                      J1_wigmBody A hA o ho hex hs.1.1.1 (guard_strict s hg)⟩)
      _ _ _ ⟨⟨⟨hinit, hE⟩, hD⟩, hJ⟩ hl
    obtain ⟨⟨hIE, hDQ⟩, hJ1⟩ := hP
    have hJ2 : nEl s4 ≤ s4.seats := elected_le_seats A hIE.1 hIE.2 hDQ
    rw [crash_epilogue] at hcr
    have hguard := loopN_exit_guard stdGuard (wigmBody A o) (wigmBody_cont A o ho) _ _ _ hl hcr
    -- the guard is false: the seats are full, or exactly the hopefuls will fill them
    have hfill : nEl s4 = s4.seats ∨ nHop s4 + nEl s4 = s4.seats := by
      unfold stdGuard St.seatsLeft at hguard
      simp only [Bool.and_eq_false_iff, decide_eq_false_iff_not, not_lt] at hguard
      unfold sumHE at hJ1
      unfold nHop nEl at *
      rcases hguard with h | h
      · right; omega
      · left; omega
    unfold epilogueElectOrDefeat
    obtain ⟨u1, u2, u3⟩ := counts_foldUnpend s4.pendingL s4
    have hIu := hIE.1.foldUnpend A s4.pendingL
    have := foldRemaining_counts A hIu (s4.pendingL.foldl (fun acc c => acc.unpendSilent c.cid) s4).hopeful
      (hopeful_cids_nodup hIu.wf) (fun w hw => mem_hopeful.1 hw) rfl (by rw [u1, u2, u3]; exact hfill)
    exact ⟨this.2, this.1⟩


variable {A} in
theorem GStep.invM {s t : St α} (hs : GStep A s t) (h : InvM A s) : InvM A t := ⟨hs.inv, hs.mon h.2⟩

theorem InvM.foldElect {s : St α} (h : InvM A s) (ws : List (Cand α)) (verb : Cand α → String) (pend : Cand α → Bool)
    (hnd : (ws.map (·.cid)).Nodup)
    (hw : ∀ w ∈ ws, w ∈ s.cands ∧ w.st = .hopeful ∧ (pend w = true → s.quota ≤ w.vote)) :
    InvM A (ws.foldl (fun acc c => acc.elect A c.cid (verb c) (pend c)) s) :=
  ⟨(foldElect_good A h.1 ws verb pend hnd hw).1, (foldElect_good A h.1 ws verb pend hnd hw).2.1 h.2⟩

theorem InvM.wigmElect (hA : LawfulArith A) (o : WigmOpts) (hex : o.prf = true → A.exact = false) {s : St α}
    (h : InvM A s) : InvM A (Droop.wigmElect A o s) :=
  (gstep_wigmElect A hA o hex h.1).invM h

theorem InvM.wigmSurplusStep (hA : LawfulArith A) {s : St α} (h : InvM A s) : InvM A (Droop.wigmSurplusStep A s) :=
  (gstep_wigmSurplusStep A hA h.1).invM h

theorem InvM.wigmDefeatStep1 (hA : LawfulArith A) (o : WigmOpts) (hz : o.batchZero = false) {s : St α} (h : InvM A s) :
    InvM A (Droop.wigmDefeatStep A o s) :=
  (gstep_wigmDefeatStep A hA o hz h.1).invM h

theorem InvM.wigmBody (hA : LawfulArith A) (o : WigmOpts) (ho : o.plain) (hex : o.prf = true → A.exact = false)
    {s : St α} (h : InvM A s) : InvM A (Droop.wigmBody A o s).1 :=
  (gstep_wigmBody A hA o ho hex h.1).invM h

/-- C09 (status only moves forward), wigm / wigm-prf without batch exclusions: between two consecutive snapshots of the record
    every status is unchanged or moves hopeful → elected(-pending) → elected, or hopeful → defeated -/
theorem wigm_loop_record_monotone (hA : LawfulArith A) (o : WigmOpts) (ho : o.plain)
    (hex : o.prf = true → A.exact = false) (s0 s4 : St α) (hinit : InvM A (wigmInit A o s0))
    (hl : loopN stdGuard (wigmBody A o) (2 * s0.cands.length + 3) (wigmInit A o s0) = some s4) :
    RecMon (snaps s4.acts) :=
  (loopN_preserves_guard (InvM A) stdGuard (wigmBody A o) (fun _ hs _ => hs.wigmBody A hA o ho hex) _ _ _ hinit hl).2.1

end Droop
