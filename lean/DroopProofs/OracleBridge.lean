import DroopModel.Oracles
import DroopProofs.InvInit

/-! # Last mile: the Boolean predicate the driver evaluates is implied by the invariant (C02 upper half, non-negativity) -/
namespace Droop
variable {α : Type} [CommRing α] [LinearOrder α] [IsStrictOrderedRing α] (A : Arith α)

/-- what the Boolean check needs from the arithmetic beyond `LawfulArith` -/
structure LawfulRaw (A : Arith α) : Prop where
  ltRaw_iff : ∀ a b, A.ltRaw a b = true ↔ a < b

theorem snapUpperB_of_snapOK (hA : LawfulArith A) (hR : LawfulRaw A) (nb : Nat) (sn : Snap α)
    (h : SnapOK A nb sn) : snapUpperB A nb sn = true := by
  obtain ⟨h1, h2, h3⟩ := h
  unfold snapUpperB
  simp only [Bool.and_eq_true, Bool.not_eq_true', List.all_eq_true]
  refine ⟨⟨?_, ?_⟩, ?_⟩
  · rw [Bool.eq_false_iff]; intro hlt
    rw [hR.ltRaw_iff, arith_sum_eq A hA, hA.add_eq, hA.ofInt_eq] at hlt
    have : ((nb : Int) : α) = ((nb : Nat) : Int) := rfl
    linarith
  · intro e he
    rw [Bool.eq_false_iff]; intro hlt
    rw [hR.ltRaw_iff, hA.zero_eq] at hlt
    have := h2 e (List.mem_of_mem_filter he)
    linarith
  · rw [Bool.eq_false_iff]; intro hlt
    rw [hR.ltRaw_iff, hA.zero_eq] at hlt
    linarith

theorem recUpperB_of_recOK (hA : LawfulArith A) (hR : LawfulRaw A) (s : St α) (h : RecOK A s) :
    recUpperB A s.nballots s.acts = true := by
  unfold recUpperB
  rw [List.all_eq_true]
  intro a ha
  cases hs : a.snap with
  | none => rfl
  | some sn => exact snapUpperB_of_snapOK A hA hR _ sn (h a ha sn hs)

/-- C02 (upper half and non-negativity) as the harness checks it: for wigm / wigm-prf without batch exclusions the Boolean
    predicate evaluates to `true` on the complete record of every count -/
theorem wigm_C02_upper_check (hA : LawfulArith A) (hR : LawfulRaw A) (o : WigmOpts) (ho : o.plain)
    (hex : o.prf = true → A.exact = false) (s0 t : St α) (h0 : Init A s0) (hq : 0 < wigmQuota A o s0)
    (h : wigmCount A o s0 = some t) :
    recUpperB A (t.logAct A "end" "Count Complete" []).nballots (t.logAct A "end" "Count Complete" []).acts = true :=
  recUpperB_of_recOK A hA hR _ (wigm_conservation A hA o ho hex s0 t h0 hq h).recOK

theorem fixed_lawfulRaw (p : Nat) : LawfulRaw (fixedArith p) := ⟨fun a b => by simp [fixedArith]⟩

end Droop
