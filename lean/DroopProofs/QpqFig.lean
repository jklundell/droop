import DroopProofs.LawfulMore
import DroopProofs.QpqMon

/-! # What the QPQ tally leaves in the decision state, for every lawful arithmetic

For every hopeful candidate `c` of the state a round's decision is taken in: `c.vote` is the number of ballots standing with `c`
(in units of the arithmetic), `c.tc` the contributions of those ballots, `c.quotient` the quotient of the two as the rule computes
it; the active total is the number of ballots standing with anybody, the exhausted total the contributions of the others. -/
namespace Droop
variable {α : Type} [CommRing α] [LinearOrder α] [IsStrictOrderedRing α] (A : Arith α)

def topWg (bs : List (Ballot α)) (k : Nat) : α := (bs.map (fun b => if b.top = some k then b.w * ((b.mult : Int) : α) else 0)).sum
def topMg (bs : List (Ballot α)) (k : Nat) : α :=
  (bs.map (fun b => if b.top = some k then ((b.mult : Int) : α) * A.one else 0)).sum
def activeMg (bs : List (Ballot α)) : α := (bs.map (fun b => if b.top = none then 0 else ((b.mult : Int) : α) * A.one)).sum
def exhWg (bs : List (Ballot α)) : α := (bs.map (fun b => if b.top = none then b.w * ((b.mult : Int) : α) else 0)).sum

theorem qTally_cands (hA : LawfulArith A) (acc : QSt α) (b : Ballot α) :
    (qTally A acc b).s.cands = acc.s.cands.map (fun x =>
      { x with tc := x.tc + (if b.top = some x.cid then b.w * ((b.mult : Int) : α) else 0),
               vote := x.vote + (if b.top = some x.cid then ((b.mult : Int) : α) * A.one else 0) }) := by
  unfold qTally
  cases hb : b.top with
  | none =>
    simp only [reduceCtorEq, if_false, add_zero]
    exact (List.map_id'' (fun _ => rfl) _).symm
  | some c =>
    show acc.s.cands.map _ = _
    apply List.map_congr_left
    intro x _
    by_cases hx : x.cid = c
    · simp only [hx, beq_self_eq_true, if_true, hA.mulV_ofInt]
      simp only [hA.add_eq, hA.ofInt_eq]
    · have h1 : (x.cid == c) = false := by simpa using hx
      have h2 : ¬ (some c = some x.cid) := fun e => hx (Option.some.inj e).symm
      simp only [h1, Bool.false_eq_true, if_false, h2, add_zero]

theorem qTally_totals_gen (hA : LawfulArith A) (acc : QSt α) (b : Ballot α) :
    (qTally A acc b).va = acc.va + (if b.top = none then 0 else ((b.mult : Int) : α) * A.one)
    ∧ (qTally A acc b).tx = acc.tx + (if b.top = none then b.w * ((b.mult : Int) : α) else 0) := by
  unfold qTally
  cases hb : b.top with
  | none => simp only [if_true, add_zero, hA.add_eq, hA.mulV_ofInt]; exact ⟨trivial, trivial⟩
  | some c =>
    have : ¬ (some c = (none : Option Nat)) := by simp
    simp only [this, if_false, add_zero, hA.add_eq, hA.ofInt_eq]; exact ⟨trivial, trivial⟩

theorem foldl_qTally_cands (hA : LawfulArith A) (bs : List (Ballot α)) : ∀ (acc : QSt α),
    (bs.foldl (qTally A) acc).s.cands
      = acc.s.cands.map (fun x => { x with tc := x.tc + topWg bs x.cid, vote := x.vote + topMg A bs x.cid }) := by
  induction bs with
  | nil =>
    intro acc
    simp only [List.foldl_nil, topWg, topMg, List.map_nil, List.sum_nil, add_zero]
    exact (List.map_id'' (fun _ => rfl) _).symm
  | cons b bs ih =>
    intro acc
    simp only [List.foldl_cons]
    rw [ih, qTally_cands A hA, List.map_map]
    apply List.map_congr_left
    intro x _
    simp only [Function.comp, topWg, topMg, List.map_cons, List.sum_cons]
    congr 1 <;> ring

theorem foldl_qTally_totals_gen (hA : LawfulArith A) (bs : List (Ballot α)) : ∀ (acc : QSt α),
    (bs.foldl (qTally A) acc).va = acc.va + activeMg A bs ∧ (bs.foldl (qTally A) acc).tx = acc.tx + exhWg bs := by
  induction bs with
  | nil => intro acc; simp [activeMg, exhWg]
  | cons b bs ih =>
    intro acc
    simp only [List.foldl_cons]
    obtain ⟨a1, a2⟩ := ih (qTally A acc b)
    obtain ⟨b1, b2⟩ := qTally_totals_gen A hA acc b
    rw [a1, a2, b1, b2]
    simp only [activeMg, exhWg, List.map_cons, List.sum_cons]
    constructor <;> ring

theorem qR5_ballots_gen (q : QSt α) : (qR5 A q).ballots = (qR2 A q).ballots := by
  obtain ⟨_, ⟨_, _, h⟩, _⟩ := qR5_frame A q
  rw [h]

/-- every hopeful candidate of the decision state carries the figures of the ballots standing with it -/
theorem qR5_figures_gen (hA : LawfulArith A) (q : QSt α) (hwf : q.s.WF) (c : Cand α) (hc : c ∈ (qR5 A q).hopeful) :
    c.vote = topMg A (qR2 A q).ballots c.cid ∧ c.tc = topWg (qR2 A q).ballots c.cid
      ∧ c.quotient = some (A.divV c.vote (A.add A.one c.tc)) := by
  obtain ⟨hcm, hch⟩ := mem_hopeful.1 hc
  have e5 : (qR5 A q).cands = (qR4 A q).cands := by
    unfold qR5
    split
    · exact (setCrash_frame _ _).1
    · rfl
  -- `c` comes from a candidate `y` of `qR2` by three maps: zero the hopefuls, tally, set the quotients
  rw [e5] at hcm
  unfold qR4 at hcm
  obtain ⟨c0, hc0, rfl⟩ := List.mem_map.1 hcm
  have hq : (qQ1 A q).s.cands = _ :=
    foldl_qTally_cands A hA (qR3 A q).ballots { s := qR3 A q, va := A.zero, tx := A.zero, restart := false }
  rw [hq] at hc0
  obtain ⟨x, hx, rfl⟩ := List.mem_map.1 hc0
  unfold qR3 at hx
  obtain ⟨y, _, rfl⟩ := List.mem_map.1 hx
  have hb3 : (qR3 A q).ballots = (qR2 A q).ballots := rfl
  by_cases hy : (y.st == CState.hopeful) = true
  · simp only [hy, if_true, hb3, hA.zero_eq, zero_add]
    exact ⟨trivial, trivial, trivial⟩
  · simp only [hy, Bool.false_eq_true, if_false] at hch
    exact absurd (by simpa using hch) hy

theorem qR5_quota_gen (hA : LawfulArith A) (q : QSt α) :
    (qR5 A q).quota = A.divV (activeMg A (qR2 A q).ballots) (A.sub (A.ofInt (1 + (qR2 A q).seats)) (exhWg (qR2 A q).ballots)) := by
  have htot := foldl_qTally_totals_gen A hA (qR3 A q).ballots { s := qR3 A q, va := A.zero, tx := A.zero, restart := false }
  have hva : (qQ1 A q).va = activeMg A (qR2 A q).ballots := by
    show ((qR3 A q).ballots.foldl (qTally A) _).va = _
    rw [htot.1]; simp only [hA.zero_eq, zero_add]; rfl
  have htx : (qQ1 A q).tx = exhWg (qR2 A q).ballots := by
    show ((qR3 A q).ballots.foldl (qTally A) _).tx = _
    rw [htot.2]; simp only [hA.zero_eq, zero_add]; rfl
  have hs4 : (qR4 A q).seats = (qR2 A q).seats := by
    show (qQ1 A q).s.seats = _
    unfold qQ1
    rw [foldl_qTally_seats]
    rfl
  have hq : (qpqQuota A { qQ1 A q with s := qR4 A q }).1
      = A.divV (activeMg A (qR2 A q).ballots) (A.sub (A.ofInt (1 + (qR2 A q).seats)) (exhWg (qR2 A q).ballots)) := by
    unfold qpqQuota
    simp only
    rw [hva, htx, hs4]
  unfold qR5
  split
  · rw [(setCrash_frame _ _).2.2.2.1]; exact hq
  · exact hq

end Droop
