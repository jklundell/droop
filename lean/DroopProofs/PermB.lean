import DroopProofs.StepComm
import Mathlib.Data.List.Perm.Basic

/-! # C10: reordering the ballot lines commutes with the primitive writes of a count

`π` is a *natural* permutation of lists — it rearranges positions without looking at the entries (`NatPerm`: it commutes with
`List.map` and yields a permutation); `permB π s` is the state with the ballot lines, and the ballot views recorded with the
actions, rearranged by `π`.  The only steps that read the ballot list are the first count and `transferAll`, both folds whose
effect on the candidates is a sum of per-ballot contributions: rearranging the list does not change the resulting state.
`XF` is what a transformation of the ballot list must satisfy for that argument; splitting a line satisfies it too. -/
namespace Droop
variable {α : Type} [CommRing α] [LinearOrder α] [IsStrictOrderedRing α] (A : Arith α)

structure NatPerm (π : ∀ {β : Type}, List β → List β) : Prop where
  nat : ∀ {β γ : Type} (f : β → γ) (l : List β), π (l.map f) = (π l).map f
  perm : ∀ {β : Type} (l : List β), (π l).Perm l

variable (fb : List (Ballot α) → List (Ballot α)) (fw : List (Nat × α) → List (Nat × α))

def xB (s : St α) : St α :=
  { s with ballots := fb s.ballots, acts := s.acts.map (fun a => { a with ws := fw a.ws }) }

/-- the state after one step of the `transferAll` fold (the list component of the accumulator does not matter) -/
def tstate (cids : List Nat) (rew : α → α) (st : St α) (b : Ballot α) : St α := (tstep A cids rew (st, []) b).1

theorem tstep_fst (cids : List Nat) (rew : α → α) (acc : St α × List (Ballot α)) (b : Ballot α) :
    (tstep A cids rew acc b).1 = tstate A cids rew acc.1 b := by
  unfold tstate tstep
  cases b.top with
  | none => rfl
  | some c => simp only; split <;> rfl

theorem foldl_tstep_fst (cids : List Nat) (rew : α → α) (bs : List (Ballot α)) (acc : St α × List (Ballot α)) :
    (bs.foldl (tstep A cids rew) acc).1 = bs.foldl (tstate A cids rew) acc.1 := by
  induction bs generalizing acc with
  | nil => rfl
  | cons b bs ih => simp only [List.foldl_cons]; rw [ih, tstep_fst]

/-- an effect on the state: credit `v` to candidate `c`, or to the non-transferable total -/
def applyEff (st : St α) (e : Option (Option Nat × α)) : St α :=
  match e with
  | none => st
  | some (some c, v) => st.addVote A c v
  | some (none, v) => { st with exhausted := A.add st.exhausted v }

def effOf (h : Nat → Bool) (cids : List Nat) (rew : α → α) (b : Ballot α) : Option (Option Nat × α) :=
  match b.top with
  | none => none
  | some c =>
    if cids.contains c then
      some ((advanceTo h { b with w := rew b.w }).top, bvote A (advanceTo h { b with w := rew b.w }))
    else none

theorem tstate_eq (cids : List Nat) (rew : α → α) (st : St α) (b : Ballot α) :
    tstate A cids rew st b = applyEff A st (effOf A (fun cid => st.isHopeful cid) cids rew b) := by
  unfold tstate tstep effOf applyEff
  cases b.top with
  | none => rfl
  | some c =>
    simp only
    split
    · unfold transferBallot
      cases (advanceTo (fun cid => st.isHopeful cid) { b with w := rew b.w }).top <;> rfl
    · rfl

theorem isHopeful_applyEff (st : St α) (e : Option (Option Nat × α)) :
    (fun cid => (applyEff A st e).isHopeful cid) = (fun cid => st.isHopeful cid) := by
  funext cid
  unfold applyEff
  match e with
  | none => rfl
  | some (some c, v) => exact isHopeful_of_skel (addVote_skel A st c v) cid
  | some (none, v) => rfl

theorem addVote_comm (hA : LawfulArith A) (st : St α) (c c' : Nat) (v v' : α) :
    (st.addVote A c v).addVote A c' v' = (st.addVote A c' v').addVote A c v := by
  unfold St.addVote St.upd
  simp only [List.map_map]
  congr 1
  apply List.map_congr_left
  intro x _
  simp only [Function.comp]
  by_cases h1 : (x.cid == c) = true <;> by_cases h2 : (x.cid == c') = true <;>
    simp only [h1, h2, if_true, Bool.false_eq_true, if_false, hA.add_eq]
  · congr 1; ring

theorem applyEff_comm (hA : LawfulArith A) (st : St α) (e1 e2 : Option (Option Nat × α)) :
    applyEff A (applyEff A st e1) e2 = applyEff A (applyEff A st e2) e1 := by
  match e1, e2 with
  | none, _ => rfl
  | some _, none => rfl
  | some (some c, v), some (some c', v') => exact addVote_comm A hA st c c' v v'
  | some (some c, v), some (none, v') => rfl
  | some (none, v), some (some c', v') => rfl
  | some (none, v), some (none, v') =>
    unfold applyEff
    simp only [hA.add_eq]
    congr 1; ring

theorem tstate_comm (hA : LawfulArith A) (cids : List Nat) (rew : α → α) (st : St α) (b b' : Ballot α) :
    tstate A cids rew (tstate A cids rew st b) b' = tstate A cids rew (tstate A cids rew st b') b := by
  rw [tstate_eq A cids rew st b, tstate_eq A cids rew st b', tstate_eq, tstate_eq, isHopeful_applyEff, isHopeful_applyEff]
  exact applyEff_comm A hA st _ _

theorem foldl_tstate_perm (hA : LawfulArith A) (cids : List Nat) (rew : α → α) {l l' : List (Ballot α)} (hp : l'.Perm l)
    (st : St α) : l'.foldl (tstate A cids rew) st = l.foldl (tstate A cids rew) st :=
  hp.foldl_eq' (fun x _ y _ z => tstate_comm A hA cids rew z x y) st

/-- what a transformation of the ballot list (`fb`) and of the logged ballot views (`fw`) must satisfy for the count to commute
    with it: it maps views to views, commutes with moving ballots, and leaves the summed effect of the two folds over the ballot
    list and the sum of the values of a top-determined selection unchanged -/
structure XF (fb : List (Ballot α) → List (Ballot α)) (fw : List (Nat × α) → List (Nat × α)) : Prop where
  view : ∀ l : List (Ballot α), fw (l.map (fun b => (b.idx, b.w))) = (fb l).map (fun b => (b.idx, b.w))
  move : ∀ (s : St α) (cids : List Nat) (rew : α → α) (l : List (Ballot α)),
    fb (l.map (moveBallot s cids rew)) = (fb l).map (moveBallot s cids rew)
  fold : ∀ (cids : List Nat) (rew : α → α) (st : St α) (l : List (Ballot α)),
    (fb l).foldl (tstate A cids rew) st = l.foldl (tstate A cids rew) st
  first : ∀ (st : St α) (l : List (Ballot α)), (fb l).foldl (fcStep A) st = l.foldl (fcStep A) st
  usum : ∀ (f : Ballot α → Bool), (∀ (b : Ballot α) (m : Nat), f { b with mult := m } = f b) → ∀ l : List (Ballot α),
    A.sum (((fb l).filter f).map (bvote A)) = A.sum ((l.filter f).map (bvote A))

@[simp] theorem cands_xB (s : St α) : (xB fb fw s).cands = s.cands := rfl
/- Not `rfl`-lemmas: `simp` has to rewrite the decidability instances that mention the state too, or `split` sees two different
   `if`s on the two sides of a commutation. -/
@[simp] theorem hopeful_xB (s : St α) : (xB fb fw s).hopeful = s.hopeful := by unfold St.hopeful; rfl
@[simp] theorem elected_xB (s : St α) : (xB fb fw s).elected = s.elected := by unfold St.elected; rfl
@[simp] theorem pendingL_xB (s : St α) : (xB fb fw s).pendingL = s.pendingL := by unfold St.pendingL; rfl
@[simp] theorem seatsLeft_xB (s : St α) : (xB fb fw s).seatsLeft = s.seatsLeft := by unfold St.seatsLeft; rfl
@[simp] theorem quota_xB (s : St α) : (xB fb fw s).quota = s.quota := rfl
@[simp] theorem seats_xB (s : St α) : (xB fb fw s).seats = s.seats := rfl
@[simp] theorem crash_xB (s : St α) : (xB fb fw s).crash = s.crash := rfl
@[simp] theorem round_xB (s : St α) : (xB fb fw s).round = s.round := rfl
@[simp] theorem ballots_xB (s : St α) : (xB fb fw s).ballots = fb s.ballots := rfl
theorem isHopeful_fun_xB (s : St α) : (fun cid => (xB fb fw s).isHopeful cid) = (fun cid => s.isHopeful cid) := rfl

variable {fb fw}

theorem xB_logAct (hx : XF A fb fw) (s : St α) (tag verb : String) (subj : List Nat) :
    xB fb fw (s.logAct A tag verb subj) = (xB fb fw s).logAct A tag verb subj := by
  unfold St.logAct
  by_cases ht : (tag == "round") = true
  · simp only [ht, if_true]
    unfold xB
    simp only [List.map_cons, hx.view]
    rfl
  · have hf : (tag == "round") = false := by simpa using ht
    simp only [hf, Bool.false_eq_true, if_false]
    unfold xB
    simp only [List.map_cons, hx.view]
    rfl

theorem xB_upd (s : St α) (cid : Nat) (f : Cand α → Cand α) : xB fb fw (s.upd cid f) = (xB fb fw s).upd cid f := rfl

theorem xB_elect (hx : XF A fb fw) (s : St α) (cid : Nat) (verb : String) (p : Bool) :
    xB fb fw (s.elect A cid verb p) = (xB fb fw s).elect A cid verb p := by
  unfold St.elect; rw [xB_logAct A hx]; rfl

theorem xB_defeat (hx : XF A fb fw) (s : St α) (cid : Nat) (verb : String) :
    xB fb fw (s.defeat A cid verb) = (xB fb fw s).defeat A cid verb := by
  unfold St.defeat; rw [xB_logAct A hx]; rfl

theorem xB_unpendLog (hx : XF A fb fw) (s : St α) (cid : Nat) (verb : String) :
    xB fb fw (s.unpendLog A cid verb) = (xB fb fw s).unpendLog A cid verb := by
  unfold St.unpendLog; rw [xB_logAct A hx]; rfl

theorem xB_unpendSilent (s : St α) (cid : Nat) : xB fb fw (s.unpendSilent cid) = (xB fb fw s).unpendSilent cid := rfl
theorem xB_setVote (s : St α) (cid : Nat) (v : α) : xB fb fw (s.setVote cid v) = (xB fb fw s).setVote cid v := rfl

theorem xB_newRound (hx : XF A fb fw) (s : St α) : xB fb fw (s.newRound A) = (xB fb fw s).newRound A := by
  unfold St.newRound; rw [xB_logAct A hx]; rfl

theorem xB_setCrash (s : St α) (k : String) : xB fb fw (s.setCrash k) = (xB fb fw s).setCrash k := by
  unfold St.setCrash
  show xB fb fw (match s.crash with | some _ => s | none => { s with crash := some k }) = _
  cases hc : s.crash with
  | some _ => simp only [crash_xB, hc]
  | none => simp only [crash_xB, hc]; rfl

theorem xB_transferAll (hA : LawfulArith A) (hx : XF A fb fw) (s : St α) (cids : List Nat) (rew : α → α) :
    xB fb fw (transferAll A s cids rew) = transferAll A (xB fb fw s) cids rew := by
  -- both sides: the state after the fold, with the moved ballots
  have hL : transferAll A s cids rew = { s.ballots.foldl (tstate A cids rew) s with ballots := s.ballots.map (moveBallot s cids rew) } := by
    have hb := transferAll_ballots A s cids rew
    unfold transferAll at hb ⊢
    simp only at hb
    rw [hb, foldl_tstep_fst]
  have hR : transferAll A (xB fb fw s) cids rew
      = { (fb s.ballots).foldl (tstate A cids rew) (xB fb fw s) with ballots := (fb s.ballots).map (moveBallot (xB fb fw s) cids rew) } := by
    have hb := transferAll_ballots A (xB fb fw s) cids rew
    unfold transferAll at hb ⊢
    simp only [ballots_xB] at hb ⊢
    rw [hb, foldl_tstep_fst]
  rw [hL, hR, hx.fold cids rew _ s.ballots]
  -- folding from `xB fb fw s` instead of `s`: the fold does not touch the ballot list or the log
  have hfold : ∀ (l : List (Ballot α)) (t : St α), l.foldl (tstate A cids rew) (xB fb fw t) = xB fb fw (l.foldl (tstate A cids rew) t) := by
    intro l t
    refine (foldl_map_comm (xB fb fw) (fun _ => True) l (tstate A cids rew) (fun _ _ _ _ => trivial) ?_ t trivial).symm
    intro u _ b _
    rw [tstate_eq, tstate_eq, isHopeful_fun_xB]
    unfold applyEff
    split <;> rfl
  rw [hfold]
  have hmv : moveBallot (xB fb fw s) cids rew = moveBallot s cids rew := rfl
  rw [hmv]
  unfold xB
  simp only [hx.move]

theorem xB_firstCount (hA : LawfulArith A) (hx : XF A fb fw) (s : St α) :
    xB fb fw (firstCount A s) = firstCount A (xB fb fw s) := by
  rw [firstCount_eq, firstCount_eq, ballots_xB, hx.first]
  generalize s.ballots = bs
  induction bs generalizing s with
  | nil => rfl
  | cons b bs ih =>
    simp only [List.foldl_cons]
    rw [ih]
    congr 1
    unfold fcStep
    cases b.top <;> rfl

theorem xB_breakTie (hx : XF A fb fw) (s : St α) (tied : List (Cand α)) (verb : String) :
    breakTie A (xB fb fw s) tied verb = (xB fb fw (breakTie A s tied verb).1, (breakTie A s tied verb).2) := by
  unfold breakTie
  match tied with
  | [] => simp only; rw [xB_setCrash]
  | [c] => rfl
  | c :: d :: r => simp only; rw [xB_logAct A hx]

theorem xB_foldElect (hx : XF A fb fw) (ws : List (Cand α)) (verb : Cand α → String) (pend : Cand α → Bool) (s : St α) :
    xB fb fw (ws.foldl (fun acc c => acc.elect A c.cid (verb c) (pend c)) s)
      = ws.foldl (fun acc c => acc.elect A c.cid (verb c) (pend c)) (xB fb fw s) :=
  foldl_map_comm (xB fb fw) (fun _ => True) ws (fun acc c => acc.elect A c.cid (verb c) (pend c)) (fun _ _ _ _ => trivial)
    (fun s _ _ _ => xB_elect A hx s _ _ _) s trivial

theorem xB_foldDefeat (hx : XF A fb fw) (ws : List (Cand α)) (verb : Cand α → String) (s : St α) :
    xB fb fw (ws.foldl (fun acc c => acc.defeat A c.cid (verb c)) s)
      = ws.foldl (fun acc c => acc.defeat A c.cid (verb c)) (xB fb fw s) :=
  foldl_map_comm (xB fb fw) (fun _ => True) ws (fun acc c => acc.defeat A c.cid (verb c)) (fun _ _ _ _ => trivial)
    (fun s _ _ _ => xB_defeat A hx s _ _) s trivial

/-- rearranging or splitting the ballot lines is a transformer every step commutes with, unconditionally -/
theorem stepComm_xB (hA : LawfulArith A) (hx : XF A fb fw) : StepComm A (xB fb fw) False where
  hopeful := hopeful_xB fb fw
  elected := elected_xB fb fw
  pendingL := pendingL_xB fb fw
  quota := quota_xB fb fw
  seats := seats_xB fb fw
  nballots := fun _ => rfl
  round := round_xB fb fw
  crash := crash_xB fb fw
  cand? := fun _ _ _ _ => rfl
  logAct := xB_logAct A hx
  keep := fun s cid f _ => xB_upd s cid f
  mark := fun s cid f _ _ _ => xB_upd s cid f
  setCrash := xB_setCrash
  setSurplus := fun _ _ => rfl
  newRound := xB_newRound A hx
  transferAll := xB_transferAll A hA hx
  preCount := fun q s => congrArg (fun t : St α => t.setExhausted A.zero) (xB_firstCount A hA hx (s.setQuota q))

theorem loopN_xB (guard : St α → Bool) (body : St α → St α × Flow)
    (hg : ∀ s, guard (xB fb fw s) = guard s)
    (hb : ∀ s, body (xB fb fw s) = (xB fb fw (body s).1, (body s).2)) :
    ∀ (fuel : Nat) (s : St α), loopN guard body fuel (xB fb fw s) = (loopN guard body fuel s).map (xB fb fw) := fun fuel s =>
  loopN_comm (xB fb fw) (fun _ => True) (fun _ _ _ _ => trivial) (crash_xB fb fw) hg (fun s _ => hb s) fuel s trivial

theorem count_xB (guard : St α → Bool) (body : St α → St α × Flow) (epi : St α → St α)
    (hg : ∀ s, guard (xB fb fw s) = guard s)
    (hb : ∀ s, body (xB fb fw s) = (xB fb fw (body s).1, (body s).2))
    (he : ∀ s, xB fb fw (epi s) = epi (xB fb fw s)) (n : Nat) (s : St α) :
    (loopN guard body n (xB fb fw s)).map epi = ((loopN guard body n s).map epi).map (xB fb fw) := by
  rw [loopN_xB guard body hg hb]
  cases loopN guard body n s with
  | none => rfl
  | some s4 => simp only [Option.map_some, he]

/-- the state with its ballot lines, and the logged ballot views, rearranged by the natural permutation `π` -/
abbrev permB (π : ∀ {β : Type}, List β → List β) (s : St α) : St α := xB π π s

theorem XF_of_natPerm (hA : LawfulArith A) {π : ∀ {β : Type}, List β → List β} (hπ : NatPerm π) : XF A π π := by
  refine ⟨fun l => hπ.nat _ l, fun s cids rew l => hπ.nat _ l,
    fun cids rew st l => foldl_tstate_perm A hA cids rew (hπ.perm l) st, ?_, ?_⟩
  · intro st l
    apply (hπ.perm l).foldl_eq'
    intro x _ y _ z
    unfold fcStep
    cases x.top <;> cases y.top <;> simp only
    exact addVote_comm A hA z _ _ _ _
  · intro f _ l
    rw [arith_sum_eq A hA, arith_sum_eq A hA]
    exact (((hπ.perm l).filter _).map _).sum_eq

end Droop
