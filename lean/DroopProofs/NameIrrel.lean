import DroopProofs.GuardedLaws
import DroopModel

/-! # C13, second clause at run level: with zero guard digits a count is the fixed-point count

The dictionary of Guarded with guard = 0 is the dictionary of Fixed with another `name` (`guarded_g0_eq_fixed`), and the wigm, Scottish
and Meek / Warren counts return the same state for a renamed dictionary: no rule reads the name of its arithmetic, except the
integer-arithmetic test of meek / warren, which neither name triggers for a precision of at least one digit.

No function a count calls projects `name`, and every other field of `A.rename x` reduces to the field of `A`, so the two sides of
each equation below unfold to the same term: the proofs are `rfl`.  Smart unfolding would stop the unfolding at the structurally
recursive helpers applied to a variable (`scanGroups`, `distEq`, `meekIterate`), where an induction would have to take over; with
it switched off for the one declaration the definitional check goes through them, and is cheaper than the staged rewriting it
replaces.  The option lifts no limit. -/
namespace Droop
variable {α : Type} (A : Arith α)

def Arith.rename (x : String) : Arith α := { A with name := x }

set_option smartUnfolding false in
theorem wigmCount_rename (x : String) (o : WigmOpts) (s0 : St α) : wigmCount (A.rename x) o s0 = wigmCount A o s0 := rfl

set_option smartUnfolding false in
theorem scotCount_rename (x : String) (s0 : St α) : scotCount (A.rename x) s0 = scotCount A s0 := rfl

theorem guarded_g0_rename (p : Nat) : guardedArith p 0 = (fixedArith p).rename "guarded" := guarded_g0_eq_fixed p

set_option smartUnfolding false in
theorem meekCount_rename (x : String) (hx : (x == "integer") = false) (hn : (A.name == "integer") = false) (o : MeekOpts) (n : Nat)
    (s0 : St α) : meekCount (A.rename x) o n s0 = meekCount A o n s0 := by
  unfold meekCount
  rw [show ((A.rename x).name == "integer") = false from hx, hn]
  rfl

end Droop
