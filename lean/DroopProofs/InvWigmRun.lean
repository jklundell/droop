import DroopProofs.InvWigm

/-! # wigm, wigm-prf, wigm-prf-batch: every round and the epilogue keep the bundle

Without batch exclusions a round is a `GStep` (`gstep_wigmBody`), which the run-level theorems about seats, termination and the
record use; with the sure-loser batches of wigm-prf-batch it still keeps `Inv` (`Inv.wigmBody'`), and the statements for the
plain variants are its special cases. -/
namespace Droop
variable {α : Type} [CommRing α] [LinearOrder α] [IsStrictOrderedRing α] (A : Arith α)

/-- the configurations without batch exclusions -/
def WigmOpts.plain (o : WigmOpts) : Prop := o.batchZero = false ∧ o.prfBatch = false

/-- whichever quota test wigm / wigm-prf uses, a candidate that passes it holds a quota -/
theorem wigm_hasQ_sound (hA : LawfulArith A) (o : WigmOpts) (hex : o.prf = true → A.exact = false) (s : St α) (c : Cand α)
    (h : (if o.prf then hasQuotaGE A else hasQuotaX A) s c = true) : s.quota ≤ c.vote := by
  by_cases hp : o.prf = true
  · simp only [hp, if_true] at h
    exact hasQuotaGE_sound A hA (hex hp) s c h
  · simp only [hp] at h
    exact hasQuotaX_sound A hA s c h

theorem gstep_wigmElect (hA : LawfulArith A) (o : WigmOpts) (hex : o.prf = true → A.exact = false) {s : St α} (h : Inv A s) :
    GStep A s (wigmElect A o s) :=
  gstep_electWinners A h _ _ _ (wigm_hasQ_sound A hA o hex s)

/-- without batch exclusions, what follows the election step is one surplus transfer, else one exclusion, else nothing,
    and the round never breaks the loop -/
theorem wigmAfterElect_plain (o : WigmOpts) (ho : o.plain) (s : St α) :
    wigmAfterElect A o s =
      (if !s.pendingL.isEmpty then wigmSurplusStep A s else if !s.hopeful.isEmpty then wigmDefeatStep A o s else s,
       Flow.cont) := by
  unfold wigmAfterElect
  have hsure : wigmSure A o s = [] := by unfold wigmSure; simp [ho.2]
  simp only [hsure, List.isEmpty_nil, Bool.not_true, Bool.false_eq_true, if_false]
  split
  · rfl
  · split <;> rfl

theorem gstep_wigmAfterElect (hA : LawfulArith A) (o : WigmOpts) (ho : o.plain) {s : St α} (h : Inv A s) :
    GStep A s (wigmAfterElect A o s).1 := by
  rw [wigmAfterElect_plain A o ho]
  dsimp only
  split
  · exact gstep_wigmSurplusStep A hA h
  · split
    · exact gstep_wigmDefeatStep A hA o ho.1 h
    · exact GStep.refl h

theorem gstep_wigmRoundElect (hA : LawfulArith A) (o : WigmOpts) (hex : o.prf = true → A.exact = false) {s : St α}
    (h : Inv A s) : GStep A s (wigmElect A o (s.newRound A)) :=
  (gstep_newRound A h).trans (gstep_wigmElect A hA o hex (h.newRound A))

theorem gstep_wigmBody (hA : LawfulArith A) (o : WigmOpts) (ho : o.plain) (hex : o.prf = true → A.exact = false)
    {s : St α} (h : Inv A s) : GStep A s (wigmBody A o s).1 :=
  (gstep_wigmRoundElect A hA o hex h).trans (gstep_wigmAfterElect A hA o ho (gstep_wigmRoundElect A hA o hex h).inv)

theorem hopeful_unpendSilent_fold (s : St α) (l : List (Cand α)) :
    True := trivial

theorem Inv.foldUnpend {s : St α} (h : Inv A s) (l : List (Cand α)) :
    Inv A (l.foldl (fun acc c => acc.unpendSilent c.cid) s) := by
  induction l generalizing s with
  | nil => exact h
  | cons c cs ih => simp only [List.foldl_cons]; exact ih (h.unpendSilent A c.cid)

theorem Inv.foldRemaining {s : St α} (h : Inv A s) (ws : List (Cand α))
    (hnd : (ws.map (·.cid)).Nodup) (hw : ∀ w ∈ ws, w ∈ s.cands ∧ w.st = .hopeful) :
    Inv A (ws.foldl (fun acc c =>
      if acc.elected.length < acc.seats then acc.elect A c.cid "Elect remaining" false
      else acc.defeat A c.cid "Defeat remaining") s) := by
  refine foldl_hopefuls (fun _ t => Inv A t) _ ?_ ws hnd hw h
  intro _ t w ht hwm hwh
  split
  · exact ⟨(elect_good A ht hwm hwh _ false (fun hp => by cases hp)).1, fun c hc hne => mem_elect_of_ne A hc _ _ _ hne⟩
  · exact ⟨ht.defeat A w.cid _, fun c hc hne => mem_defeat_of_ne A hc _ _ hne⟩

/-- the epilogue's elect-or-defeat fold: ends with no hopefuls and exactly `seats` elected -/
theorem foldRemaining_counts {s : St α} (hI : Inv A s) (ws : List (Cand α))
    (hnd : (ws.map (·.cid)).Nodup) (hw : ∀ w ∈ ws, w ∈ s.cands ∧ w.st = .hopeful)
    (hlen : ws.length = nHop s) (hfill : nEl s = s.seats ∨ nHop s + nEl s = s.seats) :
    let t := ws.foldl (fun acc c =>
      if acc.elected.length < acc.seats then acc.elect A c.cid "Elect remaining" false
      else acc.defeat A c.cid "Defeat remaining") s
    nHop t = 0 ∧ nEl t = t.seats := by
  -- with `n` candidates to go: `n` hopefuls are left, and the seats are full or exactly the hopefuls will fill them
  have key := foldl_hopefuls (fun n u => Inv A u ∧ nHop u = n ∧ (nEl u = u.seats ∨ nHop u + nEl u = u.seats))
    (fun acc c => if acc.elected.length < acc.seats then acc.elect A c.cid "Elect remaining" false
      else acc.defeat A c.cid "Defeat remaining") ?_ ws hnd hw ⟨hI, hlen.symm, hfill⟩
  · obtain ⟨_, h0, hf⟩ := key
    exact ⟨h0, by omega⟩
  · intro n u w ⟨hIu, hn, hf⟩ hwm hwh
    by_cases hlt : u.elected.length < u.seats
    · simp only [hlt, if_true]
      have hc := counts_elect A u w "Elect remaining" false hIu.wf hwm hwh
      have hlt' : nEl u < u.seats := hlt
      refine ⟨⟨(elect_good A hIu hwm hwh _ false (fun hp => by cases hp)).1, by omega, ?_⟩,
        fun c hc hne => mem_elect_of_ne A hc _ _ _ hne⟩
      rw [(reach_elect A u w.cid _ _).seats]; omega
    · simp only [hlt, if_false]
      have hc := counts_defeat A u w "Defeat remaining" hIu.wf hwm hwh
      have hge : u.seats ≤ nEl u := Nat.le_of_not_lt hlt
      refine ⟨⟨hIu.defeat A w.cid _, by omega, ?_⟩, fun c hc hne => mem_defeat_of_ne A hc _ _ hne⟩
      rw [(reach_defeat A u w.cid _).seats]; omega

theorem Inv.epilogue {s : St α} (h : Inv A s) : Inv A (epilogueElectOrDefeat A s) := by
  unfold epilogueElectOrDefeat
  have h1 := h.foldUnpend A s.pendingL
  exact h1.foldRemaining A _ (hopeful_cids_nodup h1.wf) (fun w hw => mem_hopeful.1 hw)


theorem groupStep_flatten (surplus : α) (acc : List (List (Cand α)) × List (Cand α) × α) (c : Cand α) :
    (groupStep A surplus acc c).1.flatten ++ (groupStep A surplus acc c).2.1 = acc.1.flatten ++ acc.2.1 ++ [c] := by
  unfold groupStep
  split
  · simp
  · by_cases he : acc.2.1.isEmpty = true
    · have : acc.2.1 = [] := List.isEmpty_iff.1 he
      simp [this]
    · simp [he]

theorem sortedGroups_flatten (surplus : α) (l : List (Cand α)) : (sortedGroups A surplus l).flatten = l := by
  unfold sortedGroups
  have key : ∀ (l : List (Cand α)) (acc : List (List (Cand α)) × List (Cand α) × α),
      (l.foldl (groupStep A surplus) acc).1.flatten ++ (l.foldl (groupStep A surplus) acc).2.1 = acc.1.flatten ++ acc.2.1 ++ l := by
    intro l
    induction l with
    | nil => intro acc; simp
    | cons c cs ih =>
      intro acc
      simp only [List.foldl_cons]
      rw [ih, groupStep_flatten]; simp
  have hk := key l ([], [], A.zero)
  simp only [List.flatten_nil, List.nil_append] at hk
  dsimp only
  by_cases he : (l.foldl (groupStep A surplus) ([], [], A.zero)).2.1.isEmpty = true
  · have : (l.foldl (groupStep A surplus) ([], [], A.zero)).2.1 = [] := List.isEmpty_iff.1 he
    simp only [he, if_true]
    rw [this, List.append_nil] at hk; exact hk
  · simp only [he, if_false, Bool.false_eq_true]
    rw [List.flatten_append]; simpa using hk

theorem batchDefeatGroups_sublist (s : St α) (surplus : α) :
    (batchDefeatGroups A s surplus).Sublist (byVote A false s.hopeful) := by
  unfold batchDefeatGroups
  dsimp only
  split
  · rename_i g _
    have h1 : ((sortedGroups A surplus (byVote A false s.hopeful)).take (g + 1)).Sublist
        (sortedGroups A surplus (byVote A false s.hopeful)) := List.take_sublist _ _
    have h2 := h1.flatten
    rw [sortedGroups_flatten] at h2
    exact h2
  · exact List.nil_sublist _

theorem batchDefeatGroups_hopeful (s : St α) (surplus : α) :
    ∀ w ∈ batchDefeatGroups A s surplus, w ∈ s.hopeful := by
  intro w hw
  have := (batchDefeatGroups_sublist A s surplus).subset hw
  exact (mem_pySorted _ _ _ _).1 this

theorem batchDefeatGroups_nodup (s : St α) (hwf : s.WF) (surplus : α) :
    ((batchDefeatGroups A s surplus).map (·.cid)).Nodup := by
  have h1 : ((batchDefeatGroups A s surplus).map (·.cid)).Sublist ((byVote A false s.hopeful).map (·.cid)) :=
    (batchDefeatGroups_sublist A s surplus).map _
  apply List.Nodup.sublist h1
  have hp : ((byVote A false s.hopeful).map (·.cid)).Perm (s.hopeful.map (·.cid)) := (pySorted_perm _ _ _).map _
  exact hp.nodup_iff.2 (hopeful_cids_nodup hwf)

theorem Inv.wigmBatchStep (hA : LawfulArith A) {s : St α} (h : Inv A s) (sure : List (Cand α))
    (hsub : ∀ w ∈ sure, w ∈ s.hopeful) (hnd : (sure.map (·.cid)).Nodup) :
    Inv A (Droop.wigmBatchStep A s sure).1 := by
  unfold Droop.wigmBatchStep
  split
  · unfold wigmDefeatSure; exact h.foldDefeat A _ _
  · unfold wigmDefeatSure
    exact h.defeatManyThenTransfer A hA sure (byBallotOrder sure) _ _ (pySorted_perm _ _ _) hnd hsub

/-- what follows the election step keeps whatever the batch step, the surplus step and the exclusion step keep: the sure
    losers handed to the batch step are distinct hopefuls -/
theorem wigmAfterElect_keeps (P : St α → Prop) (o : WigmOpts) {s : St α} (hwf : s.WF) (hs : P s)
    (hbatch : ∀ sure, (∀ w ∈ sure, w ∈ s.hopeful) → (sure.map (·.cid)).Nodup → P (wigmBatchStep A s sure).1)
    (hsur : P (wigmSurplusStep A s)) (hdef : P (wigmDefeatStep A o s)) : P (wigmAfterElect A o s).1 := by
  unfold wigmAfterElect
  split
  · apply hbatch
    · intro w hw
      unfold wigmSure at hw
      split at hw
      · exact batchDefeatGroups_hopeful A s _ w hw
      · cases hw
    · unfold wigmSure
      split
      · exact batchDefeatGroups_nodup A s hwf _
      · simp
  · split
    · exact hsur
    · split
      · exact hdef
      · exact hs

theorem Inv.wigmAfterElect' (hA : LawfulArith A) (o : WigmOpts) (hz : o.batchZero = false) {s : St α} (h : Inv A s) :
    Inv A (Droop.wigmAfterElect A o s).1 :=
  wigmAfterElect_keeps A (Inv A) o h.wf h (fun sure => h.wigmBatchStep A hA sure) (h.wigmSurplusStep A hA)
    (h.wigmDefeatStep1 A hA o hz)

theorem Inv.wigmBody' (hA : LawfulArith A) (o : WigmOpts) (hz : o.batchZero = false) (hex : o.prf = true → A.exact = false)
    {s : St α} (h : Inv A s) : Inv A (Droop.wigmBody A o s).1 := by
  unfold Droop.wigmBody
  exact (gstep_wigmRoundElect A hA o hex h).inv.wigmAfterElect' A hA o hz

/-- wigm, wigm-prf and wigm-prf-batch (every configuration except `defeat_batch=zero`): if the bundle holds when the main loop
    is entered, it holds in the final state -/
theorem wigmCount_inv' (hA : LawfulArith A) (o : WigmOpts) (hz : o.batchZero = false) (hex : o.prf = true → A.exact = false)
    (s0 t : St α) (hinit : Inv A (wigmInit A o s0)) (h : wigmCount A o s0 = some t) : Inv A t := by
  rw [wigmCount_eq] at h
  obtain ⟨s4, hl, rfl⟩ := Option.map_eq_some_iff.1 h
  have h4 : Inv A s4 :=
    loopN_preserves_guard (Inv A) stdGuard (wigmBody A o) (fun s hs _ => hs.wigmBody' A hA o hz hex) _ _ _ hinit hl
  exact h4.epilogue A

theorem Inv.wigmAfterElect (hA : LawfulArith A) (o : WigmOpts) (ho : o.plain) {s : St α} (h : Inv A s) :
    Inv A (Droop.wigmAfterElect A o s).1 :=
  h.wigmAfterElect' A hA o ho.1

theorem Inv.wigmElect (hA : LawfulArith A) (o : WigmOpts) (hex : o.prf = true → A.exact = false) {s : St α} (h : Inv A s) :
    Inv A (Droop.wigmElect A o s) :=
  (gstep_wigmElect A hA o hex h).inv

theorem Inv.wigmBody (hA : LawfulArith A) (o : WigmOpts) (ho : o.plain) (hex : o.prf = true → A.exact = false)
    {s : St α} (h : Inv A s) : Inv A (Droop.wigmBody A o s).1 :=
  h.wigmBody' A hA o ho.1 hex

end Droop
