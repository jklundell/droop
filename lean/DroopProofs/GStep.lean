import DroopProofs.AppendOnly
import DroopProofs.Counting
import DroopProofs.Monotone

/-! # What a step of a Gregory count keeps, in one bundle

`GStep A s t` collects what the run-level theorems thread through every step: the log, the constants and the candidate ids
(`Reach`), the conservation bundle in the state reached, "every elected candidate holds a quota", the forward-only record, and
that the termination measure does not grow.  It is proved once per primitive and once per composite step; the statements
about a single invariant are its projections. -/
namespace Droop
variable {α : Type} [CommRing α] [LinearOrder α] [IsStrictOrderedRing α] (A : Arith α)

structure GStep (s t : St α) : Prop where
  reach : Reach s t
  inv : Inv A t
  ehq : ElectedHoldQuota s → ElectedHoldQuota t
  mon : Mon s → Mon t
  mu : mu t ≤ mu s

variable {A} in
theorem GStep.refl {s : St α} (h : Inv A s) : GStep A s s := ⟨Reach.refl s, h, id, id, Nat.le_refl _⟩

variable {A} in
theorem GStep.trans {s t u : St α} (h1 : GStep A s t) (h2 : GStep A t u) : GStep A s u :=
  ⟨h1.reach.trans h2.reach, h2.inv, fun h => h2.ehq (h1.ehq h), fun h => h2.mon (h1.mon h), Nat.le_trans h2.mu h1.mu⟩

theorem gstep_newRound {s : St α} (h : Inv A s) : GStep A s (s.newRound A) :=
  ⟨reach_newRound A s, h.newRound A, EHQ.newRound A, fun hm => hm.newRound A, Nat.le_of_eq (mu_newRound A s)⟩

theorem gstep_breakTie {s : St α} (h : Inv A s) (tied : List (Cand α)) (verb : String) :
    GStep A s (breakTie A s tied verb).1 :=
  ⟨(stepRel_reach A).breakTie s tied verb, h.breakTie A tied verb, fun he => EHQ.breakTie A he tied verb,
   fun hm => hm.breakTie A tied verb, Nat.le_of_eq (mu_breakTie A s tied verb)⟩

theorem gstep_elect {s : St α} (h : Inv A s) {w : Cand α} (hwm : w ∈ s.cands) (hwh : w.st = .hopeful)
    (hq : s.quota ≤ w.vote) (verb : String) (p : Bool) : GStep A s (s.elect A w.cid verb p) := by
  have huniq : ∀ c ∈ s.cands, c.cid = w.cid → c = w := fun c hc e => nodup_cid_eq h.wf hc hwm e
  exact ⟨reach_elect A s w.cid verb p,
    h.elect A w.cid verb p (fun c hc e => by rw [huniq c hc e]; exact hwh) (fun c hc e _ => by rw [huniq c hc e]; exact hq),
    fun he => EHQ.elect A he w.cid verb p (fun c hc e => by rw [huniq c hc e]; exact hq),
    fun hm => hm.elect A w.cid verb p (fun c hc e => by rw [huniq c hc e]; exact hwh),
    Nat.le_of_lt (mu_elect_lt A s w verb p h.wf hwm hwh)⟩

theorem gstep_defeat {s : St α} (h : Inv A s) {w : Cand α} (hwm : w ∈ s.cands) (hwh : w.st = .hopeful) (verb : String) :
    GStep A s (s.defeat A w.cid verb) :=
  ⟨reach_defeat A s w.cid verb, h.defeat A w.cid verb, fun he => EHQ.defeat A he w.cid verb,
   fun hm => hm.defeat A w.cid verb (fun c hc e => by rw [nodup_cid_eq h.wf hc hwm e]; exact hwh),
   Nat.le_of_lt (mu_defeat_lt A s w verb h.wf hwm hwh)⟩

/-- the surplus of a candidate `hc` with a transfer pending: un-pend, re-weight and move on its ballots, leave it the quota.
    After un-pending, `hc` stands in the state as `{ hc with pending := false }`, with the id and tally the transfer reads. -/
theorem gstep_surplusOf (hA : LawfulArith A) (rew0 : α → α → α → α) (hrew0 : RewLaw rew0) {s : St α} (h : Inv A s)
    {hc : Cand α} (hm : hc ∈ s.pendingL) (v1 v2 : String) :
    GStep A s (transferSurplus A (s.unpendLog A hc.cid v1) hc rew0 v2) := by
  obtain ⟨hcs, hce, hcp⟩ := mem_pendingL.1 hm
  have h2 := h.unpendLog A hc.cid v1
  have hx : ({ hc with pending := false } : Cand α) ∈ (s.unpendLog A hc.cid v1).cands := by
    unfold St.unpendLog; rw [logAct_cands]
    exact mem_upd_of_eq (f := fun c => { c with pending := false }) hcs rfl
  have ht : (s.unpendLog A hc.cid v1).tally A hc.cid = s.tally A hc.cid := by
    unfold St.tally St.unpendLog; rw [logAct_ballots]; rfl
  have hqv : (s.unpendLog A hc.cid v1).quota ≤ hc.vote := by
    unfold St.unpendLog; rw [logAct_quota]; exact h.pq hc hcs hce hcp
  refine ⟨(reach_unpendLog A s _ _).trans ((stepRel_reach A).transferSurplus _ _ _ _), ?_, ?_, ?_, ?_⟩
  · rw [transferSurplus_congr A _ hc { hc with pending := false } rew0 _ rfl rfl]
    apply h2.transferSurplus A hA rew0 hrew0 _ _ hx
    · rintro (hs | ⟨_, hp⟩)
      · rw [show ({ hc with pending := false } : Cand α).st = .elected from hce] at hs; cases hs
      · cases hp
    · rw [show ({ hc with pending := false } : Cand α).st = .elected from hce]; intro hh; cases hh
    · show hc.vote = _; rw [ht]; exact h.i1 hc hcs (Or.inr ⟨hce, hcp⟩)
    · exact hqv
  · intro he
    exact EHQ.transferSurplus A hA rew0 hrew0 h2 (EHQ.unpendLog A he hc.cid v1) hc v2 hqv
  · intro hm'
    exact (hm'.unpendLog A hc.cid v1 (fun c hc' e => by rw [nodup_cid_eq h.wf hc' hcs e]; exact hce)).transferSurplus A hc rew0 v2
  · rw [mu_transferSurplus]; exact Nat.le_of_lt (mu_unpendLog_lt A s hc v1 h.wf hcs hce hcp)

theorem gstep_defeatOne (hA : LawfulArith A) {s : St α} (h : Inv A s) {lc : Cand α} (hm : lc ∈ s.hopeful) (v1 v2 : String) :
    GStep A s (transferDefeated A (s.defeat A lc.cid v1) [lc.cid] v2) := by
  obtain ⟨hcs, hch⟩ := mem_hopeful.1 hm
  have h1 := gstep_defeat A h hcs hch v1
  have hx : ({ lc with st := .defeated } : Cand α) ∈ (s.defeat A lc.cid v1).cands := by
    unfold St.defeat; rw [logAct_cands]
    exact mem_upd_of_eq (f := fun c => { c with st := .defeated }) hcs rfl
  have ht : (s.defeat A lc.cid v1).tally A lc.cid = s.tally A lc.cid := by
    unfold St.tally St.defeat; rw [logAct_ballots]; rfl
  refine h1.trans ⟨(stepRel_reach A).transferDefeated _ _ _, ?_, ?_, fun hm' => hm'.transferDefeated A _ _,
    Nat.le_of_eq (mu_transferDefeated A _ _ _)⟩
  · exact h1.inv.transferDefeated1 A hA { lc with st := .defeated } v2 hx
      (by rintro (hs | ⟨hs, _⟩) <;> cases hs) (by intro hh; cases hh)
      (by show lc.vote = _; rw [ht]; exact h.i1 lc hcs (Or.inl hch))
  · intro he
    exact EHQ.transferDefeated1 A hA h1.inv he { lc with st := .defeated } v2 hx (by intro hh; cases hh)

theorem mu_surplusOf_lt {s : St α} (h : Inv A s) {hc : Cand α} (hm : hc ∈ s.pendingL) (rew0 : α → α → α → α)
    (v1 v2 : String) : mu (transferSurplus A (s.unpendLog A hc.cid v1) hc rew0 v2) < mu s := by
  obtain ⟨hcs, hce, hcp⟩ := mem_pendingL.1 hm
  rw [mu_transferSurplus]; exact mu_unpendLog_lt A s hc v1 h.wf hcs hce hcp

theorem mu_defeatOne_lt {s : St α} (h : Inv A s) {lc : Cand α} (hm : lc ∈ s.hopeful) (v1 v2 : String) :
    mu (transferDefeated A (s.defeat A lc.cid v1) [lc.cid] v2) < mu s := by
  obtain ⟨hcs, hch⟩ := mem_hopeful.1 hm
  rw [mu_transferDefeated]; exact mu_defeat_lt A s lc v1 h.wf hcs hch

theorem sumHE_surplusOf (s : St α) (hc : Cand α) (rew0 : α → α → α → α) (v1 v2 : String) :
    sumHE (transferSurplus A (s.unpendLog A hc.cid v1) hc rew0 v2) = sumHE s := by
  rw [sumHE_transferSurplus]; unfold sumHE
  rw [(counts_unpendLog A s hc.cid v1).1, (counts_unpendLog A s hc.cid v1).2]

theorem sumHE_defeatOne {s : St α} (h : Inv A s) {lc : Cand α} (hm : lc ∈ s.hopeful) (v1 v2 : String) :
    sumHE (transferDefeated A (s.defeat A lc.cid v1) [lc.cid] v2) + 1 = sumHE s := by
  obtain ⟨hcs, hch⟩ := mem_hopeful.1 hm
  have := counts_defeat A s lc v1 h.wf hcs hch
  rw [sumHE_transferDefeated]; unfold sumHE; omega


/-- electing a hopeful candidate; a quota is needed only where a transfer is left pending -/
theorem elect_good {s : St α} (h : Inv A s) {w : Cand α} (hwm : w ∈ s.cands) (hwh : w.st = .hopeful) (verb : String)
    (p : Bool) (hq : p = true → s.quota ≤ w.vote) :
    Inv A (s.elect A w.cid verb p) ∧ (Mon s → Mon (s.elect A w.cid verb p))
      ∧ mu (s.elect A w.cid verb p) < mu s ∧ sumHE (s.elect A w.cid verb p) = sumHE s := by
  have huniq : ∀ c ∈ s.cands, c.cid = w.cid → c = w := fun c hc e => nodup_cid_eq h.wf hc hwm e
  have hc := counts_elect A s w verb p h.wf hwm hwh
  exact ⟨h.elect A w.cid verb p (fun c hc e => by rw [huniq c hc e]; exact hwh)
      (fun c hc e hp => by rw [huniq c hc e]; exact hq hp),
    fun hm => hm.elect A w.cid verb p (fun c hc e => by rw [huniq c hc e]; exact hwh),
    mu_elect_lt A s w verb p h.wf hwm hwh, by unfold sumHE; omega⟩

/-- the members of a list of distinct candidates other than its head are still in the state, unchanged, after the head
    has been elected -/
theorem tail_mem_elect {s : St α} {w : Cand α} {ws : List (Cand α)} (hnd : ((w :: ws).map (·.cid)).Nodup)
    {P : Cand α → Prop} (hw : ∀ x ∈ w :: ws, x ∈ s.cands ∧ x.st = .hopeful ∧ P x) (verb : String) (p : Bool) :
    ∀ x ∈ ws, x ∈ (s.elect A w.cid verb p).cands ∧ x.st = .hopeful ∧ P x := by
  intro x hx
  obtain ⟨hm, hh, hP⟩ := hw x (List.mem_cons_of_mem _ hx)
  have hne : x.cid ≠ w.cid := by
    intro e
    exact (List.nodup_cons.1 hnd).1 (List.mem_map.2 ⟨x, hx, e⟩)
  refine ⟨?_, hh, hP⟩
  unfold St.elect; rw [logAct_cands]; exact mem_upd_of_ne hm hne

theorem foldElect_good {s : St α} (h : Inv A s) (ws : List (Cand α)) (verb : Cand α → String) (pend : Cand α → Bool)
    (hnd : (ws.map (·.cid)).Nodup)
    (hw : ∀ w ∈ ws, w ∈ s.cands ∧ w.st = .hopeful ∧ (pend w = true → s.quota ≤ w.vote)) :
    Inv A (ws.foldl (fun acc c => acc.elect A c.cid (verb c) (pend c)) s)
      ∧ (Mon s → Mon (ws.foldl (fun acc c => acc.elect A c.cid (verb c) (pend c)) s))
      ∧ mu (ws.foldl (fun acc c => acc.elect A c.cid (verb c) (pend c)) s) ≤ mu s
      ∧ sumHE (ws.foldl (fun acc c => acc.elect A c.cid (verb c) (pend c)) s) = sumHE s := by
  induction ws generalizing s with
  | nil => exact ⟨h, id, Nat.le_refl _, rfl⟩
  | cons w ws ih =>
    obtain ⟨hwm, hwh, hwq⟩ := hw w (by simp)
    obtain ⟨h1, hM1, hmu1, hs1⟩ := elect_good A h hwm hwh (verb w) (pend w) hwq
    obtain ⟨h2, hM2, hmu2, hs2⟩ := ih h1 (List.nodup_cons.1 hnd).2
      (by
        have hq : (s.elect A w.cid (verb w) (pend w)).quota = s.quota := (reach_elect A s _ _ _).quota
        rw [hq]; exact tail_mem_elect A hnd hw (verb w) (pend w))
    exact ⟨h2, fun hm => hM2 (hM1 hm), Nat.le_trans hmu2 (Nat.le_of_lt hmu1), hs2.trans hs1⟩

theorem gstep_foldElect {s : St α} (h : Inv A s) (ws : List (Cand α)) (verb : Cand α → String) (pend : Cand α → Bool)
    (hnd : (ws.map (·.cid)).Nodup) (hw : ∀ w ∈ ws, w ∈ s.cands ∧ w.st = .hopeful ∧ s.quota ≤ w.vote) :
    GStep A s (ws.foldl (fun acc c => acc.elect A c.cid (verb c) (pend c)) s) := by
  induction ws generalizing s with
  | nil => exact GStep.refl h
  | cons w ws ih =>
    obtain ⟨hwm, hwh, hwq⟩ := hw w (by simp)
    have h1 := gstep_elect A h hwm hwh hwq (verb w) (pend w)
    refine h1.trans (ih h1.inv (List.nodup_cons.1 hnd).2 ?_)
    rw [h1.reach.quota]; exact tail_mem_elect A hnd hw (verb w) (pend w)

theorem winners_spec {s : St α} (hwf : s.WF) (hasQ : St α → Cand α → Bool) :
    (((byVote A true s.hopeful).filter (hasQ s)).map (·.cid)).Nodup
    ∧ ∀ w ∈ (byVote A true s.hopeful).filter (hasQ s), w ∈ s.cands ∧ w.st = .hopeful ∧ hasQ s w = true := by
  refine ⟨?_, ?_⟩
  · have hp : ((byVote A true s.hopeful).map (·.cid)).Perm (s.hopeful.map (·.cid)) := (pySorted_perm _ _ _).map _
    exact List.Nodup.sublist (List.Sublist.map _ List.filter_sublist) (hp.nodup_iff.2 (hopeful_cids_nodup hwf))
  · intro w hw
    rw [List.mem_filter] at hw
    obtain ⟨hc, hh⟩ := mem_hopeful.1 ((mem_pySorted _ _ _ _).1 hw.1)
    exact ⟨hc, hh, hw.2⟩

theorem gstep_electWinners {s : St α} (h : Inv A s) (hasQ : St α → Cand α → Bool) (pend : St α → Cand α → Bool)
    (verb : St α → Cand α → String) (hsound : ∀ c, hasQ s c = true → s.quota ≤ c.vote) :
    GStep A s (electWinners A hasQ pend verb s) := by
  obtain ⟨hnd, hw⟩ := winners_spec A h.wf hasQ
  exact gstep_foldElect A h _ (verb s) (pend s) hnd (fun w hw' => ⟨(hw w hw').1, (hw w hw').2.1, hsound w (hw w hw').2.2⟩)

theorem electWinners_sumHE {s : St α} (h : Inv A s) (hasQ : St α → Cand α → Bool) (pend : St α → Cand α → Bool)
    (verb : St α → Cand α → String) (hsound : ∀ c, hasQ s c = true → s.quota ≤ c.vote) :
    sumHE (electWinners A hasQ pend verb s) = sumHE s := by
  obtain ⟨hnd, hw⟩ := winners_spec A h.wf hasQ
  exact (foldElect_good A h _ (verb s) (pend s) hnd
    (fun w hw' => ⟨(hw w hw').1, (hw w hw').2.1, fun _ => hsound w (hw w hw').2.2⟩)).2.2.2

theorem Inv.foldElect {s : St α} (h : Inv A s) (ws : List (Cand α)) (verb : Cand α → String) (pend : Cand α → Bool)
    (hnd : (ws.map (·.cid)).Nodup)
    (hw : ∀ w ∈ ws, w ∈ s.cands ∧ w.st = .hopeful ∧ (pend w = true → s.quota ≤ w.vote)) :
    Inv A (ws.foldl (fun acc c => acc.elect A c.cid (verb c) (pend c)) s) :=
  (foldElect_good A h ws verb pend hnd hw).1

theorem Inv.electWinners {s : St α} (h : Inv A s) (hasQ : St α → Cand α → Bool) (pend : St α → Cand α → Bool)
    (verb : St α → Cand α → String) (hsound : ∀ c, hasQ s c = true → s.quota ≤ c.vote) :
    Inv A (Droop.electWinners A hasQ pend verb s) :=
  (gstep_electWinners A h hasQ pend verb hsound).inv

end Droop
