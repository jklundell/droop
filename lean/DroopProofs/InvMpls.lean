import DroopProofs.InvCfer
import DroopProofs.InvScot

/-! # Minneapolis (mpls): every round preserves the bundle -/
namespace Droop
variable {α : Type} [CommRing α] [LinearOrder α] [IsStrictOrderedRing α] (A : Arith α)

theorem Inv.mplsInit (hA : LawfulArith A) {s0 : St α} (h0 : Init A s0)
    (hq : 0 < A.ofInt (pdiv s0.nballots (s0.seats + 1) + 1)) : Inv A (Droop.mplsInit A s0) := by
  unfold Droop.mplsInit
  exact (Inv.initCore A hA _ h0 hq).newRound A

theorem Inv.mplsCountVotes {s : St α} (h : Inv A s) : Inv A (Droop.mplsCountVotes A s) := by
  unfold Droop.mplsCountVotes; exact (h.setSurplus A _).logAct A _ _ _

theorem Inv.mplsLogTransfer {s : St α} (h : Inv A s) (verb : String) (subj : List Nat) :
    Inv A (Droop.mplsLogTransfer A s verb subj) := by
  unfold Droop.mplsLogTransfer; exact (h.setSurplus A _).logAct A _ _ _

theorem Inv.mplsElectThreshold {s : St α} (h : Inv A s) : Inv A (Droop.mplsElectThreshold A s).1 := by
  unfold Droop.mplsElectThreshold; exact h.foldElectNP A _ _

theorem Inv.mplsDefeatMany (hA : LawfulArith A) {s : St α} (h : Inv A s) (l : List (Cand α))
    (hsub : ∀ w ∈ l, w ∈ s.hopeful) (hnd : (l.map (·.cid)).Nodup) : Inv A (Droop.mplsDefeatMany A s l).1 := by
  unfold Droop.mplsDefeatMany
  apply Inv.mplsLogTransfer
  have hj := justDefeated_foldDefeatV A h l mplsDefeatVerb hnd hsub
  exact (h.foldDefeatV A l mplsDefeatVerb).defeatedCore A hA _ hj.1 hj.2

end Droop

namespace Droop
variable {α : Type} [CommRing α] [LinearOrder α] [IsStrictOrderedRing α] (A : Arith α)

theorem mplsCertainLosers_go_sublist (surplus : α) (sorted : List (Cand α)) (maxDefeat : Int) :
    ∀ (fuel cx : Nat) (vote : α) (losers : List (Cand α)), losers.Sublist sorted →
      (mplsCertainLosers.go A surplus sorted maxDefeat cx fuel vote losers).Sublist sorted := by
  intro fuel
  induction fuel with
  | zero => intro cx vote losers hl; unfold mplsCertainLosers.go; exact hl
  | succ n ih =>
    intro cx vote losers hl
    unfold mplsCertainLosers.go
    dsimp only
    split
    · exact hl
    · split
      · split
        · exact hl
        · apply ih
          split
          · exact List.take_sublist _ _
          · exact hl
      · exact hl

theorem mplsCertainLosers_hopeful (s : St α) (surplus : α) : ∀ w ∈ mplsCertainLosers A s surplus, w ∈ s.hopeful := by
  intro w hw
  unfold mplsCertainLosers at hw
  have h1 := (mem_pySorted _ _ _ _).1 hw
  have h2 := (mplsCertainLosers_go_sublist A surplus _ _ _ _ _ _ (List.nil_sublist _)).subset h1
  exact (mem_pySorted _ _ _ _).1 h2

theorem mplsCertainLosers_nodup (s : St α) (hwf : s.WF) (surplus : α) :
    ((mplsCertainLosers A s surplus).map (·.cid)).Nodup := by
  unfold mplsCertainLosers
  have hp : ((byBallotOrder (mplsCertainLosers.go A surplus (byVote A false s.hopeful) ((s.hopeful.length : Int) - s.seatsLeft) 0
      (byVote A false s.hopeful).length A.zero [])).map (·.cid)).Perm
      ((mplsCertainLosers.go A surplus (byVote A false s.hopeful) ((s.hopeful.length : Int) - s.seatsLeft) 0
      (byVote A false s.hopeful).length A.zero []).map (·.cid)) := (pySorted_perm _ _ _).map _
  apply hp.nodup_iff.2
  apply List.Nodup.sublist ((mplsCertainLosers_go_sublist A surplus _ _ _ _ _ _ (List.nil_sublist _)).map _)
  have hp2 : ((byVote A false s.hopeful).map (·.cid)).Perm (s.hopeful.map (·.cid)) := (pySorted_perm _ _ _).map _
  exact hp2.nodup_iff.2 (hopeful_cids_nodup hwf)

theorem nodup_append_filter (a b : List (Cand α)) (ha : (a.map (·.cid)).Nodup) (hb : (b.map (·.cid)).Nodup) :
    ((a ++ b.filter (fun c => !a.any (fun u => u.cid == c.cid))).map (·.cid)).Nodup := by
  rw [List.map_append, List.nodup_append]
  refine ⟨ha, List.Nodup.sublist (List.Sublist.map _ List.filter_sublist) hb, ?_⟩
  intro x hx y hy
  obtain ⟨u, hu, rfl⟩ := List.mem_map.1 hx
  obtain ⟨c, hc, rfl⟩ := List.mem_map.1 hy
  rw [List.mem_filter] at hc
  intro e
  have : a.any (fun u' => u'.cid == c.cid) = true := List.any_eq_true.2 ⟨u, hu, by simp [e]⟩
  simp [this] at hc

theorem mplsDefeatSet_hopeful (s : St α) : ∀ w ∈ mplsDefeatSet A s, w ∈ s.hopeful := by
  intro w hw
  unfold mplsDefeatSet at hw
  rcases List.mem_append.1 hw with h | h
  · split at h
    · exact (List.mem_filter.1 h).1
    · cases h
  · exact mplsCertainLosers_hopeful A s _ w (List.mem_filter.1 h).1

theorem mplsDefeatSet_nodup (s : St α) (hwf : s.WF) : ((mplsDefeatSet A s).map (·.cid)).Nodup := by
  unfold mplsDefeatSet
  apply nodup_append_filter
  · split
    · exact List.Nodup.sublist (List.Sublist.map _ List.filter_sublist) (hopeful_cids_nodup hwf)
    · simp
  · exact mplsCertainLosers_nodup A s hwf _

theorem surplusCore_congr (s : St α) (c x : Cand α) (rew : α → α → α → α) (hc : x.cid = c.cid) (hv : x.vote = c.vote) :
    surplusCore A s c rew = surplusCore A s x rew := by
  unfold surplusCore; rw [hc, hv]

/-- 167.70(c)(1)d hands to `surplusCore` the candidate `hc` it has just elected (no transfer pending): `hc` stands in the
    state as elected, with the tally and the quota it had as a hopeful -/
theorem mplsElected_pre {s : St α} (h : Inv A s) {hc : Cand α} (hch : hc ∈ s.hopeful) (hq : s.quota ≤ hc.vote) :
    surplusCore A (s.elect A hc.cid "Elect" false) hc (rewMulDiv A)
      = surplusCore A (s.elect A hc.cid "Elect" false) { hc with st := .elected, pending := false } (rewMulDiv A)
    ∧ ({ hc with st := .elected, pending := false } : Cand α) ∈ (s.elect A hc.cid "Elect" false).cands
    ∧ hc.vote = (s.elect A hc.cid "Elect" false).tally A hc.cid
    ∧ (s.elect A hc.cid "Elect" false).quota ≤ hc.vote := by
  obtain ⟨hcs, hchop⟩ := mem_hopeful.1 hch
  refine ⟨surplusCore_congr A _ hc _ _ rfl rfl, ?_, ?_, ?_⟩
  · unfold St.elect; rw [logAct_cands]
    exact mem_upd_of_eq (f := fun c => { c with st := .elected, pending := false }) hcs rfl
  · have ht : (s.elect A hc.cid "Elect" false).tally A hc.cid = s.tally A hc.cid := by
      unfold St.tally St.elect; rw [logAct_ballots]; rfl
    rw [ht]; exact h.i1 hc hcs (Or.inl hchop)
  · unfold St.elect; rw [logAct_quota]; exact hq

theorem Inv.mplsElectSurplus (hA : LawfulArith A) (hex : A.exact = false) {s : St α} (h : Inv A s) (hwq : List (Cand α)) (hv : α)
    (hsub : ∀ w ∈ hwq, w ∈ s.hopeful ∧ hasQuotaGE A s w = true) : Inv A (Droop.mplsElectSurplus A s hwq hv).1 := by
  unfold Droop.mplsElectSurplus
  have hI1 := h.breakTie A (hwq.filter (fun c => A.eq c.vote hv)) "Break tie (largest surplus)"
  have hfr := breakTie_frame A s (hwq.filter (fun c => A.eq c.vote hv)) "Break tie (largest surplus)"
  have hmem := breakTie_mem A s (hwq.filter (fun c => A.eq c.vote hv)) "Break tie (largest surplus)"
  have hhop := (tieBreak_breakTie A s "Break tie (largest surplus)").hopeful (hwq.filter (fun c => A.eq c.vote hv))
  split
  · rename_i s3 hc heq
    rw [heq] at hI1 hfr hmem hhop
    obtain ⟨hch, hcq⟩ := hsub hc (List.mem_filter.1 (hmem hc rfl)).1
    have hl : hc ∈ s3.hopeful := by rw [show s3.hopeful = s.hopeful from hhop]; exact hch
    have hq3 : s3.quota ≤ hc.vote := by
      rw [show s3.quota = s.quota from hfr.2.2.2.1]; exact hasQuotaGE_sound A hA hex s hc hcq
    obtain ⟨hcore, hx, hI, hq'⟩ := mplsElected_pre A hI1 hl hq3
    apply Inv.mplsLogTransfer
    show Inv A (Droop.surplusCore A (s3.elect A hc.cid "Elect" false) hc (rewMulDiv A))
    rw [hcore]
    have h4 := hI1.electNP A hc.cid "Elect"
    apply h4.surplusCore A hA (rewMulDiv A) (rewMulDiv_law A hA) _ hx
    · rintro (hs | ⟨_, hp⟩)
      · cases hs
      · cases hp
    · intro hh; cases hh
    · exact hI
    · exact hq'
  · rename_i s3 heq
    rw [heq] at hI1
    exact hI1

theorem Inv.mplsDefeatLow (hA : LawfulArith A) {s : St α} (h : Inv A s) : Inv A (Droop.mplsDefeatLow A s) := by
  unfold Droop.mplsDefeatLow
  split
  · split
    · exact h
    · rename_i lv _
      have hI1 := h.breakTie A (s.hopeful.filter (fun c => A.eq c.vote lv)) "Break tie (defeat low candidate)"
      have hmem := breakTie_mem A s (s.hopeful.filter (fun c => A.eq c.vote lv)) "Break tie (defeat low candidate)"
      have hhop := (tieBreak_breakTie A s "Break tie (defeat low candidate)").hopeful (s.hopeful.filter (fun c => A.eq c.vote lv))
      split
      · rename_i s3 lc heq
        rw [heq] at hI1 hmem hhop
        have hl : lc ∈ s3.hopeful := by
          rw [show s3.hopeful = s.hopeful from hhop]; exact (List.mem_filter.1 (hmem lc rfl)).1
        unfold mplsAfterDefeatLow
        split
        · apply Inv.mplsLogTransfer
          have hj := justDefeated_defeat A hI1 hl "Defeat low candidate"
          exact (hI1.defeat A lc.cid "Defeat low candidate").defeatedCore A hA [lc.cid] hj.1 hj.2
        · exact hI1.defeat A lc.cid _
      · rename_i s3 heq
        rw [heq] at hI1
        exact hI1
  · exact h

theorem Inv.mplsRound (hA : LawfulArith A) (hex : A.exact = false) {s : St α} (h : Inv A s) : Inv A (Droop.mplsRound A s).1 := by
  unfold Droop.mplsRound
  split
  · exact h.mplsDefeatMany A hA _ (mplsDefeatSet_hopeful A s) (mplsDefeatSet_nodup A s h.wf)
  · split
    · rename_i hd hs heq
      apply h.mplsElectSurplus A hA hex
      intro w hw
      have : w ∈ (byVote A true s.hopeful).filter (hasQuotaGE A s) := by rw [heq]; exact hw
      rw [List.mem_filter] at this
      exact ⟨(mem_pySorted _ _ _ _).1 this.1, this.2⟩
    · unfold mplsFinish
      split <;> exact h.mplsDefeatLow A hA

theorem Inv.mplsBody (hA : LawfulArith A) (hex : A.exact = false) {s : St α} (h : Inv A s) : Inv A (Droop.mplsBody A s).1 := by
  unfold Droop.mplsBody
  split
  · exact (h.mplsCountVotes A).mplsElectThreshold A
  · exact ((h.mplsCountVotes A).newRound A).mplsRound A hA hex

theorem Inv.mplsEpilogue {s : St α} (h : Inv A s) : Inv A (Droop.mplsEpilogue A s) := by
  unfold Droop.mplsEpilogue
  apply Inv.foldDefeat
  split
  · exact h.foldElectNP A _ _
  · exact h

/-- Minneapolis: the same, undeclared write-ins included -/
theorem mpls_conservation (hA : LawfulArith A) (hex : A.exact = false) (s0 t : St α) (h0 : Init A s0)
    (hq : 0 < A.ofInt (pdiv s0.nballots (s0.seats + 1) + 1)) (h : mplsCount A s0 = some t) :
    Inv A (t.logAct A "end" "Count Complete" []) := by
  rw [mplsCount_eq] at h
  obtain ⟨s4, hl, rfl⟩ := Option.map_eq_some_iff.1 h
  have h4 : Inv A s4 :=
    loopN_preserves_guard (Inv A) (fun _ => true) (mplsBody A) (fun s hs _ => hs.mplsBody A hA hex) _ _ _
      (Inv.mplsInit A hA h0 hq) hl
  exact (h4.mplsEpilogue A).logAct A _ _ _

end Droop
