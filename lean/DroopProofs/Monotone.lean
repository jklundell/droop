import DroopProofs.Seats

/-! # C09 (first clause) as a record property: between consecutive snapshots every status moves forward -/
namespace Droop
variable {α : Type} [CommRing α] [LinearOrder α] [IsStrictOrderedRing α] (A : Arith α)

/-- forward moves of the one-letter status code (W withdrawn, H hopeful, e elected-pending, E elected, D defeated) -/
def fwd (a b : String) : Bool :=
  a == b || (a == "H" && (b == "e" || b == "E" || b == "D")) || (a == "e" && b == "E")

def codes : List String := ["W", "H", "e", "E", "D"]

theorem fwd_refl (a : String) : fwd a a = true := by unfold fwd; simp
theorem fwd_trans : ∀ a ∈ codes, ∀ b ∈ codes, ∀ c ∈ codes, fwd a b = true → fwd b c = true → fwd a c = true := by
  decide

theorem code_mem (m : Method) (c : Cand α) : c.code m ∈ codes := by
  unfold Cand.code codes
  cases c.st <;> simp
  split <;> simp

/-- the snapshot `sn` is "behind" the state: every candidate's code in `sn` can move forward to its current code -/
def Behind (sn : Snap α) (s : St α) : Prop :=
  (∀ c ∈ s.cands, ∃ e ∈ sn.cs, e.1 = c.cid ∧ e.2.1 ∈ codes ∧ fwd e.2.1 (c.code s.method) = true)
  ∧ ∀ e ∈ sn.cs, ∃ c ∈ s.cands, c.cid = e.1

/-- consecutive snapshots of the log (newest first) are related by `fwd`, candidate by candidate, and no candidate of
    the older snapshot is missing from the newer one -/
def SnapStep (old new : Snap α) : Prop :=
  (∀ e' ∈ new.cs, ∃ e ∈ old.cs, e.1 = e'.1 ∧ fwd e.2.1 e'.2.1 = true)
  ∧ ∀ e ∈ old.cs, ∃ e' ∈ new.cs, e'.1 = e.1

def snaps (acts : List (Act α)) : List (Snap α) := acts.filterMap (·.snap)

def RecMon : List (Snap α) → Prop
  | [] => True
  | [_] => True
  | new :: old :: rest => SnapStep old new ∧ RecMon (old :: rest)

/-- the monotonicity invariant: the log is monotone and its newest snapshot is behind the current state -/
def Mon (s : St α) : Prop :=
  RecMon (snaps s.acts) ∧ ∀ sn, (snaps s.acts).head? = some sn → Behind sn s

theorem behind_mkSnap (s : St α) : Behind (s.mkSnap A) s := by
  refine ⟨?_, ?_⟩
  · intro c hc
    refine ⟨(c.cid, c.code s.method, c.vote, c.kf, c.quotient), ?_, rfl, code_mem _ _, fwd_refl _⟩
    unfold St.mkSnap
    exact List.mem_map.2 ⟨c, hc, rfl⟩
  · intro e he
    unfold St.mkSnap at he
    obtain ⟨c, hc, rfl⟩ := List.mem_map.1 he
    exact ⟨c, hc, rfl⟩

theorem snapStep_of_behind (sn : Snap α) (s : St α) (h : Behind sn s) : SnapStep sn (s.mkSnap A) := by
  refine ⟨?_, ?_⟩
  · intro e' he'
    unfold St.mkSnap at he'
    obtain ⟨c, hc, rfl⟩ := List.mem_map.1 he'
    obtain ⟨e, he, h1, _, h3⟩ := h.1 c hc
    exact ⟨e, he, h1, h3⟩
  · intro e he
    obtain ⟨c, hc, hce⟩ := h.2 e he
    refine ⟨(c.cid, c.code s.method, c.vote, c.kf, c.quotient), ?_, hce⟩
    unfold St.mkSnap
    exact List.mem_map.2 ⟨c, hc, rfl⟩

theorem Mon.logAct {s : St α} (h : Mon s) (tag verb : String) (subj : List Nat) : Mon (s.logAct A tag verb subj) := by
  -- the logged state differs from `s` only in `rounds` (tag = round) and `acts`
  have hkey : ∀ (s1 : St α), s1.cands = s.cands → s1.method = s.method → s1.acts = s.acts →
      Mon ({ s1 with acts := { tag, round := s.round, verb, subj, snap := some (St.mkSnap A s1),
                                ws := s.ballots.map (fun b => (b.idx, b.w)) } :: s1.acts } : St α) := by
    intro s1 hc hm ha
    have hsnap : St.mkSnap A s1 = St.mkSnap A s1 := rfl
    have hb1 : Behind (St.mkSnap A s1) s1 := behind_mkSnap A s1
    unfold Mon snaps
    simp only [List.filterMap_cons, ha]
    refine ⟨?_, ?_⟩
    · cases hs : (s.acts.filterMap (·.snap)) with
      | nil => trivial
      | cons old rest =>
        refine ⟨?_, ?_⟩
        · have hbo : Behind old s := h.2 old (by unfold snaps; rw [hs]; rfl)
          have hbo1 : Behind old s1 := by
            refine ⟨?_, by rw [hc]; exact hbo.2⟩
            intro c hc1; rw [hc] at hc1
            obtain ⟨e, he, h1, h2, h3⟩ := hbo.1 c hc1
            exact ⟨e, he, h1, h2, by rw [hm]; exact h3⟩
          exact snapStep_of_behind A old s1 hbo1
        · have := h.1; unfold snaps at this; rw [hs] at this; exact this
    · intro sn hsn
      simp only [List.head?_cons, Option.some.injEq] at hsn
      rw [← hsn]
      exact hb1
  unfold St.logAct
  simp only
  split
  · exact hkey { s with rounds := s.rounds ++ [s.cands] } rfl rfl rfl
  · exact hkey s rfl rfl rfl

theorem Mon.upd_forward {s : St α} (h : Mon s) (cid : Nat) (f : Cand α → Cand α)
    (hcid : ∀ c, (f c).cid = c.cid)
    (hf : ∀ c ∈ s.cands, c.cid = cid → fwd (c.code s.method) ((f c).code s.method) = true) :
    Mon (s.upd cid f) := by
  refine ⟨h.1, ?_⟩
  intro sn hsn
  refine ⟨?_, ?_⟩
  · intro c' hc'
    obtain ⟨c, hc, rfl⟩ := mem_upd.1 hc'
    obtain ⟨e, he, h1, h2, h3⟩ := (h.2 sn hsn).1 c hc
    by_cases hcc : (c.cid == cid) = true
    · simp only [hcc, if_true]
      refine ⟨e, he, by rw [hcid]; exact h1, h2, ?_⟩
      exact fwd_trans _ h2 _ (code_mem _ _) _ (code_mem _ _) h3 (hf c hc (by simpa using hcc))
    · have hf' : (c.cid == cid) = false := by simpa using hcc
      simp only [hf', Bool.false_eq_true, if_false]
      exact ⟨e, he, h1, h2, h3⟩
  · intro e he
    obtain ⟨c, hc, hce⟩ := (h.2 sn hsn).2 e he
    refine ⟨if c.cid == cid then f c else c, mem_upd.2 ⟨c, hc, rfl⟩, ?_⟩
    split
    · rw [hcid]; exact hce
    · exact hce

/-- anything that leaves ids, statuses, method and the log alone preserves `Mon` -/
theorem Mon.of_skel {s t : St α} (h : Mon s) (hsk : t.skel = s.skel) (hm : t.method = s.method) (ha : t.acts = s.acts) :
    Mon t := by
  refine ⟨by rw [ha]; exact h.1, ?_⟩
  intro sn hsn
  rw [ha] at hsn
  refine ⟨?_, ?_⟩
  · intro c' hc'
    obtain ⟨c, hc, hcs⟩ := mem_of_skel_eq hsk hc'
    obtain ⟨e, he, h1, h2, h3⟩ := (h.2 sn hsn).1 c hc
    have hcode : c'.code t.method = c.code s.method := by
      unfold Cand.code
      rw [hm, ← (skel_st hcs).1, ← (skel_st hcs).2]
    exact ⟨e, he, h1.trans (skel_cid hcs), h2, by rw [hcode]; exact h3⟩
  · intro e he
    obtain ⟨c, hc, hce⟩ := (h.2 sn hsn).2 e he
    obtain ⟨c', hc', hcs⟩ := mem_of_skel_eq hsk.symm hc
    exact ⟨c', hc', (skel_cid hcs).trans hce⟩

theorem Mon.elect {s : St α} (h : Mon s) (cid : Nat) (verb : String) (p : Bool)
    (hhop : ∀ c ∈ s.cands, c.cid = cid → c.st = .hopeful) : Mon (s.elect A cid verb p) := by
  unfold St.elect
  apply Mon.logAct
  refine Mon.upd_forward h cid _ ?_ ?_
  · intro c; rfl
  intro c hc hcid
  have := hhop c hc hcid
  unfold Cand.code fwd
  simp only [this]
  split <;> simp

theorem Mon.defeat {s : St α} (h : Mon s) (cid : Nat) (verb : String)
    (hhop : ∀ c ∈ s.cands, c.cid = cid → c.st = .hopeful) : Mon (s.defeat A cid verb) := by
  unfold St.defeat
  apply Mon.logAct
  refine Mon.upd_forward h cid _ ?_ ?_
  · intro c; rfl
  intro c hc hcid
  have := hhop c hc hcid
  unfold Cand.code fwd
  simp [this]

theorem Mon.unpend {s : St α} (h : Mon s) (cid : Nat)
    (hel : ∀ c ∈ s.cands, c.cid = cid → c.st = .elected) : Mon (s.unpendSilent cid) := by
  unfold St.unpendSilent
  refine Mon.upd_forward h cid _ ?_ ?_
  · intro c; rfl
  intro c hc hcid
  have := hel c hc hcid
  unfold Cand.code fwd
  simp only [this, Bool.and_false, Bool.false_eq_true, if_false]
  split <;> simp

theorem Mon.newRound {s : St α} (h : Mon s) : Mon (s.newRound A) := by
  unfold St.newRound
  exact Mon.logAct A (Mon.of_skel (t := { s with round := s.round + 1 }) h rfl rfl rfl) _ _ _

theorem Mon.setCrash {s : St α} (h : Mon s) (k : String) : Mon (s.setCrash k) := by
  unfold St.setCrash; split
  · exact h
  · exact Mon.of_skel h rfl rfl rfl

theorem Mon.breakTie {s : St α} (h : Mon s) (tied : List (Cand α)) (verb : String) :
    Mon (Droop.breakTie A s tied verb).1 := by
  unfold Droop.breakTie
  split
  · exact h.setCrash _
  · exact h
  · exact h.logAct A _ _ _

theorem Mon.transferAll {s : St α} (h : Mon s) (cids : List Nat) (rew : α → α) : Mon (transferAll A s cids rew) :=
  Mon.of_skel h (transferAll_skel A s cids rew) (transferAll_method A s cids rew) (transferAll_acts A s cids rew)

theorem Mon.setVote {s : St α} (h : Mon s) (cid : Nat) (v : α) : Mon (s.setVote cid v) :=
  Mon.of_skel h (setVote_skel s cid v) rfl rfl

theorem Mon.transferSurplus {s : St α} (h : Mon s) (hc : Cand α) (rew : α → α → α → α) (verb : String) :
    Mon (Droop.transferSurplus A s hc rew verb) := by
  unfold Droop.transferSurplus; dsimp only
  exact Mon.logAct A ((h.transferAll A _ _).setVote _ _) _ _ _

theorem Mon.foldSetVote (l : List Nat) {s : St α} (h : Mon s) : Mon (l.foldl (fun acc c => acc.setVote c A.zero) s) := by
  induction l generalizing s with
  | nil => exact h
  | cons c cs ih => simp only [List.foldl_cons]; exact ih (h.setVote c _)

theorem Mon.transferDefeated {s : St α} (h : Mon s) (cids : List Nat) (verb : String) :
    Mon (Droop.transferDefeated A s cids verb) := by
  unfold Droop.transferDefeated; dsimp only
  exact Mon.logAct A (Mon.foldSetVote A cids (h.transferAll A _ _)) _ _ _

theorem Mon.unpendLog {s : St α} (h : Mon s) (cid : Nat) (verb : String)
    (hel : ∀ c ∈ s.cands, c.cid = cid → c.st = .elected) : Mon (s.unpendLog A cid verb) := by
  unfold St.unpendLog
  exact Mon.logAct A (h.unpend cid hel) _ _ _

/-- loop invariant: the conservation bundle together with the monotone-record invariant -/
def InvM (s : St α) : Prop := Inv A s ∧ Mon s

end Droop
