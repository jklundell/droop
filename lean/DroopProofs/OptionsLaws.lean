import DroopModel.Options

/-! # C17: precedence of the four option layers; statutory rules cannot be reconfigured -/
namespace Droop
open Options

/-- precedence, stated outright: forced, else caller's, else ballot file's, else the rule's default -/
theorem getopt_precedence (o : Options) (k : String) :
    o.getopt k =
      match o.force.find? (·.1 == k) with
      | some e => e.2
      | none => match o.cmd.find? (·.1 == k) with
        | some e => e.2
        | none => match o.file.find? (·.1 == k) with
          | some e => e.2
          | none => match o.dflt.find? (·.1 == k) with
            | some e => e.2
            | none => .none := by
  unfold Options.getopt Options.layer
  cases o.force.find? (·.1 == k) <;> cases o.cmd.find? (·.1 == k) <;> cases o.file.find? (·.1 == k)
    <;> cases o.dflt.find? (·.1 == k) <;> rfl

/-- the value of a key held in the `force` layer -/
def forced (o : Options) (k : String) (v : OV) : Prop := o.force.find? (·.1 == k) = some (k, v)

theorem getopt_of_forced {o : Options} {k : String} {v : OV} (h : forced o k v) : o.getopt k = v := by
  rw [getopt_precedence]; unfold forced at h; rw [h]

section Dict
variable {κ ν : Type} [BEq κ] [LawfulBEq κ]

/-- Python `d[k] = v`: looking `k` up afterwards finds `v` -/
theorem find?_dictSet_same (d : List (κ × ν)) (k : κ) (v : ν) : (dictSet d k v).find? (·.1 == k) = some (k, v) := by
  unfold dictSet
  split
  · rename_i h
    obtain ⟨e, he, hk⟩ := List.any_eq_true.1 h
    induction d with
    | nil => cases he
    | cons x xs ih =>
      rw [List.map_cons, List.find?_cons]
      by_cases hx : (x.1 == k) = true
      · simp [hx]
      · rcases List.mem_cons.1 he with rfl | he'
        · exact absurd hk hx
        · simp only [hx, if_false, Bool.false_eq_true]
          exact ih (List.any_eq_true.2 ⟨e, he', hk⟩) he'
  · rename_i h
    rw [List.find?_append, List.find?_eq_none.2 fun x hx hxk => h (List.any_eq_true.2 ⟨x, hx, hxk⟩)]
    simp

/-- ... and every other key as before -/
theorem find?_dictSet_other (d : List (κ × ν)) (k k' : κ) (v : ν) (hne : k' ≠ k) :
    (dictSet d k v).find? (·.1 == k') = d.find? (·.1 == k') := by
  have hkk : (k == k') = false := beq_false_of_ne fun e => hne e.symm
  unfold dictSet
  split
  · rename_i h
    clear h
    induction d with
    | nil => rfl
    | cons x xs ih =>
      rw [List.map_cons, List.find?_cons, List.find?_cons, ih]
      by_cases hx : (x.1 == k) = true
      · rw [if_pos hx, show (x.1 == k') = false by rw [eq_of_beq hx]; exact hkk]; simp [hkk]
      · rw [if_neg hx]
  · rw [List.find?_append]
    simp [hkk]

end Dict

/-- `setopt … force=True` makes the key forced to the normalised default and keeps other forced keys -/
theorem setopt_force (o : Options) (k : String) (v : OV) :
    ∃ o', o.setopt k v (force := true) = .ok (o', v.normalize) ∧ forced o' k v.normalize
      ∧ ∀ k' w, k' ≠ k → forced o k' w → forced o' k' w := by
  have hf : forced ({ o with dflt := setDefault o.dflt k v.normalize, force := dictSet o.force k v.normalize } : Options)
      k v.normalize := find?_dictSet_same _ k _
  refine ⟨{ o with dflt := setDefault o.dflt k v.normalize, force := dictSet o.force k v.normalize }, ?_, hf, ?_⟩
  · unfold Options.setopt
    simp only [List.isEmpty_nil, if_true]
    rw [getopt_of_forced hf]
  · intro k' w hne hfw
    unfold forced at hfw ⊢
    simp only
    rw [find?_dictSet_other _ k k' _ hne]; exact hfw

/-- a non-forcing `setopt` leaves the forced layer alone -/
theorem setopt_keeps (o : Options) (k : String) (d : OV) (allowed : List OV) (o' : Options) (r : OV)
    (h : o.setopt k d (allowed := allowed) = .ok (o', r)) : o'.force = o.force := by
  revert h
  -- the exits of `setopt`: no list of allowed values, an allowed value, a value that is not allowed
  fun_cases Options.setopt o k d false allowed <;> intro h
  case case3 => cases h
  all_goals exact (Prod.mk.inj (Except.ok.inj h)).1 ▸ rfl

theorem setopt_forced_value (o : Options) (k : String) (d v : OV) (hf : forced o k v) :
    ∃ o', o.setopt k d = .ok (o', v) ∧ o'.force = o.force := by
  have : forced ({ o with dflt := setDefault o.dflt k d.normalize } : Options) k v := hf
  refine ⟨{ o with dflt := setDefault o.dflt k d.normalize }, ?_, rfl⟩
  unfold Options.setopt
  simp only [Bool.false_eq_true, if_false, List.isEmpty_nil, if_true]
  rw [getopt_of_forced this]

/-- after `forceFixed o p`: arithmetic, precision, display are forced to fixed / p / p whatever `o` contains -/
theorem forceFixed_spec (o : Options) (p : Nat) :
    ∃ o', forceFixed o p = .ok o' ∧ forced o' "arithmetic" (.s "fixed") ∧ forced o' "precision" (.i p)
      ∧ forced o' "display" (.i p) := by
  unfold forceFixed
  obtain ⟨o1, h1, f1, _⟩ := setopt_force o "arithmetic" (.s "fixed")
  obtain ⟨o2, h2, f2, k2⟩ := setopt_force o1 "precision" (.i p)
  obtain ⟨o3, h3, f3, k3⟩ := setopt_force o2 "display" (.i p)
  have hn1 : (OV.s "fixed").normalize = .s "fixed" := by decide
  refine ⟨o3, ?_, ?_, ?_, ?_⟩
  · simp only [h1, h2, h3, bind, Except.bind, pure, Except.pure]
  · rw [hn1] at f1
    exact k3 _ _ (by decide) (k2 _ _ (by decide) f1)
  · exact k3 _ _ (by decide) f2
  · exact f3

theorem forced_of_force_eq {o o' : Options} (h : o'.force = o.force) {k : String} {v : OV} (hf : forced o k v) :
    forced o' k v := by unfold forced at *; rw [h]; exact hf

/-- once arithmetic, precision and display are forced to fixed / p / p, `ArithmeticClass` configures fixed p/p whatever the
    other layers hold -/
theorem C17.fixed_config_of_forced (o1 : Options) (p : Nat) (fa : forced o1 "arithmetic" (.s "fixed"))
    (fp : forced o1 "precision" (.i p)) (fd : forced o1 "display" (.i p)) :
    ∃ o', arithmeticClass o1 = .ok (o', .fixed p p) := by
  obtain ⟨o2, h2, hforce⟩ := setopt_forced_value o1 "arithmetic" (.s "guarded") (.s "fixed") fa
  have fa2 := forced_of_force_eq hforce fa
  have fp2 := forced_of_force_eq hforce fp
  have fd2 := forced_of_force_eq hforce fd
  refine ⟨o2, ?_⟩
  unfold arithmeticClass
  simp only [h2, bind, Except.bind]
  have e1 : (OV.s "fixed").pyEq (.s "rational") = false := by decide
  have e2 : (OV.s "fixed").pyEq (.s "fixed") = true := by decide
  have e3 : (OV.s "fixed").pyEq (.s "integer") = false := by decide
  simp only [e1, e2, Bool.false_eq_true, if_false, Bool.true_or, if_true]
  unfold fixedInitialize
  simp only [getopt_of_forced fa2, getopt_of_forced fp2, getopt_of_forced fd2, e2, e3, Bool.true_or, Bool.not_true,
    Bool.false_eq_true, if_false, bind, Except.bind, pure, Except.pure]
  have hs : strictNat (.i (p : Int)) = .ok p := by
    unfold strictNat pyInt OV.pyStr
    simp
  simp only [hs]
  unfold pyInt
  simp

/-- **statutory immunity (fixed-point rules)**: whatever the caller or the ballot file put in any layer, once the
    rule has forced `arithmetic=fixed, precision=p, display=p` the arithmetic class is configured as fixed/p/p. -/
theorem statutory_fixed_config (o : Options) (p : Nat) :
    ∃ o', (forceFixed o p >>= arithmeticClass) = .ok (o', .fixed p p) := by
  obtain ⟨o1, h1, fa, fp, fd⟩ := forceFixed_spec o p
  rw [h1]
  exact C17.fixed_config_of_forced o1 p fa fp fd

end Droop
