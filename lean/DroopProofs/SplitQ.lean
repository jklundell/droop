import DroopProofs.PermBQpq
import DroopProofs.SplitB

/-! # C10 for QPQ: splitting a ballot line `(m, r)` into `(m₁, r)` and `(m − m₁, r)` (and merging, read backwards)

QPQ treats the ballot list through per-ballot maps that do not look at the multiplier (`MultEq`: advance, reset, set the
contribution), through the tally fold, which adds multipliers and contribution × multiplier, and through the initial sum of the
multipliers of the non-exhausted ballots.  Both halves of a split line move together, and the additions are exact: `XQ_split`. -/
namespace Droop
variable {α : Type} [CommRing α] [LinearOrder α] [IsStrictOrderedRing α] (A : Arith α)

theorem multEq_mult {f : Ballot α → Ballot α} (hf : MultEq f) (b : Ballot α) : (f b).mult = b.mult := by
  have h := congrArg Ballot.mult (hf b b.mult)
  exact h

theorem upd_upd_same (s : St α) (cid : Nat) (f g : Cand α → Cand α) (hf : ∀ c, (f c).cid = c.cid) :
    (s.upd cid f).upd cid g = s.upd cid (g ∘ f) := by
  unfold St.upd
  simp only [List.map_map]
  congr 1
  apply List.map_congr_left
  intro c _
  simp only [Function.comp]
  by_cases h : (c.cid == cid) = true
  · have h' : ((f c).cid == cid) = true := by rw [hf]; exact h
    simp only [h, if_true, h']
  · simp only [h, Bool.false_eq_true, if_false]

theorem cast_split (b : Ballot α) (m1 : Nat) :
    (((min m1 b.mult : Nat) : Int) : α) + (((b.mult - min m1 b.mult : Nat) : Int) : α) = ((b.mult : Int) : α) := by
  have hle : min m1 b.mult ≤ b.mult := Nat.min_le_right _ _
  have h1 : ((min m1 b.mult : Nat) : Int) + ((b.mult - min m1 b.mult : Nat) : Int) = (b.mult : Int) := by omega
  rw [← Int.cast_add, h1]

/-- the two halves of a split line tally as the whole -/
theorem qTally_split (hA : LawfulArith A) (acc : QSt α) (b : Ballot α) (m1 : Nat) :
    (splitOne m1 b).foldl (qTally A) acc = qTally A acc b := by
  unfold splitOne
  simp only [List.foldl_cons, List.foldl_nil]
  unfold qTally
  have ht1 : ({ b with mult := min m1 b.mult } : Ballot α).top = b.top := rfl
  have ht2 : ({ b with mult := b.mult - min m1 b.mult } : Ballot α).top = b.top := rfl
  rw [ht1, ht2]
  have hc := cast_split b m1
  cases hb : b.top with
  | none =>
    simp only [hA.add_eq, hA.mulV_ofInt]
    congr 1
    rw [← hc]; ring
  | some c =>
    simp only
    rw [upd_upd_same acc.s c
      (fun x => { x with tc := A.add x.tc (A.mulV b.w (A.ofInt (min m1 b.mult : Nat))), vote := A.add x.vote (A.ofInt (min m1 b.mult : Nat)) })
      (fun x => { x with tc := A.add x.tc (A.mulV b.w (A.ofInt (b.mult - min m1 b.mult : Nat))), vote := A.add x.vote (A.ofInt (b.mult - min m1 b.mult : Nat)) })
      (fun _ => rfl)]
    congr 1
    · congr 1
      funext x
      simp only [Function.comp, hA.mulV_ofInt]
      simp only [hA.add_eq, hA.ofInt_eq]
      congr 1
      · rw [← hc]; ring
      · rw [← hc]; ring
    · simp only [hA.add_eq, hA.ofInt_eq]
      rw [← hc]; ring

/-- splitting one ballot line is a transformation the QPQ count commutes with -/
theorem XQ_split (hA : LawfulArith A) (i m1 : Nat) : XQ A (splitBallots (α := α) i m1) (splitViews i) := by
  refine { toXF := XF_split A hA i m1, mapB := ?_, tally := ?_, vaSum := ?_ }
  · intro f hf l
    unfold splitBallots splitOne
    rw [← List.map_take, ← List.map_drop, List.map_append]
    congr 1
    cases l.drop i with
    | nil => rfl
    | cons b r =>
      simp only [List.map_cons, List.cons_append, List.nil_append, List.map_nil]
      rw [multEq_mult hf b, hf b (min m1 b.mult), hf b (b.mult - min m1 b.mult)]
  · intro acc l
    unfold splitBallots
    conv_rhs => rw [← List.take_append_drop i l]
    rw [List.foldl_append, List.foldl_append]
    cases l.drop i with
    | nil => rfl
    | cons b r =>
      simp only [List.foldl_append, List.foldl_cons]
      rw [qTally_split A hA]
  · intro l
    unfold splitBallots
    conv_rhs => rw [← List.take_append_drop i l]
    rw [List.filter_append, List.filter_append, List.map_append, List.map_append, arith_sum_eq A hA, arith_sum_eq A hA,
      List.sum_append, List.sum_append]
    congr 1
    cases l.drop i with
    | nil => rfl
    | cons b r =>
      unfold splitOne
      have he1 : ({ b with mult := min m1 b.mult } : Ballot α).exhaustedB = b.exhaustedB := rfl
      have he2 : ({ b with mult := b.mult - min m1 b.mult } : Ballot α).exhaustedB = b.exhaustedB := rfl
      simp only [List.cons_append, List.nil_append, List.filter_cons, he1, he2]
      have hc := cast_split b m1
      by_cases hb : (!b.exhaustedB) = true
      · simp only [hb, if_true, List.map_cons, List.sum_cons, hA.ofInt_eq]
        rw [← hc]; ring
      · simp only [hb, Bool.false_eq_true, if_false]

end Droop
