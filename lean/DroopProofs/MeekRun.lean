import DroopProofs.InvWigm
import DroopProofs.MeekDist
import DroopProofs.MeekIter

/-! # Meek / Warren (strict ballots): votes + residual = ballots, in the state and in every snapshot of the record

The identity bundle `MInv` through every move of the driver, and at the start of a count (`MInit`); the walk through the rounds and
the run-level statements are in `MeekRound.lean`. -/
namespace Droop
variable {α : Type} [CommRing α] [LinearOrder α] [IsStrictOrderedRing α] (A : Arith α)

/-- what the record shows in one snapshot of a Meek-family count: the tallies of the non-withdrawn candidates plus the
    residual are exactly the ballots (C08, first sentence; C02 for the Meek family) -/
def SnapM (nb : Nat) (sn : Snap α) : Prop :=
  ((sn.cs.filter (fun e => e.2.1 != "W")).map (fun e => e.2.2.1)).sum + sn.x1 = A.ofInt nb

def RecM (s : St α) : Prop := ∀ a ∈ s.acts, ∀ sn, a.snap = some sn → SnapM A s.nballots sn

/-- a candidate that a distribution never credits: no keep factor, or keep factor zero -/
def Cand.noKeep (c : Cand α) : Prop := c.kf = none ∨ ∃ k, c.kf = some k ∧ A.isZero k = true

/-- everything a distribution needs: excluded and withdrawn candidates hold nothing and keep nothing -/
structure MPre (s : St α) : Prop where
  meth : s.method = .meek
  wf : s.WF
  noEq : s.ballotsEq = []
  nb : (s.ballots.map (fun b => A.ofInt b.mult)).sum = A.ofInt s.nballots
  dead : ∀ c ∈ s.cands, (c.st = .defeated ∨ c.st = .withdrawn) → c.vote = 0 ∧ c.noKeep A
  recM : RecM A s

/-- `MPre` together with the identity votes + residual = ballots -/
structure MInv (s : St α) : Prop extends MPre A s where
  total : s.sumVotes + s.residual = A.ofInt s.nballots

theorem code_W_iff (m : Method) (c : Cand α) : c.code m = "W" ↔ c.st = .withdrawn := by
  unfold Cand.code
  cases c.st <;> simp
  split <;> simp

/-- the snapshot taken of a state in which withdrawn candidates hold nothing shows the state's total -/
theorem snapM_mkSnap (s : St α) (hm : s.method = .meek) (hw : ∀ c ∈ s.cands, c.st = .withdrawn → c.vote = 0)
    (ht : s.sumVotes + s.residual = A.ofInt s.nballots) : SnapM A s.nballots (s.mkSnap A) := by
  unfold SnapM St.mkSnap
  simp only [hm, if_true, beq_self_eq_true]
  have key : ∀ (l : List (Cand α)), (∀ c ∈ l, c.st = .withdrawn → c.vote = 0) →
      (((l.map (fun c => (c.cid, c.code s.method, c.vote, c.kf, c.quotient))).filter (fun e => e.2.1 != "W")).map
        (fun e => e.2.2.1)).sum = (l.map (·.vote)).sum := by
    intro l
    induction l with
    | nil => intro _; rfl
    | cons c cs ih =>
      intro h
      simp only [List.map_cons, List.filter_cons, List.sum_cons]
      by_cases hc : c.st = .withdrawn
      · have : (c.code s.method != "W") = false := by simp [(code_W_iff s.method c).2 hc]
        simp only [this, Bool.false_eq_true, if_false]
        rw [ih (fun d hd => h d (by simp [hd])), h c (by simp) hc, zero_add]
      · have : (c.code s.method != "W") = true := by
          simp only [bne_iff_ne, ne_eq]; intro e; exact hc ((code_W_iff s.method c).1 e)
        simp only [this, if_true, List.map_cons, List.sum_cons]
        rw [ih (fun d hd => h d (by simp [hd]))]
  have key2 := key s.cands hw
  rw [hm] at key2
  rw [key2]
  exact ht

theorem MInv.withdrawn_zero {s : St α} (h : MInv A s) : ∀ c ∈ s.cands, c.st = .withdrawn → c.vote = 0 :=
  fun c hc hw => (h.dead c hc (Or.inr hw)).1

/-- states that agree on everything the invariant reads -/
theorem MInv.of_same {s t : St α} (h : MInv A s) (hc : t.cands = s.cands) (hb : t.ballots = s.ballots)
    (he : t.ballotsEq = s.ballotsEq) (hr : t.residual = s.residual) (hn : t.nballots = s.nballots)
    (hm : t.method = s.method) (ha : t.acts = s.acts) : MInv A t :=
  { meth := hm ▸ h.meth
    wf := by unfold St.WF; rw [hc]; exact h.wf
    noEq := he ▸ h.noEq
    nb := by rw [hb, hn]; exact h.nb
    dead := by rw [hc]; exact h.dead
    recM := by unfold RecM; rw [ha, hn]; exact h.recM
    total := by unfold St.sumVotes; rw [hc, hr, hn]; exact h.total }

/-- what `logAct` adds to the record: one action, carrying the snapshot of the state -/
theorem logAct_snaps (s : St α) (tag verb : String) (subj : List Nat) {P : Snap α → Prop} (hs : P (s.mkSnap A))
    (hr : ∀ a ∈ s.acts, ∀ sn, a.snap = some sn → P sn) :
    ∀ a ∈ (s.logAct A tag verb subj).acts, ∀ sn, a.snap = some sn → P sn := by
  have e : (s.logAct A tag verb subj).acts
      = { tag, round := s.round, verb, subj, snap := some (s.mkSnap A), ws := s.ballots.map (fun b => (b.idx, b.w)) } :: s.acts := by
    unfold St.logAct; simp only; split <;> rfl
  intro a ha sn hsn
  rw [e] at ha
  rcases List.mem_cons.mp ha with rfl | ha'
  · rw [← Option.some.inj hsn]; exact hs
  · exact hr a ha' sn hsn

/-- logging needs only: method, "withdrawn hold nothing", the identity, and the record so far -/
theorem recM_logAct (s : St α) (hm : s.method = .meek) (hw : ∀ c ∈ s.cands, c.st = .withdrawn → c.vote = 0)
    (ht : s.sumVotes + s.residual = A.ofInt s.nballots) (hr : RecM A s) (tag verb : String) (subj : List Nat) :
    RecM A (s.logAct A tag verb subj) := by
  unfold RecM
  rw [(logAct_frame A s tag verb subj).2.2.2.2]
  exact logAct_snaps A s tag verb subj (snapM_mkSnap A s hm hw ht) hr

theorem MInv.logAct {s : St α} (h : MInv A s) (tag verb : String) (subj : List Nat) : MInv A (s.logAct A tag verb subj) := by
  obtain ⟨e1, e2, _, _, e5⟩ := logAct_frame A s tag verb subj
  have hfr : (s.logAct A tag verb subj).ballotsEq = s.ballotsEq ∧ (s.logAct A tag verb subj).residual = s.residual
      ∧ (s.logAct A tag verb subj).method = s.method := by
    unfold St.logAct; simp only; split <;> exact ⟨rfl, rfl, rfl⟩
  obtain ⟨e3, e4, e6⟩ := hfr
  exact
    { meth := e6 ▸ h.meth
      wf := by unfold St.WF; rw [e1]; exact h.wf
      noEq := e3 ▸ h.noEq
      nb := by rw [e2, e5]; exact h.nb
      dead := by rw [e1]; exact h.dead
      recM := recM_logAct A s h.meth (h.withdrawn_zero A) h.total h.recM tag verb subj
      total := by unfold St.sumVotes; rw [e1, e4, e5]; exact h.total }

theorem MInv.logMsg {s : St α} (h : MInv A s) (verb : String) (subj : List Nat) (v : Option α) : MInv A (s.logMsg verb subj v) :=
  { meth := h.meth, wf := h.wf, noEq := h.noEq, nb := h.nb, dead := h.dead, total := h.total
    recM := by
      intro a ha sn hsn
      unfold St.logMsg at ha
      rcases List.mem_cons.mp ha with rfl | ha'
      · simp at hsn
      · exact h.recM a ha' sn hsn }

theorem MInv.newRound {s : St α} (h : MInv A s) : MInv A (s.newRound A) := by
  unfold St.newRound
  have h1 : MInv A ({ s with round := s.round + 1 } : St α) := h.of_same A rfl rfl rfl rfl rfl rfl rfl
  exact h1.logAct A _ _ _

theorem MInv.setCrash {s : St α} (h : MInv A s) (k : String) : MInv A (s.setCrash k) := by
  unfold St.setCrash
  split
  · exact h
  · exact h.of_same A rfl rfl rfl rfl rfl rfl rfl

/-- a change of status only (elect, defeat) keeps the identity; it may take a candidate *out of* the dead set, never
    silently into it -/
theorem MInv.upd_status {s : St α} (h : MInv A s) (cid : Nat) (f : Cand α → Cand α)
    (hf : ∀ c, (f c).cid = c.cid ∧ (f c).vote = c.vote ∧ (f c).kf = c.kf)
    (hdead : ∀ c ∈ s.cands, c.cid = cid → ((f c).st = .defeated ∨ (f c).st = .withdrawn) → c.vote = 0 ∧ c.noKeep A) :
    MInv A (s.upd cid f) :=
  { meth := h.meth
    wf := by
      unfold St.WF
      rw [upd_status_cids s cid f (fun c => ⟨(hf c).1, (hf c).2.1⟩)]; exact h.wf
    noEq := h.noEq, nb := h.nb, recM := h.recM
    dead := by
      intro c' hc' hd
      obtain ⟨c, hc, ⟨hcc, e⟩ | ⟨_, e⟩⟩ := mem_upd_cases.1 hc' <;> subst e
      · have := hdead c hc hcc hd
        unfold Cand.noKeep at this ⊢
        rw [(hf c).2.1, (hf c).2.2]; exact this
      · exact h.dead _ hc hd
    total := by
      unfold St.sumVotes
      rw [upd_status_votes s cid f (fun c => ⟨(hf c).1, (hf c).2.1⟩)]; exact h.total }

theorem MInv.elect {s : St α} (h : MInv A s) (cid : Nat) (verb : String) (p : Bool) : MInv A (s.elect A cid verb p) := by
  unfold St.elect
  apply MInv.logAct
  apply h.upd_status A cid (fun c => { c with st := .elected, pending := p }) (fun c => ⟨rfl, rfl, rfl⟩)
  intro c _ _ hd
  rcases hd with hd | hd <;> simp at hd

theorem MInv.foldElect {s : St α} (h : MInv A s) (ws : List (Cand α)) (verb : String) :
    MInv A (ws.foldl (fun acc c => acc.elect A c.cid verb false) s) := by
  induction ws generalizing s with
  | nil => exact h
  | cons w ws ih => simp only [List.foldl_cons]; exact ih (h.elect A w.cid verb false)

theorem MInv.breakTie {s : St α} (h : MInv A s) (tied : List (Cand α)) (verb : String) :
    MInv A (Droop.breakTie A s tied verb).1 := by
  unfold Droop.breakTie
  split
  · exact h.setCrash A _
  · exact h
  · exact h.logAct A _ _ _

end Droop

namespace Droop
variable {α : Type} [CommRing α] [LinearOrder α] [IsStrictOrderedRing α] (A : Arith α)

theorem cand?_some_mem {s : St α} {cid : Nat} {c : Cand α} (h : s.cand? cid = some c) : c ∈ s.cands ∧ c.cid = cid := by
  unfold St.cand? at h
  exact ⟨List.mem_of_find?_eq_some h, by have := List.find?_some h; simpa using this⟩

theorem cand?_of_mem {s : St α} (hwf : s.WF) {c : Cand α} (hc : c ∈ s.cands) : s.cand? c.cid = some c := by
  cases hf : s.cand? c.cid with
  | none =>
    have := (cand?_isSome_iff s c.cid).2 ⟨c, hc, rfl⟩
    rw [hf] at this; cases this
  | some d =>
    obtain ⟨hd, hdc⟩ := cand?_some_mem hf
    rw [nodup_cid_eq hwf hd hc hdc]

theorem distributeVotes_skel (warren : Bool) (s : St α) (hwf : s.WF) (hq : s.ballotsEq = []) (hA : LawfulArith A) :
    (distributeVotes A warren s).skel = s.skel := by
  rw [distributeVotes_strict A warren s hq]
  have hwf1 : (startDist A s).WF := WF_of_skel (startDist_skel A s).symm hwf
  obtain ⟨_, h2⟩ := foldl_distBallotStep_sum A hA warren (startDist A s).ballots (startDist A s) hwf1
  unfold distStrict
  rw [h2, startDist_skel]

/-- a candidate that keeps nothing is not touched by a step of a ballot's descent -/
theorem distRankStep_keeps (warren : Bool) (mult : α) (acc : St α × α × α × Bool) (cid : Nat) (hwf : acc.1.WF)
    (c : Cand α) (hc : c ∈ acc.1.cands) (hk : c.noKeep A) : c ∈ (distRankStep A warren mult acc cid).1.cands := by
  unfold distRankStep
  split
  · exact hc
  · cases hkf : kfOf acc.1 cid with
    | none => exact hc
    | some kf =>
      simp only
      split
      · exact hc
      · rename_i hnz
        apply mem_upd_of_ne hc
        intro e
        have h1 : acc.1.cand? cid = some c := by rw [← e]; exact cand?_of_mem hwf hc
        unfold kfOf at hkf
        rw [h1] at hkf
        simp only at hkf
        rcases hk with hk | ⟨k, hk, hz⟩
        · rw [hk] at hkf; cases hkf
        · rw [hk] at hkf
          have : k = kf := Option.some.inj hkf
          rw [this] at hz; exact hnz hz

/-- ... nor by a whole distribution: through both folds the ids stay distinct and the candidate stays in the list -/
theorem distStrict_keeps (hA : LawfulArith A) (warren : Bool) (s : St α) (hwf : s.WF)
    (c : Cand α) (hc : c ∈ s.cands) (hk : c.noKeep A) : c ∈ (distStrict A warren s).cands := by
  unfold distStrict
  have hrank : ∀ (mult : α) (rank : List Nat) (acc : St α × α × α × Bool), acc.1.WF ∧ c ∈ acc.1.cands →
      (rank.foldl (distRankStep A warren mult) acc).1.WF ∧ c ∈ (rank.foldl (distRankStep A warren mult) acc).1.cands := by
    intro mult rank
    induction rank with
    | nil => exact fun _ h => h
    | cons d ds ih =>
      exact fun acc h => ih _ ⟨WF_of_skel (distRankStep_sum A hA warren mult acc d h.1).2.1.symm h.1,
        distRankStep_keeps A warren mult acc d h.1 c h.2 hk⟩
  have hb : ∀ (bs : List (Ballot α)) (t : St α), t.WF ∧ c ∈ t.cands → c ∈ (bs.foldl (distBallotStep A warren) t).cands := by
    intro bs
    induction bs with
    | nil => exact fun _ h => h.2
    | cons b bs ih => exact fun t h => ih _ (hrank (A.ofInt b.mult) b.rank (t, A.one, A.ofInt b.mult, false) h)
  exact hb _ _ ⟨hwf, hc⟩

theorem startDist_keeps (s : St α) (c : Cand α) (hc : c ∈ s.cands) (hd : c.st = .defeated ∨ c.st = .withdrawn) :
    c ∈ (startDist A s).cands := by
  unfold startDist zeroActiveVotes St.setResidual
  simp only [List.mem_map]
  refine ⟨c, hc, ?_⟩
  rcases hd with hd | hd <;> simp [hd]

/-- the votes zeroed at the start of a distribution are all there is, when the dead hold nothing -/
theorem startDist_sumVotes (s : St α) (hdead : ∀ c ∈ s.cands, (c.st = .defeated ∨ c.st = .withdrawn) → c.vote = 0)
    (hz : A.zero = 0) : (startDist A s).sumVotes = 0 := by
  unfold startDist zeroActiveVotes St.setResidual St.sumVotes
  simp only [List.map_map]
  have : ∀ (l : List (Cand α)), (∀ c ∈ l, (c.st = .defeated ∨ c.st = .withdrawn) → c.vote = 0) →
      (l.map ((fun c => c.vote) ∘ fun c => if (c.st == .hopeful || c.st == .elected) = true then { c with vote := A.zero } else c)).sum = 0 := by
    intro l
    induction l with
    | nil => intro _; rfl
    | cons c cs ih =>
      intro h
      simp only [List.map_cons, List.sum_cons, Function.comp]
      rw [ih (fun d hd => h d (by simp [hd]))]
      cases hst : c.st with
      | hopeful => simp [hz]
      | elected => simp [hz]
      | defeated => simp [h c (by simp) (Or.inl hst)]
      | withdrawn => simp [h c (by simp) (Or.inr hst)]
  exact this s.cands hdead

/-- **a distribution re-establishes the identity**: from a state in which excluded and withdrawn candidates hold and
    keep nothing, whatever the keep factors of the others -/
theorem MPre.distribute (hA : LawfulArith A) (warren : Bool) {s : St α} (h : MPre A s) : MInv A (distributeVotes A warren s) := by
  have hfr := distributeVotes_frame A warren s h.noEq
  obtain ⟨f1, f2, f3, f4, f5⟩ := hfr
  have hsk := distributeVotes_skel A warren s h.wf h.noEq hA
  have hwf : (distributeVotes A warren s).WF := WF_of_skel hsk.symm h.wf
  have hsum := distributeVotes_sum A hA warren s h.wf h.noEq
  have hz := startDist_sumVotes A s (fun c hc hd => (h.dead c hc hd).1) hA.zero_eq
  refine
    { meth := f4 ▸ h.meth, wf := hwf, noEq := f2 ▸ h.noEq
      nb := by rw [f1, f3]; exact h.nb
      recM := by unfold RecM; rw [f5, f3]; exact h.recM
      dead := ?_
      total := by rw [hsum, hz, zero_add, f3]; exact h.nb }
  intro c' hc' hd
  obtain ⟨c, hc, hcsk⟩ := mem_of_skel_eq hsk hc'
  have hst := skel_st hcsk
  have hdc : c.st = .defeated ∨ c.st = .withdrawn := by rw [← hst.1] at hd; exact hd
  obtain ⟨hv, hk⟩ := h.dead c hc hdc
  -- the dead candidate is carried through unchanged
  have hkeep : c ∈ (distributeVotes A warren s).cands := by
    rw [distributeVotes_strict A warren s h.noEq]
    exact distStrict_keeps A hA warren _ (WF_of_skel (startDist_skel A s).symm h.wf) c (startDist_keeps A s c hc hdc) hk
  have : c' = c := nodup_cid_eq hwf hc' hkeep (skel_cid hcsk).symm
  rw [this]; exact ⟨hv, hk⟩

end Droop

namespace Droop
variable {α : Type} [CommRing α] [LinearOrder α] [IsStrictOrderedRing α] (A : Arith α)

theorem MInv.setVotes {s : St α} (h : MInv A s) (v : α) : MInv A (s.setVotes v) := h.of_same A rfl rfl rfl rfl rfl rfl rfl
theorem MInv.setQuota {s : St α} (h : MInv A s) (v : α) : MInv A (s.setQuota v) := h.of_same A rfl rfl rfl rfl rfl rfl rfl
theorem MInv.setSurplus {s : St α} (h : MInv A s) (v : α) : MInv A (s.setSurplus v) := h.of_same A rfl rfl rfl rfl rfl rfl rfl

/-- one iteration (distribution, quota, election step, surplus) keeps the identity -/
theorem MInv.meekIterCore (hA : LawfulArith A) (o : MeekOpts) {s : St α} (h : MInv A s) : MInv A (Droop.meekIterCore A o s) := by
  unfold Droop.meekIterCore
  dsimp only
  apply MInv.setSurplus
  apply MInv.foldElect
  apply MInv.setQuota
  apply MInv.setVotes
  exact h.toMPre.distribute A hA o.warren

/-- changing only the keep factor of candidates that are elected -/
theorem MInv.upd_kf {s : St α} (h : MInv A s) (cid : Nat) (k : α)
    (hel : ∀ x ∈ s.cands, x.cid = cid → x.st = .elected) : MInv A (s.upd cid (fun x => { x with kf := some k })) :=
  { meth := h.meth
    wf := by
      unfold St.WF
      rw [upd_status_cids s cid (fun x => { x with kf := some k }) (fun c => ⟨rfl, rfl⟩)]; exact h.wf
    noEq := h.noEq, nb := h.nb, recM := h.recM
    dead := by
      intro c' hc' hd
      obtain ⟨c, hc, ⟨hcc, e⟩ | ⟨_, e⟩⟩ := mem_upd_cases.1 hc' <;> subst e
      · have hd' : c.st = .defeated ∨ c.st = .withdrawn := hd
        rw [hel c hc hcc] at hd'
        rcases hd' with hd' | hd' <;> cases hd'
      · exact h.dead _ hc hd
    total := by
      unfold St.sumVotes
      rw [upd_status_votes s cid (fun x => { x with kf := some k }) (fun c => ⟨rfl, rfl⟩)]; exact h.total }

theorem upd_kf_skel (s : St α) (cid : Nat) (k : α) : (s.upd cid (fun x => { x with kf := some k })).skel = s.skel := by
  unfold St.skel St.upd
  simp only [List.map_map]
  apply List.map_congr_left
  intro c _
  simp only [Function.comp]
  split <;> rfl

theorem setCrash_cands (s : St α) (k : String) : (s.setCrash k).cands = s.cands := by
  unfold St.setCrash; split <;> rfl

def kfStep (cap : Bool) (acc : St α) (c : Cand α) : St α :=
  match c.kf with
  | some kf =>
    if A.isZero c.vote then acc.setCrash "ZeroDivisionError"
    else acc.upd c.cid (fun x => { x with kf := some (kfCap A cap (A.div .up (A.mul .up kf acc.quota) c.vote)) })
  | none => acc.setCrash "TypeError"

theorem kfUpdate_eq (cap : Bool) (s : St α) : kfUpdate A cap s = s.elected.foldl (kfStep A cap) s := rfl

theorem MInv.kfFold (cap : Bool) (l : List (Cand α)) {s : St α} (h : MInv A s)
    (hel : ∀ c ∈ l, ∀ x ∈ s.cands, x.cid = c.cid → x.st = .elected) : MInv A (l.foldl (kfStep A cap) s) := by
  induction l generalizing s with
  | nil => exact h
  | cons c cs ih =>
    simp only [List.foldl_cons]
    have hstep : MInv A (kfStep A cap s c) ∧ (kfStep A cap s c).skel = s.skel := by
      unfold kfStep
      split
      · split
        · exact ⟨h.setCrash A _, by unfold St.skel; rw [setCrash_cands]⟩
        · exact ⟨h.upd_kf A c.cid _ (hel c (by simp)), upd_kf_skel s c.cid _⟩
      · exact ⟨h.setCrash A _, by unfold St.skel; rw [setCrash_cands]⟩
    apply ih hstep.1
    intro c' hc' x hx hxc
    obtain ⟨x0, hx0, hsk⟩ := mem_of_skel_eq hstep.2 hx
    have := hel c' (by simp [hc']) x0 hx0 ((skel_cid hsk).trans hxc)
    rw [← (skel_st hsk).1]; exact this

theorem MInv.kfUpdate (cap : Bool) {s : St α} (h : MInv A s) : MInv A (Droop.kfUpdate A cap s) := by
  rw [kfUpdate_eq]
  apply h.kfFold A cap
  intro c hc x hx hxc
  unfold St.elected at hc
  rw [List.mem_filter] at hc
  have : x = c := nodup_cid_eq h.wf hx hc.1 hxc
  rw [this]; simpa using hc.2

/-- the candidates of an exclusion just before the redistribution -/
theorem defeatZero_cands (s : St α) (cid : Nat) (verb : String) :
    ((s.defeat A cid verb).upd cid (fun c => { c with kf := some A.zero, vote := A.zero })).cands
      = s.cands.map (fun c => if c.cid == cid then { c with st := .defeated, kf := some A.zero, vote := A.zero } else c) := by
  unfold St.defeat St.upd
  rw [logAct_cands]
  simp only [List.map_map]
  apply List.map_congr_left
  intro c _
  simp only [Function.comp]
  by_cases he : (c.cid == cid) = true
  · simp [he]
  · simp [he]

/-- the state of an exclusion just before the redistribution: logged, tally and keep factor zeroed -/
theorem MInv.defeatZero (hA : LawfulArith A) (hz : A.isZero A.zero = true) {s : St α} (h : MInv A s) (cid : Nat) (verb : String) :
    MPre A ((s.defeat A cid verb).upd cid (fun c => { c with kf := some A.zero, vote := A.zero })) := by
  have hcands := defeatZero_cands A s cid verb
  have hfr : ∀ (t : St α) (tag vb : String) (sj : List Nat), (t.logAct A tag vb sj).ballots = t.ballots
      ∧ (t.logAct A tag vb sj).ballotsEq = t.ballotsEq ∧ (t.logAct A tag vb sj).nballots = t.nballots
      ∧ (t.logAct A tag vb sj).method = t.method := by
    intro t tag vb sj; unfold St.logAct; simp only; split <;> exact ⟨rfl, rfl, rfl, rfl⟩
  obtain ⟨g1, g2, g3, g4⟩ := hfr (s.upd cid (fun c => { c with st := .defeated })) "defeat" verb [cid]
  exact
    { meth := by
        show ((s.upd cid fun c => { c with st := .defeated }).logAct A "defeat" verb [cid]).method = _
        rw [g4]; exact h.meth
      wf := by
        unfold St.WF
        rw [hcands, List.map_map]
        have : s.cands.map ((fun c => c.cid) ∘ fun c => if c.cid == cid then { c with st := .defeated, kf := some A.zero, vote := A.zero } else c)
            = s.cands.map (·.cid) := by
          apply List.map_congr_left; intro c _; simp only [Function.comp]; split <;> rfl
        rw [this]; exact h.wf
      noEq := by
        show ((s.upd cid fun c => { c with st := .defeated }).logAct A "defeat" verb [cid]).ballotsEq = _
        rw [g2]; exact h.noEq
      nb := by
        show (((s.upd cid fun c => { c with st := .defeated }).logAct A "defeat" verb [cid]).ballots.map _).sum
          = A.ofInt ((s.upd cid fun c => { c with st := .defeated }).logAct A "defeat" verb [cid]).nballots
        rw [g1, g3]; exact h.nb
      dead := by
        intro c' hc' hd
        rw [hcands] at hc'
        obtain ⟨c, hc, rfl⟩ := List.mem_map.1 hc'
        by_cases he : (c.cid == cid) = true
        · simp only [he, if_true]
          exact ⟨hA.zero_eq, Or.inr ⟨A.zero, rfl, hz⟩⟩
        · have hne : (c.cid == cid) = false := by simpa using he
          simp only [hne, Bool.false_eq_true, if_false] at hd ⊢
          exact h.dead c hc hd
      recM := by
        show RecM A ((s.upd cid fun c => { c with st := .defeated }).logAct A "defeat" verb [cid])
        apply recM_logAct A (s.upd cid fun c => { c with st := .defeated }) h.meth
        · intro c' hc' hw
          obtain ⟨c, hc, ⟨_, e⟩ | ⟨_, e⟩⟩ := mem_upd_cases.1 hc' <;> subst e
          · cases hw
          · exact (h.dead _ hc (Or.inr hw)).1
        · unfold St.sumVotes
          rw [upd_status_votes s cid (fun c => { c with st := .defeated }) (fun c => ⟨rfl, rfl⟩)]; exact h.total
        · exact h.recM }

theorem MInv.meekDefeatOne (hA : LawfulArith A) (hz : A.isZero A.zero = true) (o : MeekOpts) {s : St α} (h : MInv A s)
    (cid : Nat) (verb : String) : MInv A (Droop.meekDefeatOne A o s cid verb) := by
  unfold Droop.meekDefeatOne
  exact (h.defeatZero A hA hz cid verb).distribute A hA o.warren

end Droop

namespace Droop
variable {α : Type} [CommRing α] [LinearOrder α] [IsStrictOrderedRing α] (A : Arith α)

theorem MInv.meekIterate (hA : LawfulArith A) (o : MeekOpts) (omega : α) :
    ∀ (fuel : Nat) (last : α) (s : St α), MInv A s → MInv A (Droop.meekIterate A o omega fuel last s).1 :=
  meekIterate_preserves A o omega (fun _ h => h.meekIterCore A hA o) (fun _ h => h.kfUpdate A true)
    (fun _ _ h => h.logMsg A _ _ _)

end Droop

namespace Droop
variable {α : Type} [CommRing α] [LinearOrder α] [IsStrictOrderedRing α] (A : Arith α)

/-- what `Election.__init__` + `Election.count()` hand to the Meek / Warren rule for a profile of strict ballots -/
structure MInit (s : St α) : Prop where
  meth : s.method = .meek
  noActs : s.acts = []
  wf : s.WF
  noEq : s.ballotsEq = []
  tops : ∀ b ∈ s.ballots, ∃ c, b.top = some c ∧ ∃ x ∈ s.cands, x.cid = c ∧ x.st = .hopeful
  fresh : ∀ c ∈ s.cands, c.vote = 0 ∧ c.kf = none ∧ (c.st = .hopeful ∨ c.st = .withdrawn)
  residual0 : s.residual = 0
  nb : (s.ballots.map (fun b => A.ofInt b.mult)).sum = A.ofInt s.nballots

def mfcStep (acc : St α) (b : Ballot α) : St α :=
  match b.top with
  | some c => acc.addVote A c (A.ofInt b.mult)
  | none => acc

theorem TallyBlind.foldl_mfcStep {β : Type} {π : St α → β} (h : TallyBlind π) (bs : List (Ballot α)) (s : St α) :
    π (bs.foldl (mfcStep A) s) = π s := by
  induction bs generalizing s with
  | nil => rfl
  | cons b bs ih =>
    rw [List.foldl_cons, ih]
    unfold mfcStep
    split
    · exact h.addVote _ _ _
    · rfl

theorem meekFirstCount_eq (s : St α) (hq : s.ballotsEq = []) : meekFirstCount A s = s.ballots.foldl (mfcStep A) s := by
  unfold meekFirstCount
  rw [hq]; rfl

/-- the invariant of the first count: withdrawn candidates untouched, everything else as in `MInv` minus the record -/
structure FC (s0 s : St α) (done : List (Ballot α)) : Prop where
  skel : s.skel = s0.skel
  sum : s.sumVotes = s0.sumVotes + (done.map (fun b => A.ofInt b.mult)).sum
  wd : ∀ c ∈ s.cands, c.st = .withdrawn → c ∈ s0.cands
  frame : s.ballots = s0.ballots ∧ s.ballotsEq = s0.ballotsEq ∧ s.residual = s0.residual ∧ s.nballots = s0.nballots
          ∧ s.method = s0.method ∧ s.acts = s0.acts

theorem mfc_fold (hA : LawfulArith A) (s0 : St α) (hwf : s0.WF)
    (bs : List (Ballot α)) (htops : ∀ b ∈ bs, ∃ c, b.top = some c ∧ ∃ x ∈ s0.cands, x.cid = c ∧ x.st = .hopeful) :
    ∀ (s : St α) (done : List (Ballot α)), FC A s0 s done → FC A s0 (bs.foldl (mfcStep A) s) (done ++ bs) := by
  induction bs with
  | nil => intro s done h; simpa using h
  | cons b bs ih =>
    intro s done h
    simp only [List.foldl_cons]
    have hstep : FC A s0 (mfcStep A s b) (done ++ [b]) := by
      obtain ⟨c, htop, x, hx, hxc, hxh⟩ := htops b (by simp)
      unfold mfcStep
      rw [htop]
      have hwfs : s.WF := WF_of_skel h.skel.symm hwf
      have hsome : (s.cand? c).isSome := by
        rw [cand?_isSome_of_skel h.skel]; exact (cand?_isSome_iff s0 c).2 ⟨x, hx, hxc⟩
      exact
        { skel := (addVote_skel A s c _).trans h.skel
          sum := by
            rw [sumVotes_addVote A hA s c _ hwfs hsome, h.sum]
            simp only [List.map_append, List.sum_append, List.map_cons, List.map_nil, List.sum_cons, List.sum_nil]; ring
          wd := by
            intro c' hc' hw
            obtain ⟨c0, hc0, rfl⟩ := mem_upd.1 hc'
            by_cases he : (c0.cid == c) = true
            · -- the credited candidate is hopeful, not withdrawn
              exfalso
              simp only [he, if_true] at hw
              obtain ⟨y, hy, hsk⟩ := mem_of_skel_eq h.skel hc0
              have hcc : c0.cid = c := by simpa using he
              have : y = x := nodup_cid_eq hwf hy hx ((skel_cid hsk).trans (hcc.trans hxc.symm))
              have hst := (skel_st hsk).1
              rw [this, hxh] at hst
              have hw' : c0.st = .withdrawn := hw
              rw [← hst] at hw'; cases hw'
            · have hne : (c0.cid == c) = false := by simpa using he
              simp only [hne, Bool.false_eq_true, if_false] at hw ⊢
              exact h.wd c0 hc0 hw
          frame := h.frame }
    have := ih (fun b' hb' => htops b' (by simp [hb'])) _ _ hstep
    simpa using this

theorem MInv.meekInit (hA : LawfulArith A) {s0 : St α} (h0 : MInit A s0) : MInv A (Droop.meekInit A s0) := by
  unfold Droop.meekInit
  apply MInv.logAct
  set s3 : St α := ((s0.setVotes (A.ofInt s0.nballots)).setQuota (meekQuota A (s0.setVotes (A.ofInt s0.nballots)))).initKf A.one with hs3
  have hsk3 : s3.skel = s0.skel := by
    show (s0.cands.map _).map Cand.skel = s0.cands.map Cand.skel
    rw [List.map_map]
    apply List.map_congr_left; intro c _; simp only [Function.comp]; split <;> rfl
  have hwf3 : s3.WF := WF_of_skel hsk3.symm h0.wf
  have hq3 : s3.ballotsEq = [] := h0.noEq
  rw [meekFirstCount_eq A s3 hq3]
  have htops3 : ∀ b ∈ s3.ballots, ∃ c, b.top = some c ∧ ∃ x ∈ s3.cands, x.cid = c ∧ x.st = .hopeful := by
    intro b hb
    obtain ⟨c, htop, x, hx, hxc, hxh⟩ := h0.tops b hb
    have : x.skel ∈ s3.skel := by rw [hsk3]; exact List.mem_map.2 ⟨x, hx, rfl⟩
    obtain ⟨x', hx', hsk'⟩ := List.mem_map.1 this
    exact ⟨c, htop, x', hx', (skel_cid hsk').trans hxc, (skel_st hsk').1.trans hxh⟩
  have hfc := mfc_fold A hA s3 hwf3 s3.ballots htops3 s3 [] ⟨rfl, by simp, fun c hc _ => hc, ⟨rfl, rfl, rfl, rfl, rfl, rfl⟩⟩
  simp only [List.nil_append] at hfc
  obtain ⟨f1, f2, f3, f4, f5, f6⟩ := hfc.frame
  have hsum3 : s3.sumVotes = 0 := by
    unfold St.sumVotes
    have : s3.cands.map (·.vote) = s0.cands.map (fun _ => (0 : α)) := by
      show (s0.cands.map _).map _ = _
      rw [List.map_map]
      apply List.map_congr_left; intro c hc
      simp only [Function.comp]
      have := (h0.fresh c hc).1
      split <;> simpa using this
    rw [this]; simp
  exact
    { meth := f5 ▸ h0.meth
      wf := WF_of_skel hfc.skel.symm hwf3
      noEq := f2 ▸ hq3
      nb := by rw [f1, f4]; exact h0.nb
      recM := by unfold RecM; rw [f6]; show ∀ a ∈ s0.acts, _; rw [h0.noActs]; intro a ha; cases ha
      dead := by
        intro c hc hd
        rcases hd with hd | hd
        · -- nobody is defeated yet
          exfalso
          obtain ⟨y, hy, hsk⟩ := mem_of_skel_eq (hfc.skel.trans hsk3) hc
          have := (h0.fresh y hy).2.2
          rw [(skel_st hsk).1, hd] at this
          rcases this with h | h <;> cases h
        · have hc3 := hfc.wd c hc hd
          -- a withdrawn candidate of s3 is the withdrawn candidate of s0, unchanged
          obtain ⟨c0, hc0, rfl⟩ := List.mem_map.1 (show c ∈ s0.cands.map _ from hc3)
          have hw0 : c0.st = .withdrawn := by
            by_cases hh : (c0.st == CState.hopeful) = true
            · simp only [hh, if_true] at hd; rw [(by simpa using hh : c0.st = .hopeful)] at hd; cases hd
            · simpa [hh] using hd
          have hne : (c0.st == CState.hopeful) = false := by rw [hw0]; rfl
          simp only [hne, Bool.false_eq_true, if_false]
          exact ⟨(h0.fresh c0 hc0).1, Or.inl (h0.fresh c0 hc0).2.1⟩
      total := by
        rw [hfc.sum, hsum3, zero_add, f3, f4]
        show _ + s0.residual = _
        rw [h0.residual0, add_zero]
        exact h0.nb }

end Droop
