import DroopModel.Driver
import DroopProofs.Lower
import DroopProofs.RunMpls

/-!
# The state the driver builds from a parsed case meets the hypotheses of the run-level theorems

`initState A c` (`DroopModel/Driver.lean`) is the state the compiled driver hands to the rule for *every* correspondence
input.  `caseOK c` is a decidable check on the case, printed by the driver for every input.  Here: `caseOK c` implies
`Init`, the freshness / enough-candidates / round-0 side conditions of `GStart` and `ScotStart`, and that no ballot stands with a
withdrawn candidate (`initState_noW`); so the theorems about `wigmCount`, `scotCount`, `cferCount`, `mplsCount` apply to exactly the runs that the
correspondence check compares with the implementation.
-/
namespace Droop
variable {α : Type} [CommRing α] [LinearOrder α] [IsStrictOrderedRing α] (A : Arith α)

structure CaseOK (c : Case) : Prop where
  nodup : (c.cands.map (·.1)).Nodup
  ballots : ∀ b ∈ c.ballots, b.2 ≠ [] ∧ ∀ cid ∈ b.2, ∃ k ∈ c.cands, k.1 = cid ∧ k.2.2.1 = false
  nb : c.nballots = (c.ballots.map (·.1)).sum
  enough : c.seats ≤ (c.cands.filter (fun k => !k.2.2.1)).length
  noEq : c.ballotsEq = []

theorem caseOK_iff (c : Case) : caseOK c = true → CaseOK c := by
  intro h
  unfold caseOK at h
  simp only [Bool.and_eq_true, decide_eq_true_eq, List.all_eq_true, beq_iff_eq, List.isEmpty_iff,
    Bool.not_eq_true', List.any_eq_true] at h
  obtain ⟨⟨⟨⟨h1, h2⟩, h3⟩, h4⟩, h5⟩ := h
  refine ⟨h1, ?_, h3, ?_, h5⟩
  · intro b hb
    obtain ⟨hne, hall⟩ := h2 b hb
    refine ⟨by intro h0; simp [h0] at hne, ?_⟩
    intro cid hcid
    obtain ⟨k, hk, hkc⟩ := hall cid hcid
    obtain ⟨k1, k2, k3, k4⟩ := k
    exact ⟨_, hk, hkc.1, hkc.2⟩
  · convert h4 using 3

theorem initState_cids (c : Case) : (initState A c).cands.map (·.cid) = c.cands.map (·.1) := by
  unfold initState
  simp only [List.map_map]
  apply List.map_congr_left
  rintro ⟨a, b, d, e⟩ _
  rfl

theorem mem_initState_cands {c : Case} {x : Cand α} (hx : x ∈ (initState A c).cands) :
    ∃ k ∈ c.cands, x.cid = k.1 ∧ x.st = (if k.2.2.1 then .withdrawn else .hopeful) ∧ x.vote = A.zero ∧ x.pending = false
      ∧ x.undeclared = k.2.2.2 ∧ x.kf = none := by
  unfold initState at hx
  simp only [List.mem_map] at hx
  obtain ⟨⟨a, b, d, e⟩, hk, rfl⟩ := hx
  exact ⟨_, hk, rfl, rfl, rfl, rfl, rfl, rfl⟩

theorem initState_cand_of {c : Case} {k : Nat × Nat × Bool × Bool} (hk : k ∈ c.cands) :
    ∃ x ∈ (initState A c).cands, x.cid = k.1 ∧ x.st = (if k.2.2.1 then .withdrawn else .hopeful) := by
  obtain ⟨a, b, d, e⟩ := k
  refine ⟨{ cid := a, order := a, tie := b, undeclared := e, st := if d then .withdrawn else .hopeful, pending := false,
            vote := A.zero, kf := none, quotient := none, tc := A.zero }, ?_, rfl, rfl⟩
  unfold initState
  simp only [List.mem_map]
  exact ⟨_, hk, rfl⟩

theorem mem_initState_ballots {c : Case} {b : Ballot α} (hb : b ∈ (initState A c).ballots) :
    ∃ k ∈ c.ballots, b.mult = k.1 ∧ b.rank = k.2 ∧ b.idx = 0 ∧ b.w = A.one := by
  unfold initState at hb
  simp only [List.mem_map] at hb
  obtain ⟨⟨m, r⟩, hk, rfl⟩ := hb
  exact ⟨_, hk, rfl, rfl, rfl, rfl⟩

theorem cast_sum_nat (l : List Nat) : (((l.sum : Nat) : Int) : α) = (l.map (fun (m : Nat) => ((m : Int) : α))).sum := by
  induction l with
  | nil => simp
  | cons a l ih => simp only [List.sum_cons, List.map_cons, Nat.cast_add, Int.cast_add, ih]

theorem initState_init (hA : LawfulArith A) (c : Case) (hm : methodOf c.rule = .wigm) (hok : CaseOK c) :
    Init A (initState A c) := by
  refine ⟨hm, rfl, ?_, ?_, ?_, ?_, ?_, ?_⟩
  · unfold St.WF; rw [initState_cids]; exact hok.nodup
  · intro b hb cid hcid
    obtain ⟨k, hk, _, hr, _, _⟩ := mem_initState_ballots A hb
    rw [hr] at hcid
    obtain ⟨kc, hkc, hkcid, _⟩ := (hok.ballots k hk).2 cid hcid
    obtain ⟨x, hx, hxc, _⟩ := initState_cand_of A hkc
    unfold St.cand?
    rw [List.find?_isSome]
    exact ⟨x, hx, by simp [hxc, hkcid]⟩
  · intro x hx
    obtain ⟨k, _, _, _, hv, _⟩ := mem_initState_cands A hx
    rw [hv, hA.zero_eq]
  · intro x hx
    obtain ⟨k, _, _, _, _, hp, _⟩ := mem_initState_cands A hx
    exact hp
  · intro b hb
    obtain ⟨k, hk, _, hr, hi, hw⟩ := mem_initState_ballots A hb
    exact ⟨hi, hw, by rw [hr]; exact (hok.ballots k hk).1⟩
  · show (((c.nballots : Nat) : Int) : α) = _
    rw [hok.nb, cast_sum_nat]
    unfold initState
    simp only [List.map_map]
    rfl

theorem initState_fresh (c : Case) : ∀ x ∈ (initState A c).cands, x.st ≠ .elected := by
  intro x hx
  obtain ⟨k, _, _, hs, _⟩ := mem_initState_cands A hx
  rw [hs]; split <;> simp

theorem initState_nHop (c : Case) : nHop (initState A c) = (c.cands.filter (fun k => !k.2.2.1)).length := by
  unfold nHop St.hopeful initState
  simp only [List.filter_map, List.length_map]
  congr 1
  apply List.filter_congr
  rintro ⟨a, b, d, e⟩ _
  cases d <;> simp

theorem initState_enough (c : Case) (hok : CaseOK c) : (initState A c).seats ≤ nHop (initState A c) := by
  rw [initState_nHop]; exact hok.enough

theorem initState_noW (c : Case) (hok : CaseOK c) :
    ∀ b ∈ (initState A c).ballots, ∀ x ∈ (initState A c).cands, x.st = .withdrawn → b.top ≠ some x.cid := by
  intro b hb x hx hw htop
  obtain ⟨k, hk, _, hr, hi, _⟩ := mem_initState_ballots A hb
  obtain ⟨kx, hkx, hxc, hxs, _⟩ := mem_initState_cands A hx
  unfold Ballot.top at htop
  rw [hr, hi] at htop
  have hmem : x.cid ∈ k.2 := List.mem_of_getElem? htop
  obtain ⟨k2, hk2, hk2c, hk2w⟩ := (hok.ballots k hk).2 _ hmem
  -- two entries with the same id are the same entry
  have hsame : k2 = kx := by
    have hnd := hok.nodup
    have := List.inj_on_of_nodup_map hnd hk2 hkx (by rw [hk2c, hxc])
    exact this
  rw [hsame] at hk2w
  rw [hk2w] at hxs
  simp at hxs
  rw [hxs] at hw
  cases hw

theorem initState_noUnd (c : Case) (h : ∀ k ∈ c.cands, k.2.2.2 = false) : NoUnd (initState A c) := by
  intro x hx
  obtain ⟨k, hk, _, _, _, _, hu, _⟩ := mem_initState_cands A hx
  rw [hu]; exact h k hk

theorem runRuleSt_scotland (c : Case) (hr : c.rule = "scotland") : runRuleSt A c = scotCount A (initState A c) := by
  simp only [runRuleSt, runRuleSt', hr]

theorem runRuleSt_mpls (c : Case) (hr : c.rule = "mpls") : runRuleSt A c = mplsCount A (initState A c) := by
  simp only [runRuleSt, runRuleSt', hr]

theorem runRuleSt_cfer (c : Case) (hr : c.rule = "cfer" ∨ c.rule = "cfer-batch") :
    ∃ batch, runRuleSt A c = cferCount A batch (initState A c) := by
  rcases hr with hr | hr
  · exact ⟨false, by simp only [runRuleSt, runRuleSt', hr]⟩
  · exact ⟨true, by simp only [runRuleSt, runRuleSt', hr]⟩

/-- the three wigm rule names; only plain `wigm` with `defeat_batch=zero` sets `batchZero` -/
theorem runRuleSt_wigm (c : Case) (hr : c.rule = "wigm" ∨ c.rule = "wigm-prf" ∨ c.rule = "wigm-prf-batch") :
    ∃ o : WigmOpts, runRuleSt A c = wigmCount A o (initState A c) ∧ (o.batchZero = true → c.rule = "wigm" ∧ c.batch = "zero") := by
  rcases hr with hr | hr | hr
  · exact ⟨{ integerQuota := c.intq, batchZero := c.batch == "zero" }, by simp only [runRuleSt, runRuleSt', hr],
      fun hz => ⟨hr, by simpa using hz⟩⟩
  · exact ⟨{ prf := true }, by simp only [runRuleSt, runRuleSt', hr], fun hz => by simp at hz⟩
  · exact ⟨{ prf := true, prfBatch := true }, by simp only [runRuleSt, runRuleSt', hr], fun hz => by simp at hz⟩

end Droop
