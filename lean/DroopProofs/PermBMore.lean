import DroopProofs.PermB

/-! # C10, scotland / cfer / cfer-batch / mpls: reordering the ballot lines commutes with the count.  The Scottish look-back does
not read the ballots, and the Minneapolis defeat set reads them only through a sum that `XF.usum` keeps. -/
namespace Droop
variable {α : Type} [CommRing α] [LinearOrder α] [IsStrictOrderedRing α] (A : Arith α)
variable {fb : List (Ballot α) → List (Ballot α)} {fw : List (Nat × α) → List (Nat × α)}

section
variable (hA : LawfulArith A) (hx : XF A fb fw)
include hA hx

omit hA in
theorem xB_scotBreakTie (s : St α) (tied : List (Cand α)) (lowest : Bool) (reason : String) :
    scotBreakTie A (xB fb fw s) tied lowest reason
      = (xB fb fw (scotBreakTie A s tied lowest reason).1, (scotBreakTie A s tied lowest reason).2) := by
  unfold scotBreakTie
  match tied with
  | [] => simp only; rw [xB_setCrash]
  | [c] => rfl
  | c :: d :: r =>
    simp only
    have hr : (xB fb fw s).rounds = s.rounds := rfl
    rw [hr, round_xB]
    cases ((s.rounds.take s.round).reverse).findSome? (scotPrior A (List.map (fun x => x.cid) (c :: d :: r)) lowest) with
    | some cn0 => simp only; rw [xB_logAct A hx]
    | none => simp only; rw [xB_logAct A hx]

omit hA hx in
theorem scotCountComplete_xB (s : St α) : scotCountComplete (xB fb fw s) = scotCountComplete s := rfl

theorem scot_xB (s0 : St α) : scotCount A (xB fb fw s0) = (scotCount A s0).map (xB fb fw) := by
  have C := stepComm_xB A hA hx
  rw [scotCount_eq, scotCount_eq, ← C.scotInit]
  exact count_xB (fun _ => true) (scotBody A) (scotEpilogue A) (fun _ => rfl)
    (fun s => C.scotBody (fun g => g.elim) (fun tied lowest reason _ => xB_scotBreakTie A hx _ tied lowest reason))
    (fun s => C.scotEpilogue (fun g => g.elim)) _ _

theorem cfer_xB (batch : Bool) (s0 : St α) : cferCount A batch (xB fb fw s0) = (cferCount A batch s0).map (xB fb fw) := by
  have C := stepComm_xB A hA hx
  unfold cferCount
  have hlen : (xB fb fw s0).cands.length = s0.cands.length := rfl
  rw [hlen, ← C.cferInit]
  exact loopN_xB (fun _ => true) (cferBody A batch) (fun _ => rfl) (fun s => C.cferBody batch (fun g => g.elim)) _ _

omit hA hx in
theorem mplsSurplusAll_xB (s : St α) (d : Bool) : mplsSurplusAll A (xB fb fw s) d = mplsSurplusAll A s d := rfl

omit hA hx in
theorem mplsCertainLosers_go_xB (s : St α) (surplus : α) (sorted : List (Cand α)) (maxDefeat : Int) :
    ∀ (fuel cx : Nat) (vote : α) (losers : List (Cand α)),
      mplsCertainLosers.go A surplus sorted maxDefeat cx fuel vote losers
        = mplsCertainLosers.go A surplus sorted maxDefeat cx fuel vote losers := fun _ _ _ _ => rfl

omit hA hx in
theorem mplsCertainLosers_xB (s : St α) (surplus : α) : mplsCertainLosers A (xB fb fw s) surplus = mplsCertainLosers A s surplus := rfl

omit hA in
theorem mplsDefeatSet_xB (s : St α) : mplsDefeatSet A (xB fb fw s) = mplsDefeatSet A s := by
  have hsum : A.sum (((fb s.ballots).filter (fun b => match b.top with
                                           | some c => s.isUndeclared c
                                           | none => false)).map (bvote A))
      = A.sum ((s.ballots.filter (fun b => match b.top with
                                           | some c => s.isUndeclared c
                                           | none => false)).map (bvote A)) :=
    hx.usum _ (fun b m => rfl) s.ballots
  have e : mplsDefeatSet A (xB fb fw s) =
      (if s.round == 2 then s.hopeful.filter (·.undeclared) else []) ++
      (mplsCertainLosers A s (A.add s.surplus
          (if s.round == 2 then
            A.sum (((fb s.ballots).filter (fun b => match b.top with
                                               | some c => s.isUndeclared c
                                               | none => false)).map (bvote A))
           else A.zero))).filter
        (fun c => !(if s.round == 2 then s.hopeful.filter (·.undeclared) else []).any (fun u => u.cid == c.cid)) := rfl
  rw [e, hsum]
  rfl

theorem xB_mplsBody (s : St α) : mplsBody A (xB fb fw s) = (xB fb fw (mplsBody A s).1, (mplsBody A s).2) := by
  have C := stepComm_xB A hA hx
  have hs : ∀ t, StepComm.Sur A (xB fb fw) t := fun _ _ => rfl
  exact C.mplsBody (fun g => g.elim) (hs s)
    (C.mplsRound (fun g => g.elim) (mplsDefeatSet_xB A hx _) (fun _ => hs _) (fun _ _ _ _ _ => hs _) (fun _ _ _ _ => hs _))

theorem mpls_xB (s0 : St α) : mplsCount A (xB fb fw s0) = (mplsCount A s0).map (xB fb fw) := by
  rw [mplsCount_eq, mplsCount_eq, ← (stepComm_xB A hA hx).mplsInit]
  exact count_xB (fun _ => true) (mplsBody A) (mplsEpilogue A) (fun _ => rfl) (xB_mplsBody A hA hx)
    (fun s => (stepComm_xB A hA hx).mplsEpilogue (fun g => g.elim)) _ _

end


theorem scot_permB {α : Type} [CommRing α] [LinearOrder α] [IsStrictOrderedRing α] (A : Arith α) (hA : LawfulArith A)
    {π : ∀ {β : Type}, List β → List β} (hπ : NatPerm π) (s0 : St α) :
    scotCount A (permB π s0) = (scotCount A s0).map (permB π) := scot_xB A hA (XF_of_natPerm A hA hπ) s0

theorem cfer_permB {α : Type} [CommRing α] [LinearOrder α] [IsStrictOrderedRing α] (A : Arith α) (hA : LawfulArith A)
    {π : ∀ {β : Type}, List β → List β} (hπ : NatPerm π) (batch : Bool) (s0 : St α) :
    cferCount A batch (permB π s0) = (cferCount A batch s0).map (permB π) := cfer_xB A hA (XF_of_natPerm A hA hπ) batch s0

theorem mpls_permB {α : Type} [CommRing α] [LinearOrder α] [IsStrictOrderedRing α] (A : Arith α) (hA : LawfulArith A)
    {π : ∀ {β : Type}, List β → List β} (hπ : NatPerm π) (s0 : St α) :
    mplsCount A (permB π s0) = (mplsCount A s0).map (permB π) := mpls_xB A hA (XF_of_natPerm A hA hπ) s0

end Droop
