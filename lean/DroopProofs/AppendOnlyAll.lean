import DroopProofs.PrfFirst
/-! # The log is append-only: Scottish rule, CfER, Minneapolis, meek-prf

No hypothesis about the start state is needed, and for the three Gregory rules none about the arithmetic (meek-prf is stated
for its own fixed-point arithmetic): every step of every count leaves the log alone or puts one more action in front of it. -/
namespace Droop
variable {α : Type} [CommRing α] [LinearOrder α] [IsStrictOrderedRing α] (A : Arith α)

theorem scotCount_appendOnly (s0 t : St α) (h : scotCount A s0 = some t) : Ext s0 t :=
  Ext.trans (gInit_facts A _ s0).2.2.2.2.2.1 ((stepRel_ext A).scotCount s0 t h)

theorem cferCount_appendOnly (batch : Bool) (s0 t : St α) (h : cferCount A batch s0 = some t) : Ext s0 t :=
  Ext.trans (gInit_facts A _ s0).2.2.2.2.2.1 ((stepRel_ext A).cferCount batch s0 t h)

theorem mplsCount_appendOnly (s0 t : St α) (h : mplsCount A s0 = some t) : Ext s0 t := by
  have h0 : Ext s0 (mplsInit A s0) := by
    unfold mplsInit
    refine Ext.trans (Ext.of_acts_eq ?_) (ext_newRound A _)
    show (firstCount A _).acts = _
    rw [firstCount_acts]; rfl
  exact h0.trans ((stepRel_ext A).mplsCount s0 t h)

theorem ext_prfStart (s0 : St α) : Ext s0 (prfStart A s0) := by
  rw [prfStart_eq]
  refine Ext.trans (Ext.of_acts_eq ?_) (ext_logAct A _ _ _ _)
  rw [foldl_mfcStep_acts]; rfl

theorem prfCount_appendOnly (p iterFuel : Nat) (s0 t : St Int) (h : prfCount (fixedArith p) iterFuel s0 = some t) : Ext s0 t := by
  rw [prfCount_eq] at h
  cases hl : loopN stdGuard (prfBody (fixedArith p) ((fixedArith p).divV ((fixedArith p).ofInt 1) ((fixedArith p).ofInt (10 ^ 6))) iterFuel)
      (2 * s0.cands.length + 3) (prfStart (fixedArith p) s0) with
  | none => rw [hl] at h; cases h
  | some s6 =>
    rw [hl] at h
    cases h
    exact (ext_prfStart (fixedArith p) s0).trans
      ((ext_loopN stdGuard _ (fun s => ext_prfBody p _ iterFuel s) _ _ _ hl).trans (ext_prfFinish p s6))

end Droop
