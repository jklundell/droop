import DroopProofs.InvMpls
import DroopProofs.Lower
import DroopProofs.RunCfer

/-! # C02, lower half, at run level: wigm family (no zero batch), Scottish rule, CfER, Minneapolis

`InvL u` = conservation bundle and lower bound. It holds at the start (`LInv.gInit`), every round of every rule keeps it
(the surplus and exclusion stages through their `Picks` shape, whatever the tie-break), so does the epilogue and the
closing `end` action. -/
namespace Droop
variable {α : Type} [CommRing α] [LinearOrder α] [IsStrictOrderedRing α] (A : Arith α)

structure LStart (q : α) (s0 : St α) : Prop where
  init : Init A s0
  q1 : A.one ≤ q
  /-- the reader removes withdrawn candidates from every ballot -/
  noW : ∀ b ∈ s0.ballots, ∀ c ∈ s0.cands, c.st = .withdrawn → b.top ≠ some c.cid

/-- the state after the quota is set and the first preferences are counted (nothing logged yet) -/
theorem LInv.initCore (hA : LawfulArith A) (u : α) {q : α} {s0 : St α} (h : LStart A q s0) :
    LInv A u ((firstCount A (s0.setQuota q)).setExhausted A.zero)
    ∧ ((firstCount A (s0.setQuota q)).setExhausted A.zero).method = .wigm := by
  have h0 := h.init
  obtain ⟨hskel, hwf, hb, hqe, hn, hm, ha, he, hvote, hsum⟩ := firstCount_facts A hA q h0 rfl
  generalize (firstCount A (s0.setQuota q)).setExhausted A.zero = t at *
  have hacts : t.acts = [] := ha.trans h0.noActs
  have htotal : t.total = ((t.nballots : Int) : α) * A.one := by
    unfold St.total; rw [hsum, he, hA.zero_eq, add_zero, hn]
  refine ⟨⟨?_, by rw [hn, hb]; exact h0.nb, by rw [hqe]; exact h.q1, ?_, ?_, by rw [hacts]; intro a ha'; cases ha'⟩,
    hm.trans h0.meth⟩
  · -- no ballot stands to the credit of a withdrawn candidate
    intro c' hc' hst
    obtain ⟨c, hc, hsk⟩ := mem_of_skel_eq hskel hc'
    have hcst : c.st = .withdrawn := (skel_st hsk).1.trans hst
    rw [← voteOf_of_mem hwf hc', hvote]
    unfold St.tally
    have : s0.ballots.map (fun b => if b.top = some c'.cid then bvote A b else 0) = s0.ballots.map (fun _ => (0 : α)) := by
      apply List.map_congr_left
      intro b hb'
      have := h.noW b hb' c hc hcst
      rw [skel_cid hsk] at this
      simp [this]
    rw [this]; simp
  · rw [htotal, hacts]; simp [nST]
  · intro l a hsuf
    rw [hacts] at hsuf
    have := List.IsSuffix.length_le hsuf
    simp at this

theorem LInv.gInit (hA : LawfulArith A) (u : α) {q : α} {s0 : St α} (h : LStart A q s0) : LInv A u (gInit A q s0) := by
  obtain ⟨hc, hm⟩ := LInv.initCore A hA u h
  unfold Droop.gInit
  exact hc.logAct A u hm _ _ _ (by decide)

/-- the conservation bundle together with the lower bound -/
def InvL (u : α) (s : St α) : Prop := Inv A s ∧ LInv A u s

theorem InvL.logAct (u : α) {s : St α} (h : InvL A u s) (tag verb : String) (subj : List Nat)
    (hns : isSTs tag verb = false) : InvL A u (s.logAct A tag verb subj) :=
  ⟨h.1.logAct A _ _ _, h.2.logAct A u h.1.meth _ _ _ hns⟩

section stages
variable {s t : St α} {bt : List (Cand α) → St α × Option (Cand α)} {v1 v2 : String}

theorem Picks.surplus_linv (hA : LawfulArith A) (u : α) (hu : 0 ≤ u) {rew0 : α → α → α → α} (hlow : RewLower A u rew0)
    (hverb : isSTs "transfer" v2 = true)
    (hp : Picks s bt s.pendingL (fun s1 hc => transferSurplus A (s1.unpendLog A hc.cid v1) hc rew0 v2) t)
    (hT : TieBreak A s bt) (hTL : ∀ tied, LInv A u (bt tied).1) (h : InvL A u s) : LInv A u t :=
  hp.rel (fun a b => InvL A u a → LInv A u b) (fun h => h.2) (fun tied _ => hTL tied)
    (fun tied _ hb _ => hb ⟨(hT.gstep h.1 tied).inv, hTL tied⟩)
    (fun tied c hc h1 => by
      obtain ⟨hcs, hce, hcp⟩ := mem_pendingL.1 hc
      exact LInv.unpendTransfer A hA u hu _ hlow h1.1 h1.2 c (by rw [hT.cands]; exact hcs) hce hcp _ _ hverb) h

theorem Picks.defeat_linv (hA : LawfulArith A) (u : α) (hverb : isSTs "transfer" v2 = false)
    (hp : Picks s bt s.hopeful (fun s1 lc => transferDefeated A (s1.defeat A lc.cid v1) [lc.cid] v2) t)
    (hT : TieBreak A s bt) (hTL : ∀ tied, LInv A u (bt tied).1) (h : InvL A u s) : LInv A u t :=
  hp.rel (fun a b => InvL A u a → LInv A u b) (fun h => h.2) (fun tied _ => hTL tied)
    (fun tied _ hb _ => hb ⟨(hT.gstep h.1 tied).inv, hTL tied⟩)
    (fun tied lc hc h1 => LInv.defeatTransfer1 A hA u h1.1 h1.2 lc (by rw [hT.hopeful]; exact hc) _ _ hverb) h

end stages

/-- the epilogue shared by the Minneapolis and (after the pending flags are dropped) the Scottish rule -/
theorem InvL.mplsEpilogue (u : α) {s : St α} (h : InvL A u s) : InvL A u (Droop.mplsEpilogue A s) := by
  refine ⟨h.1.mplsEpilogue A, ?_⟩
  unfold Droop.mplsEpilogue
  split
  · have h6 := h.2.foldElect A u h.1.meth s.hopeful (fun _ => "Elect remaining candidates") (fun _ => false)
    exact (h6.1.foldDefeat A u h6.2 _ _).1
  · exact (h.2.foldDefeat A u h.1.meth _ _).1

section scot
variable (hA : LawfulArith A) (u : α) (hu : 0 ≤ u) (hlow : RewLower A u (rewMuldivDown A))
include hA hu hlow

theorem InvL.scotSurplusStep {s : St α} (h : InvL A u s) : InvL A u (Droop.scotSurplusStep A s) :=
  ⟨h.1.scotSurplusStep A hA, (scotSurplusStep_picks A s).surplus_linv A hA u hu hlow (by decide)
    (tieBreak_scotBreakTie A s _ _) (fun tied => h.2.scotBreakTie A u h.1.meth tied _ _) h⟩

omit hu hlow in
theorem InvL.scotDefeatStep {s : St α} (h : InvL A u s) : InvL A u (Droop.scotDefeatStep A s) :=
  ⟨h.1.scotDefeatStep A hA, (scotDefeatStep_picks A s).defeat_linv A hA u (by decide)
    (tieBreak_scotBreakTie A s _ _) (fun tied => h.2.scotBreakTie A u h.1.meth tied _ _) h⟩

theorem InvL.scotBody (hex : A.exact = false) {s : St α} (h : InvL A u s) : InvL A u (Droop.scotBody A s).1 := by
  refine scotBody_keeps A (InvL A u) ⟨h.1.scotElect A hA hex, ?_⟩
    (fun _ ht => ⟨(ht.1.newRound A).setSurplus A _, (ht.2.newRound A u ht.1.meth).setSurplus A u _⟩)
    (fun _ ht => InvL.scotSurplusStep A hA u hu hlow ht) (fun _ ht => InvL.scotDefeatStep A hA u ht)
  unfold scotElect; exact h.2.electWinners A u h.1.meth _ _ _

omit hu hlow in
theorem InvL.scotEpilogue {s : St α} (h : InvL A u s) : InvL A u (Droop.scotEpilogue A s) := by
  rw [scotEpilogue_eq]
  exact InvL.mplsEpilogue A u ⟨h.1.foldUnpend A s.pendingL, h.2.foldUnpend A u s.pendingL⟩

/-- C02, lower half, Scottish rule: in the final state and in every snapshot of the record — the closing `end` action included —
    the tallies plus the non-transferable total fall short of the ballots by at most `u` per ballot per surplus transfer logged
    up to that point -/
theorem scot_lower (hex : A.exact = false) (s0 t : St α) (h0 : Init A s0)
    (hl0 : LStart A (A.ofInt (pdiv s0.nballots (s0.seats + 1) + 1)) s0)
    (hq : 0 < A.ofInt (pdiv s0.nballots (s0.seats + 1) + 1)) (h : scotCount A s0 = some t) :
    LInv A u (t.logAct A "end" "Count Complete" []) := by
  rw [scotCount_eq] at h
  obtain ⟨s4, hl, rfl⟩ := Option.map_eq_some_iff.1 h
  have hinit : InvL A u (scotInit A s0) := ⟨Inv.scotInit A hA h0 hq, LInv.gInit A hA u hl0⟩
  have h4 : InvL A u s4 :=
    loopN_preserves_guard (InvL A u) (fun _ => true) (scotBody A) (fun s hs _ => InvL.scotBody A hA u hu hlow hex hs) _ _ _ hinit hl
  exact ((InvL.scotEpilogue A hA u h4).logAct A u _ _ _ (by decide)).2

end scot

section wigm
variable (hA : LawfulArith A) (u : α) (hu : 0 ≤ u) (hlow : RewLower A u (rewMulDiv A))
include hA hu hlow

theorem InvL.wigmSurplusStep {s : St α} (h : InvL A u s) : InvL A u (Droop.wigmSurplusStep A s) :=
  ⟨h.1.wigmSurplusStep A hA, (wigmSurplusStep_picks A s).surplus_linv A hA u hu hlow (by decide)
    (tieBreak_breakTie A s _) (fun tied => h.2.breakTie A u h.1.meth tied _) h⟩

omit hu hlow in
theorem InvL.wigmDefeatStep1 (o : WigmOpts) (hz : o.batchZero = false) {s : St α} (h : InvL A u s) :
    InvL A u (Droop.wigmDefeatStep A o s) :=
  ⟨h.1.wigmDefeatStep1 A hA o hz, (wigmDefeatStep_picks A o hz s).defeat_linv A hA u (by decide)
    (tieBreak_breakTie A s _) (fun tied => h.2.breakTie A u h.1.meth tied _) h⟩

omit hu hlow in
theorem InvL.wigmBatchStep {s : St α} (h : InvL A u s) (sure : List (Cand α))
    (hsub : ∀ w ∈ sure, w ∈ s.hopeful) (hnd : (sure.map (·.cid)).Nodup) :
    InvL A u (Droop.wigmBatchStep A s sure).1 := by
  refine ⟨h.1.wigmBatchStep A hA sure hsub hnd, ?_⟩
  unfold Droop.wigmBatchStep
  split
  · unfold wigmDefeatSure; exact (h.2.foldDefeat A u h.1.meth _ _).1
  · unfold wigmDefeatSure
    exact LInv.defeatManyThenTransfer A hA u h.1 h.2 sure (byBallotOrder sure) _ _ (by decide) (pySorted_perm _ _ _) hnd hsub

theorem InvL.wigmBody (o : WigmOpts) (hz : o.batchZero = false) (hex : o.prf = true → A.exact = false)
    {s : St α} (h : InvL A u s) : InvL A u (Droop.wigmBody A o s).1 := by
  have h2 : InvL A u (wigmElect A o (s.newRound A)) := by
    refine ⟨(h.1.newRound A).wigmElect A hA o hex, ?_⟩
    unfold wigmElect
    exact (h.2.newRound A u h.1.meth).electWinners A u (h.1.newRound A).meth _ _ _
  unfold Droop.wigmBody
  exact wigmAfterElect_keeps A (InvL A u) o h2.1.wf h2 (fun sure => InvL.wigmBatchStep A hA u h2 sure)
    (InvL.wigmSurplusStep A hA u hu hlow h2) (InvL.wigmDefeatStep1 A hA u o hz h2)

omit hu hlow in
theorem InvL.epilogue {s : St α} (h : InvL A u s) : InvL A u (epilogueElectOrDefeat A s) := by
  refine ⟨h.1.epilogue A, ?_⟩
  unfold epilogueElectOrDefeat
  dsimp only
  have h5 := h.2.foldUnpend A u s.pendingL
  have hm5 : (s.pendingL.foldl (fun acc c => acc.unpendSilent c.cid) s).method = .wigm := (h.1.foldUnpend A s.pendingL).meth
  generalize s.pendingL.foldl (fun acc c => acc.unpendSilent c.cid) s = s5 at *
  refine (LInv.foldl A u _ (fun v c hv hmv => ?_) _ h5 hm5).1
  split
  · exact ⟨hv.elect A u hmv c.cid _ _, (reach_elect A v c.cid _ _).method.trans hmv⟩
  · exact ⟨hv.defeat A u hmv c.cid _, (reach_defeat A v c.cid _).method.trans hmv⟩

/-- the same for wigm / wigm-prf / wigm-prf-batch (every configuration except `defeat_batch=zero`) -/
theorem wigm_lower (o : WigmOpts) (hz : o.batchZero = false) (hex : o.prf = true → A.exact = false)
    (s0 t : St α) (h0 : Init A s0) (hl0 : LStart A (wigmQuota A o s0) s0) (hq : 0 < wigmQuota A o s0)
    (h : wigmCount A o s0 = some t) : LInv A u (t.logAct A "end" "Count Complete" []) := by
  rw [wigmCount_eq] at h
  obtain ⟨s4, hl, rfl⟩ := Option.map_eq_some_iff.1 h
  have hinit : InvL A u (wigmInit A o s0) := ⟨Inv.wigmInit A hA o h0 hq, LInv.gInit A hA u hl0⟩
  have h4 : InvL A u s4 :=
    loopN_preserves_guard (InvL A u) stdGuard (wigmBody A o) (fun s hs _ => InvL.wigmBody A hA u hu hlow o hz hex hs) _ _ _ hinit hl
  exact ((InvL.epilogue A hA u h4).logAct A u _ _ _ (by decide)).2

end wigm

section cfer
variable (hA : LawfulArith A) (u : α) (hu : 0 ≤ u) (hlow : RewLower A u (rewMulDiv A))
include hA hu hlow

omit hu hlow in
theorem InvL.cferFinishDefeats {s : St α} (h : InvL A u s) (defeats : List (Cand α))
    (hj : JustDefeated A s (defeats.map (·.cid))) : InvL A u (Droop.cferFinishDefeats A s defeats).1 := by
  refine ⟨h.1.cferFinishDefeats A hA defeats hj, ?_⟩
  unfold Droop.cferFinishDefeats
  split
  · dsimp only
    have h1 := h.2.foldElect A u h.1.meth s.pendingL (fun _ => "Elect pending") (fun _ => false)
    exact (h1.1.foldElect A u h1.2 _ (fun _ => "Elect remaining") (fun _ => false)).1
  · exact LInv.transferDefeatedMany A hA u h.1 h.2 _ _ (by decide) hj.1 hj.2

omit hu hlow in
theorem InvL.cferDefeatBatch {s : St α} (h : InvL A u s) (defeats : List (Cand α))
    (hsub : ∀ w ∈ defeats, w ∈ s.hopeful) (hnd : (defeats.map (·.cid)).Nodup) :
    InvL A u (Droop.cferDefeatBatch A s defeats).1 := by
  unfold Droop.cferDefeatBatch
  apply InvL.cferFinishDefeats A hA u ⟨h.1.foldDefeat A _ _, (h.2.foldDefeat A u h.1.meth _ _).1⟩
  exact justDefeated_foldDefeat A h.1 defeats (byBallotOrder defeats) _ (pySorted_perm _ _ _) hnd hsub

omit hu hlow in
theorem InvL.cferDefeatLow {s : St α} (h : InvL A u s) : InvL A u (Droop.cferDefeatLow A s).1 := by
  refine ⟨h.1.cferDefeatLow A hA, ?_⟩
  unfold Droop.cferDefeatLow
  split
  · exact h.2.setCrash A u _
  · rename_i lv _
    have hI1 := h.1.breakTie A (s.hopeful.filter (fun c => A.eq c.vote lv)) "Break tie (defeat)"
    have hL1 := h.2.breakTie A u h.1.meth (s.hopeful.filter (fun c => A.eq c.vote lv)) "Break tie (defeat)"
    have hmem := breakTie_mem A s (s.hopeful.filter (fun c => A.eq c.vote lv)) "Break tie (defeat)"
    have hhop := (tieBreak_breakTie A s "Break tie (defeat)").hopeful (s.hopeful.filter (fun c => A.eq c.vote lv))
    split
    · rename_i s3 lc heq
      rw [heq] at hI1 hL1 hmem hhop
      have hl : lc ∈ s3.hopeful := by
        rw [show s3.hopeful = s.hopeful from hhop]; exact (List.mem_filter.1 (hmem lc rfl)).1
      exact (InvL.cferFinishDefeats A hA u ⟨hI1.defeat A lc.cid "Defeat", hL1.defeat A u hI1.meth lc.cid "Defeat"⟩ [lc]
        (justDefeated_defeat A hI1 hl "Defeat")).2
    · rename_i s3 heq
      rw [heq] at hL1
      exact hL1

theorem InvL.cferSurplusOne {s : St α} (h : InvL A u s) (c : Cand α)
    (hp : ∃ x ∈ s.cands, x.cid = c.cid ∧ x.st = .elected ∧ x.pending = true) :
    InvL A u (Droop.cferSurplusOne A s c) ∧ (Droop.cferSurplusOne A s c).skel = (s.unpendLog A c.cid "Transfer surplus").skel := by
  obtain ⟨hI, hsk⟩ := h.1.cferSurplusOne A hA c hp
  refine ⟨⟨hI, ?_⟩, hsk⟩
  obtain ⟨x, hxm, hxc, hxe, hxp⟩ := hp
  rw [cferSurplusOne_eq A h.1.wf c x hxm hxc, ← hxc]
  exact LInv.unpendTransfer A hA u hu _ hlow h.1 h.2 x hxm hxe hxp _ _ (by decide)

theorem InvL.foldSurplus (rem : List (Cand α)) {s : St α} (h : InvL A u s)
    (hnd : (rem.map (·.cid)).Nodup) (hp : StillPending s rem) : InvL A u (rem.foldl (Droop.cferSurplusOne A) s) := by
  induction rem generalizing s with
  | nil => exact h
  | cons c cs ih =>
    simp only [List.foldl_cons]
    simp only [List.map_cons, List.nodup_cons, List.mem_map, not_exists, not_and] at hnd
    obtain ⟨h1, hsk⟩ := InvL.cferSurplusOne A hA u hu hlow h c (hp c (by simp))
    apply ih h1 hnd.2
    exact stillPending_step A c cs hsk (fun c' hc' e => hnd.1 c' hc' e) (fun c' hc' => hp c' (by simp [hc']))

theorem InvL.cferAfterElect (batch : Bool) {s : St α} (h : InvL A u s) : InvL A u (Droop.cferAfterElect A batch s).1 := by
  have hfull : InvL A u (cferSeatsFull A s).1 := by
    refine ⟨h.1.cferSeatsFull A, ?_⟩
    unfold cferSeatsFull
    dsimp only
    have h5 := h.2.foldUnpend A u s.pendingL
    have hm5 : (s.pendingL.foldl (fun acc c => acc.unpendSilent c.cid) s).method = .wigm := (h.1.foldUnpend A s.pendingL).meth
    exact (h5.foldDefeat A u hm5 _ _).1
  have hsur : InvL A u (cferSurplusAll A s) := by
    unfold cferSurplusAll
    apply InvL.foldSurplus A hA u hu hlow s.pendingL h (pendingL_cids_nodup h.1.wf)
    intro c hc
    obtain ⟨a, b, d⟩ := mem_pendingL.1 hc
    exact ⟨c, a, rfl, b, d⟩
  have hbat : (∀ w ∈ (if batch then cferBatch A s else []), w ∈ s.hopeful)
      ∧ ((if batch then cferBatch A s else []).map (·.cid)).Nodup := by
    cases batch
    · exact ⟨fun w hw => (List.not_mem_nil hw).elim, List.nodup_nil⟩
    · exact ⟨cferBatch_hopeful A s, cferBatch_nodup A s h.1.wf⟩
  unfold Droop.cferAfterElect
  generalize (if batch then cferBatch A s else []) = defeats at hbat
  split
  · exact hfull
  · split
    · exact InvL.cferDefeatBatch A hA u h defeats hbat.1 hbat.2
    · split
      · exact hsur
      · exact InvL.cferDefeatLow A hA u h

theorem InvL.cferBody (hex : A.exact = false) (batch : Bool) {s : St α} (h : InvL A u s) :
    InvL A u (Droop.cferBody A batch s).1 := by
  have h1 : InvL A u (s.newRound A) := ⟨h.1.newRound A, h.2.newRound A u h.1.meth⟩
  unfold Droop.cferBody
  split
  · refine ⟨h1.1.cferElectAll A, ?_⟩
    unfold cferElectAll
    exact (h1.2.foldElect A u h1.1.meth _ (fun _ => "Elect all") (fun _ => false)).1
  · apply InvL.cferAfterElect A hA u hu hlow batch
    refine ⟨h1.1.cferElect A hA hex, ?_⟩
    unfold cferElect
    exact h1.2.electWinners A u h1.1.meth _ _ _

theorem cfer_lower (hex : A.exact = false) (batch : Bool) (s0 t : St α) (h0 : Init A s0)
    (hl0 : LStart A (cferQuota A s0) s0) (hq : 0 < cferQuota A s0) (h : cferCount A batch s0 = some t) :
    LInv A u (t.logAct A "end" "Count Complete" []) := by
  unfold cferCount at h
  have hinit : InvL A u (cferInit A s0) := ⟨Inv.cferInit A hA h0 hq, LInv.gInit A hA u hl0⟩
  have h4 : InvL A u t :=
    loopN_preserves_guard (InvL A u) (fun _ => true) (cferBody A batch)
      (fun s hs _ => InvL.cferBody A hA u hu hlow hex batch hs) _ _ _ hinit h
  exact (h4.logAct A u _ _ _ (by decide)).2

end cfer

section mpls
variable (hA : LawfulArith A) (u : α) (hu : 0 ≤ u) (hlow : RewLower A u (rewMulDiv A))
include hA hu hlow

omit hA hu hlow in
/-- `mplsLogTransfer` of an exclusion: the reporting surplus is set, then a non-surplus `transfer` action is logged -/
theorem LInv.mplsLogTransferD {s : St α} (h : LInv A u s) (hm : s.method = .wigm) (subj : List Nat) :
    LInv A u (Droop.mplsLogTransfer A s "Transfer defeated" subj) := by
  unfold Droop.mplsLogTransfer
  exact (h.setSurplus A u (mplsSurplusAll A s false)).logAct A u hm "transfer" "Transfer defeated" subj (by decide)

omit hu hlow in
theorem InvL.mplsDefeatMany {s : St α} (h : InvL A u s) (l : List (Cand α))
    (hsub : ∀ w ∈ l, w ∈ s.hopeful) (hnd : (l.map (·.cid)).Nodup) : InvL A u (Droop.mplsDefeatMany A s l).1 := by
  refine ⟨h.1.mplsDefeatMany A hA l hsub hnd, ?_⟩
  unfold Droop.mplsDefeatMany
  have hj := justDefeated_foldDefeatV A h.1 l mplsDefeatVerb hnd hsub
  obtain ⟨hc, hm⟩ := LInv.defeatedCore A hA u (h.1.foldDefeatV A l mplsDefeatVerb)
    (LInv.foldDefeatV A u h.2 h.1.meth l mplsDefeatVerb) _ hj.1 hj.2
  exact LInv.mplsLogTransferD A u hc hm _

theorem InvL.mplsElectSurplus (hex : A.exact = false) {s : St α} (h : InvL A u s) (hwq : List (Cand α)) (hv : α)
    (hsub : ∀ w ∈ hwq, w ∈ s.hopeful ∧ hasQuotaGE A s w = true) : InvL A u (Droop.mplsElectSurplus A s hwq hv).1 := by
  refine ⟨h.1.mplsElectSurplus A hA hex hwq hv hsub, ?_⟩
  unfold Droop.mplsElectSurplus
  have hI1 := h.1.breakTie A (hwq.filter (fun c => A.eq c.vote hv)) "Break tie (largest surplus)"
  have hL1 := h.2.breakTie A u h.1.meth (hwq.filter (fun c => A.eq c.vote hv)) "Break tie (largest surplus)"
  have hfr := breakTie_frame A s (hwq.filter (fun c => A.eq c.vote hv)) "Break tie (largest surplus)"
  have hmem := breakTie_mem A s (hwq.filter (fun c => A.eq c.vote hv)) "Break tie (largest surplus)"
  have hhop := (tieBreak_breakTie A s "Break tie (largest surplus)").hopeful (hwq.filter (fun c => A.eq c.vote hv))
  split
  · rename_i s3 hc heq
    rw [heq] at hI1 hL1 hfr hmem hhop
    replace hI1 : Inv A s3 := hI1
    replace hL1 : LInv A u s3 := hL1
    obtain ⟨hch, hcq⟩ := hsub hc (List.mem_filter.1 (hmem hc rfl)).1
    have hl : hc ∈ s3.hopeful := by rw [show s3.hopeful = s.hopeful from hhop]; exact hch
    have hq3 : s3.quota ≤ hc.vote := by
      rw [show s3.quota = s.quota from hfr.2.2.2.1]; exact hasQuotaGE_sound A hA hex s hc hcq
    obtain ⟨hcore, hx, hI, hq'⟩ := mplsElected_pre A hI1 hl hq3
    show LInv A u (Droop.mplsLogTransfer A (Droop.surplusCore A (s3.elect A hc.cid "Elect" false) hc (rewMulDiv A))
      "Transfer surplus" [hc.cid])
    rw [hcore]
    obtain ⟨c0, c1, c2, c3, c4, c4s, c5⟩ := LInv.surplusCore_pre A hA u hu (rewMulDiv A) hlow (hI1.electNP A hc.cid "Elect")
      (hL1.elect A u hI1.meth hc.cid "Elect" false) _ hx (by intro hh; cases hh) (by intro hh; cases hh) hI hq'
    unfold Droop.mplsLogTransfer
    generalize Droop.surplusCore A (s3.elect A hc.cid "Elect" false) ({ hc with st := .elected, pending := false } : Cand α)
      (rewMulDiv A) = core at *
    have hst : isSTs "transfer" "Transfer surplus" = true := by decide
    exact LInv.logAct' A u (s := core.setSurplus (mplsSurplusAll A core false)) c0 c1 c2 c3 c4 c4s
      "transfer" "Transfer surplus" [hc.cid] (by simp only [hst, if_true]; exact c5)
  · rename_i s3 heq
    rw [heq] at hL1
    exact hL1

omit hu hlow in
theorem InvL.mplsDefeatLow {s : St α} (h : InvL A u s) : InvL A u (Droop.mplsDefeatLow A s) := by
  refine ⟨h.1.mplsDefeatLow A hA, ?_⟩
  unfold Droop.mplsDefeatLow
  split
  · split
    · exact h.2
    · rename_i lv _
      have hI1 := h.1.breakTie A (s.hopeful.filter (fun c => A.eq c.vote lv)) "Break tie (defeat low candidate)"
      have hL1 := h.2.breakTie A u h.1.meth (s.hopeful.filter (fun c => A.eq c.vote lv)) "Break tie (defeat low candidate)"
      have hmem := breakTie_mem A s (s.hopeful.filter (fun c => A.eq c.vote lv)) "Break tie (defeat low candidate)"
      have hhop := (tieBreak_breakTie A s "Break tie (defeat low candidate)").hopeful (s.hopeful.filter (fun c => A.eq c.vote lv))
      split
      · rename_i s1 lc heq
        rw [heq] at hI1 hL1 hmem hhop
        have hl1 : lc ∈ s1.hopeful := by
          rw [show s1.hopeful = s.hopeful from hhop]; exact (List.mem_filter.1 (hmem lc rfl)).1
        unfold mplsAfterDefeatLow
        split
        · have hj := justDefeated_defeat A hI1 hl1 "Defeat low candidate"
          obtain ⟨hc, hmc⟩ := LInv.defeatedCore A hA u (hI1.defeat A lc.cid "Defeat low candidate")
            (hL1.defeat A u hI1.meth lc.cid "Defeat low candidate") [lc.cid] hj.1 hj.2
          exact LInv.mplsLogTransferD A u hc hmc _
        · exact hL1.defeat A u hI1.meth lc.cid _
      · rename_i s1 heq
        rw [heq] at hL1
        exact hL1
  · exact h.2

theorem InvL.mplsRound (hex : A.exact = false) {s : St α} (h : InvL A u s) : InvL A u (Droop.mplsRound A s).1 := by
  unfold Droop.mplsRound
  split
  · exact InvL.mplsDefeatMany A hA u h _ (mplsDefeatSet_hopeful A s) (mplsDefeatSet_nodup A s h.1.wf)
  · split
    · rename_i hd hs heq
      apply InvL.mplsElectSurplus A hA u hu hlow hex h
      intro w hw
      have : w ∈ (byVote A true s.hopeful).filter (hasQuotaGE A s) := by rw [heq]; exact hw
      rw [List.mem_filter] at this
      exact ⟨(mem_pySorted _ _ _ _).1 this.1, this.2⟩
    · unfold mplsFinish
      split <;> exact InvL.mplsDefeatLow A hA u h

theorem InvL.mplsBody (hex : A.exact = false) {s : St α} (h : InvL A u s) : InvL A u (Droop.mplsBody A s).1 := by
  have hcv : InvL A u (mplsCountVotes A s) := by
    refine ⟨h.1.mplsCountVotes A, ?_⟩
    unfold mplsCountVotes
    exact (h.2.setSurplus A u (mplsSurplusAll A s true)).logAct A u h.1.meth "count" "Count Votes" [] (by decide)
  unfold Droop.mplsBody
  split
  · refine ⟨hcv.1.mplsElectThreshold A, ?_⟩
    unfold mplsElectThreshold
    exact (hcv.2.foldElect A u hcv.1.meth _ (fun _ => "Candidate at threshold") (fun _ => false)).1
  · exact InvL.mplsRound A hA u hu hlow hex ⟨hcv.1.newRound A, hcv.2.newRound A u hcv.1.meth⟩

theorem mpls_lower (hex : A.exact = false) (s0 t : St α) (h0 : Init A s0)
    (hl0 : LStart A (A.ofInt (pdiv s0.nballots (s0.seats + 1) + 1)) s0)
    (hq : 0 < A.ofInt (pdiv s0.nballots (s0.seats + 1) + 1)) (h : mplsCount A s0 = some t) :
    LInv A u (t.logAct A "end" "Count Complete" []) := by
  rw [mplsCount_eq] at h
  obtain ⟨s4, hl, rfl⟩ := Option.map_eq_some_iff.1 h
  obtain ⟨hc, hm⟩ := LInv.initCore A hA u hl0
  have hinit : InvL A u (mplsInit A s0) := by
    refine ⟨Inv.mplsInit A hA h0 hq, ?_⟩
    unfold mplsInit
    exact hc.newRound A u hm
  have h4 : InvL A u s4 :=
    loopN_preserves_guard (InvL A u) (fun _ => true) (mplsBody A) (fun s hs _ => InvL.mplsBody A hA u hu hlow hex hs) _ _ _ hinit hl
  exact ((InvL.mplsEpilogue A u h4).logAct A u _ _ _ (by decide)).2

end mpls

end Droop
