import DroopProofs.Lower
import DroopProofs.OracleBridge

/-! # The compiled lower-bound oracle is true on every record that satisfies `LInv`

`recLowerB` is the Boolean the driver evaluates on the model's record and on the implementation's record (oldest action first).
On a record whose state satisfies `LInv A 2` it evaluates to `true`, so an alarm of `okC02Gregory` on the implementation's record
is never a false alarm of the oracle itself. -/
namespace Droop
variable {α : Type} [CommRing α] [LinearOrder α] [IsStrictOrderedRing α] (A : Arith α)

def cntST (xs : List (Act α × Snap α)) : Nat := (xs.filter (fun p => isSTs p.1.tag p.1.verb)).length

def lowerCheck (ctx : Ctx) (units : Int → α) (x : Act α × Snap α) (t : Nat) : Bool :=
  if ctx.isRational then
    !(A.ltRaw (A.add (A.sum ((x.2.cs.filter (fun e => e.2.1 != "W")).map (fun e => e.2.2.1))) x.2.x1) (A.ofInt ctx.nballots))
  else
    !(A.ltRaw (A.add (A.sum ((x.2.cs.filter (fun e => e.2.1 != "W")).map (fun e => e.2.2.1))) x.2.x1)
        (A.sub (A.ofInt ctx.nballots) (units (2 * ctx.nballots * t))))

theorem go_cons (ctx : Ctx) (units : Int → α) (t : Nat) (x : Act α × Snap α) (rest : List (Act α × Snap α)) :
    recLowerB.go A ctx units (A.ofInt ctx.nballots) t (x :: rest)
      = (lowerCheck A ctx units x (t + (if isSTs x.1.tag x.1.verb then 1 else 0))
          && recLowerB.go A ctx units (A.ofInt ctx.nballots) (t + (if isSTs x.1.tag x.1.verb then 1 else 0)) rest) := by
  obtain ⟨a, s⟩ := x
  conv_lhs => unfold recLowerB.go
  unfold lowerCheck isSTs
  dsimp only
  have ht : (if (a.tag == "transfer" && (a.verb == "Surplus transferred" || a.verb == "Transfer surplus")) = true then t + 1 else t)
      = t + (if (a.tag == "transfer" && (a.verb == "Surplus transferred" || a.verb == "Transfer surplus")) = true then 1 else 0) := by
    split <;> rfl
  rw [ht]

theorem go_append_single (ctx : Ctx) (units : Int → α) :
    ∀ (xs : List (Act α × Snap α)) (t : Nat) (x : Act α × Snap α),
      recLowerB.go A ctx units (A.ofInt ctx.nballots) t (xs ++ [x])
        = (recLowerB.go A ctx units (A.ofInt ctx.nballots) t xs
            && lowerCheck A ctx units x (t + cntST xs + (if isSTs x.1.tag x.1.verb then 1 else 0))) := by
  intro xs
  induction xs with
  | nil =>
    intro t x
    simp only [List.nil_append, cntST, List.filter_nil, List.length_nil, Nat.add_zero]
    rw [go_cons]
    have : recLowerB.go A ctx units (A.ofInt ctx.nballots) (t + (if isSTs x.1.tag x.1.verb then 1 else 0)) [] = true := by unfold recLowerB.go; rfl
    rw [this]
    have h0 : recLowerB.go A ctx units (A.ofInt ctx.nballots) t [] = true := by unfold recLowerB.go; rfl
    rw [h0]; simp
  | cons y ys ih =>
    intro t x
    simp only [List.cons_append]
    rw [go_cons, go_cons, ih]
    have hc : cntST (y :: ys) = (if isSTs y.1.tag y.1.verb then 1 else 0) + cntST ys := by
      unfold cntST; rw [List.filter_cons]; split <;> simp [Nat.add_comm]
    rw [hc, Bool.and_assoc]
    congr 2
    congr 1
    omega

theorem snapsOf_append (l1 l2 : List (Act α)) : snapsOf (l1 ++ l2) = snapsOf l1 ++ snapsOf l2 := by
  unfold snapsOf; rw [List.filterMap_append]

theorem cntST_snapsOf_reverse (l : List (Act α)) (hs : ∀ a ∈ l, a.snap.isSome = true) : cntST (snapsOf l.reverse) = nST l := by
  induction l with
  | nil => rfl
  | cons a l ih =>
    have ha := hs a (by simp)
    obtain ⟨sn, hsn⟩ := Option.isSome_iff_exists.1 ha
    rw [List.reverse_cons, snapsOf_append, nST_cons]
    have : snapsOf [a] = [(a, sn)] := by unfold snapsOf; simp [hsn]
    rw [this]
    unfold cntST at ih ⊢
    rw [List.filter_append, List.length_append, ih (fun x hx => hs x (by simp [hx]))]
    simp only [List.filter_cons, List.filter_nil]
    split <;> simp

theorem recLowerB_of_LInv (hA : LawfulArith A) (hR : LawfulRaw A) (ctx : Ctx) (units : Int → α) (hU : ∀ k : Int, units k = (k : α))
    (s : St α) (hn : ctx.nballots = s.nballots) (hrat : ctx.isRational = false) (h : LInv A 2 s) :
    recLowerB A ctx units s.acts.reverse = true := by
  unfold recLowerB
  have key : ∀ (l : List (Act α)), l <:+ s.acts → recLowerB.go A ctx units (A.ofInt ctx.nballots) 0 (snapsOf l.reverse) = true := by
    intro l
    induction l with
    | nil => intro _; unfold snapsOf recLowerB.go; rfl
    | cons a l ih =>
      intro hsuf
      have hsufl : l <:+ s.acts := (List.suffix_cons a l).trans hsuf
      have hsn_all : ∀ x ∈ a :: l, x.snap.isSome = true := fun x hx => h.snaps x (hsuf.subset hx)
      obtain ⟨sn, hsn⟩ := Option.isSome_iff_exists.1 (hsn_all a (by simp))
      rw [List.reverse_cons, snapsOf_append]
      have h1 : snapsOf [a] = [(a, sn)] := by unfold snapsOf; simp [hsn]
      rw [h1, go_append_single, ih hsufl, Bool.true_and]
      have hcnt := cntST_snapsOf_reverse l (fun x hx => hsn_all x (by simp [hx]))
      have hT : 0 + cntST (snapsOf l.reverse) + (if isSTs a.tag a.verb then 1 else 0) = nST (a :: l) := by
        rw [hcnt, nST_cons]; omega
      rw [hT]
      have hlow := h.recl l a hsuf sn hsn
      unfold LowOK snapTot at hlow
      unfold lowerCheck
      simp only [hrat, Bool.false_eq_true, if_false]
      rw [Bool.not_eq_true', ← Bool.not_eq_true, hR.ltRaw_iff, not_lt]
      rw [hA.add_eq, arith_sum_eq A hA, hA.sub_eq, hA.ofInt_eq, hU, hn]
      push_cast
      push_cast at hlow
      linarith
  exact key s.acts (List.suffix_refl _)

end Droop
