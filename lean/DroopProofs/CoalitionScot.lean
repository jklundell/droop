import DroopProofs.CoalitionRun

/-! # C05, Scottish rule: a solid coalition with more than `k` quotas gets `min(k, size)` of its members elected -/
namespace Droop
variable {α : Type} [CommRing α] [LinearOrder α] [IsStrictOrderedRing α] (A : Arith α)

variable {S : List Nat} {m : Nat} {kk k : Nat} {u nV : α} {N : Nat}

section scot
variable (hA : LawfulArith A) (hex : A.exact = false) (hqc : QuotaComplete A) (hu : 0 ≤ u)
  (hlow : RewLower A u (rewMuldivDown A)) (hkk : kk ≤ k)
include hA hu hlow

theorem CInv.scotSurplusStep {s : St α} (h : CInv A S m kk k u nV N s) (hI : Inv A s) (hq1 : A.one ≤ s.quota) :
    CInv A S m kk k u nV N (Droop.scotSurplusStep A s) := by
  rcases scotSurplusStep_cases A s with ⟨_, e⟩ | ⟨tied, hsub, ⟨_, e⟩ | ⟨hc, hb, e⟩⟩
  · rw [e]; exact h
  · rw [e]; exact h.scotBreakTie A _ _ _
  · rw [e]
    obtain ⟨e1, e2, _, e4, _⟩ := scotBreakTie_frame A s tied false "largest surplus"
    exact h.surplusPicked A hA hu _ hlow e1 e2 e4 (hI.scotBreakTie A tied false _) hq1 hc
      (hsub hc (scotBreakTie_mem A s tied false _ hc hb)) _ _

include hkk in
theorem CInv.scotDefeatStep {s : St α} (h : CInv A S m kk k u nV N s) (hI : Inv A s) (hpend : s.pendingL = [])
    (hbelow : ∀ c ∈ s.hopeful, c.vote ≤ s.quota) : CInv A S m kk k u nV N (Droop.scotDefeatStep A s) := by
  rcases scotDefeatStep_cases A s with ⟨_, e⟩ | ⟨tied, hsub, ⟨_, e⟩ | ⟨lc, hb, e⟩⟩
  · rw [e]; exact h
  · rw [e]; exact h.scotBreakTie A _ _ _
  · rw [e]
    obtain ⟨e1, e2, _, e4, _⟩ := scotBreakTie_frame A s tied true "defeat low candidate"
    exact h.defeatPicked A hA hu hkk e1 e2 e4 (hI.scotBreakTie A tied true _) hpend hbelow lc
      (hsub lc (scotBreakTie_mem A s tied true _ lc hb)) _ _

include hex hqc hkk in
theorem CInv.scotBody {s : St α} (hS : GInv A s) (h : CInv A S m kk k u nV N s) (hq1 : A.one ≤ s.quota) :
    CInv A S m kk k u nV N (Droop.scotBody A s).1 := by
  have hI := hS.1.1
  obtain ⟨h1, hbelow1⟩ : CInv A S m kk k u nV N (scotElect A s)
      ∧ ∀ c ∈ (scotElect A s).hopeful, c.vote ≤ (scotElect A s).quota :=
    h.electWinners A hA (hasQuotaGE A) _ (fun c hc => hasQuotaGE_sound A hA hex s c hc) (fun c hc => hqc.1 _ _ hc) hI
  have hI1 : Inv A (scotElect A s) := hI.scotElect A hA hex
  have hF1 : Frame s (scotElect A s) := (stepRel_frame A).electWinners _ _ _ s
  unfold Droop.scotBody
  split
  · exact h1
  · have hc2 : (scotRound A (scotElect A s)).cands = (scotElect A s).cands := by
      unfold scotRound St.setSurplus St.newRound; simp only [logAct_cands]
    have hq2 : (scotRound A (scotElect A s)).quota = (scotElect A s).quota := by
      unfold scotRound St.setSurplus St.newRound; simp only [logAct_quota]
    have h2 : CInv A S m kk k u nV N (scotRound A (scotElect A s)) := (h1.newRound A).setSurplus A _
    have hI2 : Inv A (scotRound A (scotElect A s)) := (hI1.newRound A).setSurplus A _
    unfold scotStage
    split
    · exact CInv.scotSurplusStep A hA hu hlow h2 hI2 (by rw [hq2, hF1.1]; exact hq1)
    · rename_i hp
      split
      · rw [scotFinish_fst]
        refine CInv.scotDefeatStep A hA hu hlow hkk h2 hI2 (by simpa using hp) fun c hc => ?_
        rw [hq2]
        exact hbelow1 c (by unfold St.hopeful at hc ⊢; rw [← hc2]; exact hc)
      · rw [scotFinish_fst]; exact h2

end scot

/-- **the Scottish epilogue**: if the main loop stopped with the count complete and at least `kk` coalition members hopeful
    or elected — and `kk` of them elected in case the seats are all taken — then `kk` of them are elected at the end -/
theorem scotEpilogue_elS {s : St α} (hg : Good A s) (hcomp : scotCountComplete s = true)
    (halive : kk ≤ hopS S s + elS S s) (hfull : s.seats ≤ nEl s → kk ≤ elS S s) :
    kk ≤ elS S (scotEpilogue A s) := by
  unfold scotEpilogue
  dsimp only
  have hg5 := hg.foldUnpend A
  obtain ⟨u1, u2, u3⟩ := counts_foldUnpend s.pendingL s
  obtain ⟨v1, v2⟩ := countsS_foldUnpend (S := S) s.pendingL s
  generalize s.pendingL.foldl (fun acc c => acc.unpendSilent c.cid) s = s5 at *
  by_cases hfit : ((s5.hopeful.length : Int) ≤ s5.seatsLeft)
  · simp only [hfit, decide_true, if_true]
    obtain ⟨hg6, a6, _⟩ := foldElectAll A hg5 s5.hopeful "Elect remaining candidates"
      (hopeful_cids_nodup hg5.1.wf) (fun w hw => mem_hopeful.1 hw)
    obtain ⟨w1, w2⟩ := countsS_foldElect (S := S) A hg5.1.wf s5.hopeful "Elect remaining candidates" false
      (hopeful_cids_nodup hg5.1.wf) (fun w hw => mem_hopeful.1 hw)
    generalize s5.hopeful.foldl (fun acc c => acc.elect A c.cid "Elect remaining candidates" false) s5 = s6 at *
    have h0 : nHop s6 = 0 := by unfold nHop at a6 ⊢; omega
    have hs6 : s6.hopeful = [] := List.eq_nil_of_length_eq_zero h0
    rw [hs6]
    simp only [List.foldl_nil]
    have := hopS_le_nHop (S := S) s6
    omega
  · simp only [hfit, decide_false, Bool.false_eq_true, if_false]
    rw [countsS_foldDefeat (S := S) A hg5.1.wf s5.hopeful "Defeat remaining candidates"
      (hopeful_cids_nodup hg5.1.wf) (fun w hw => mem_hopeful.1 hw), v2]
    apply hfull
    unfold scotCountComplete at hcomp
    simp only [Bool.or_eq_true, decide_eq_true_eq] at hcomp
    unfold St.seatsLeft at hfit hcomp
    unfold nHop nEl at *
    rw [u3] at hfit
    omega

/-- **C05, Scottish rule**: a set `S` of candidates ranked, in any order, in the first `m` places by ballots worth more
    than `k` quotas (plus `u` per ballot per candidate) has at least `kk = min(k, standing members of S)` members elected -/
theorem scot_coalition (hA : LawfulArith A) (hex : A.exact = false) (hqc : QuotaComplete A) (hu : 0 ≤ u)
    (hlow : RewLower A u (rewMuldivDown A)) (s0 t : St α) (h0 : ScotStart A s0)
    (hc : CStart A S m kk k u (A.ofInt (pdiv s0.nballots (s0.seats + 1) + 1)) s0)
    (h : scotCount A s0 = some t) (hcr : t.crash = none) : kk ≤ elS S t := by
  rw [scotCount_eq] at h
  obtain ⟨s4, hl, rfl⟩ := Option.map_eq_some_iff.1 h
  obtain ⟨hg4, halive, hfull⟩ := CInv.loop A hA hu hc (h0.inv A hA) _ (scotBody A) _
    (fun s hG hC hq _ => ⟨(scotBody_spec A hA hex hG).1, CInv.scotBody A hA hex hqc hu hlow hc.kk_le hG hC hq,
      (scotBody_spec A hA hex hG).2.1.1⟩) hl
  rw [(scotEpilogue_spec A hg4).2.2.1] at hcr
  exact scotEpilogue_elS A hg4 ((scot_loop_exit A hA hex s0 s4 h0 hl).2.2 hcr) halive hfull

end Droop
