import DroopProofs.CoalitionRun
import DroopProofs.MeekRound

/-! # C09 for meek and warren: the record only moves forward, the log only grows (strict rankings)

`Mon` (the log is monotone, its newest snapshot is behind the state) is carried through every step of the Meek / Warren driver
next to `MInv`, which supplies distinct ids and "no equal rankings".  Distributions, quota and keep-factor updates leave ids and
statuses alone; elections address hopeful (or already elected) candidates, exclusions hopeful ones. -/
namespace Droop
variable {α : Type} [CommRing α] [LinearOrder α] [IsStrictOrderedRing α] (A : Arith α)

theorem snaps_logMsg (s : St α) (verb : String) (subj : List Nat) (v : Option α) :
    snaps (s.logMsg verb subj v).acts = snaps s.acts := by
  unfold St.logMsg snaps
  simp only [List.filterMap_cons]

theorem Mon.logMsg {s : St α} (h : Mon s) (verb : String) (subj : List Nat) (v : Option α) : Mon (s.logMsg verb subj v) := by
  unfold Mon at *
  rw [snaps_logMsg]
  exact h

theorem Mon.distribute (hA : LawfulArith A) (w : Bool) {s : St α} (h : Mon s) (hwf : s.WF) (hq : s.ballotsEq = []) :
    Mon (distributeVotes A w s) := by
  have hf := distributeVotes_frame A w s hq
  exact Mon.of_skel h (distributeVotes_skel A w s hwf hq hA) hf.2.2.2.1 hf.2.2.2.2

def HopOrEl (s : St α) (ids : List Nat) : Prop := ∀ i ∈ ids, ∀ c ∈ s.cands, c.cid = i → c.st = .hopeful ∨ c.st = .elected

theorem HopOrEl.elect {s : St α} {ids : List Nat} (h : HopOrEl s ids) (cid : Nat) (verb : String) (p : Bool) :
    HopOrEl (s.elect A cid verb p) ids := by
  intro i hi c' hc' hci
  unfold St.elect at hc'
  rw [logAct_cands] at hc'
  obtain ⟨c, hc, rfl⟩ := mem_upd.1 hc'
  by_cases he : (c.cid == cid) = true
  · rw [if_pos he]; exact Or.inr rfl
  · rw [if_neg he] at hci ⊢
    exact h i hi c hc hci

theorem Mon.foldElectNP {s : St α} (h : Mon s) (ws : List (Cand α)) (verb : String)
    (hst : HopOrEl s (ws.map (·.cid))) : Mon (ws.foldl (fun acc c => acc.elect A c.cid verb false) s) := by
  induction ws generalizing s with
  | nil => exact h
  | cons w ws ih =>
    simp only [List.foldl_cons]
    apply ih (h.electNP A w.cid verb (fun c hc hcc => hst w.cid (by simp) c hc hcc))
    have := HopOrEl.elect A hst w.cid verb false
    intro i hi
    exact this i (by simp only [List.map_cons, List.mem_cons]; right; exact hi)

theorem Mon.meekIterCore (hA : LawfulArith A) (o : MeekOpts) {s : St α} (h : Mon s) (hI : MInv A s) :
    Mon (Droop.meekIterCore A o s) := by
  rw [meekIterCore_eq]
  have hd := h.distribute A hA o.warren hI.wf hI.noEq
  apply Mon.setSurplus
  unfold meekS4
  apply Mon.foldElectNP
  · unfold meekS3
    generalize distributeVotes A o.warren s = d at hd
    exact Mon.of_skel (Mon.of_skel hd (t := d.setVotes _) rfl rfl rfl) rfl rfl rfl
  · intro i hi c hc hci
    obtain ⟨w, hw, rfl⟩ := List.mem_map.1 hi
    unfold meekWinners at hw
    have hwh := mem_hopeful.1 (List.mem_filter.1 hw).1
    left
    have hwf : (meekS3 A o s).WF := by
      unfold St.WF; rw [meekS3_cands]; exact WF_of_skel (distributeVotes_skel A o.warren s hI.wf hI.noEq hA).symm hI.wf
    have : c = w := nodup_cid_eq hwf hc hwh.1 hci
    rw [this]; exact hwh.2

theorem Mon.kfStep (cap : Bool) {s : St α} (h : Mon s) (c : Cand α) : Mon (Droop.kfStep A cap s c) := by
  unfold Droop.kfStep
  split
  · split
    · exact h.setCrash _
    · exact Mon.of_skel h (upd_kf_skel s c.cid _) rfl rfl
  · exact h.setCrash _

theorem Mon.kfUpdate (cap : Bool) {s : St α} (h : Mon s) : Mon (Droop.kfUpdate A cap s) := by
  rw [kfUpdate_eq]
  generalize s.elected = l
  induction l generalizing s with
  | nil => exact h
  | cons c cs ih => simp only [List.foldl_cons]; exact ih (h.kfStep A cap c)

theorem Mon.meekIterate (hA : LawfulArith A) (o : MeekOpts) (omega : α) :
    ∀ (fuel : Nat) (last : α) (s : St α), Mon s → MInv A s → Mon (Droop.meekIterate A o omega fuel last s).1 := by
  intro fuel last s h hI
  exact (meekIterate_preserves A o omega (P := fun s => Mon s ∧ MInv A s)
    (fun _ h => ⟨h.1.meekIterCore A hA o h.2, h.2.meekIterCore A hA o⟩)
    (fun _ h => ⟨h.1.kfUpdate A true, h.2.kfUpdate A true⟩)
    (fun _ _ h => ⟨h.1.logMsg _ _ _, h.2.logMsg A _ _ _⟩) fuel last s ⟨h, hI⟩).1

/-- exclusion in the Meek rules: `defeat`, keep factor and tally to zero, redistribute -/
theorem Mon.meekDefeatOne (hA : LawfulArith A) (hz : A.isZero A.zero = true) (o : MeekOpts) {s : St α} (h : Mon s) (hI : MInv A s)
    (cid : Nat) (verb : String) (hhop : ∀ c ∈ s.cands, c.cid = cid → c.st = .hopeful) :
    Mon (Droop.meekDefeatOne A o s cid verb) := by
  unfold Droop.meekDefeatOne
  have hpre := hI.defeatZero A hA hz cid verb
  apply Mon.distribute A hA o.warren _ hpre.wf hpre.noEq
  have hd := h.defeat A cid verb hhop
  refine Mon.of_skel hd ?_ rfl rfl
  unfold St.skel St.upd
  simp only [List.map_map]
  apply List.map_congr_left
  intro c _
  simp only [Function.comp]
  split <;> rfl

theorem meekStable_Mon (hA : LawfulArith A) (hz : A.isZero A.zero = true) (o : MeekOpts) :
    MeekStable A o (fun s => Mon s ∧ MInv A s) :=
  { inv := fun h => h.2
    logAct := fun h tag verb subj => ⟨h.1.logAct A tag verb subj, h.2.logAct A tag verb subj⟩
    logMsg := fun h v => ⟨h.1.logMsg _ _ v, h.2.logMsg A _ _ v⟩
    setCrash := fun h k => ⟨h.1.setCrash k, h.2.setCrash A k⟩
    nextRound := fun h => ⟨Mon.of_skel h.1 rfl rfl rfl, h.2.of_same A rfl rfl rfl rfl rfl rfl rfl⟩
    core := fun h => ⟨h.1.meekIterCore A hA o h.2, h.2.meekIterCore A hA o⟩
    kf := fun h => ⟨h.1.kfUpdate A true, h.2.kfUpdate A true⟩
    defeatOne := fun h cid verb hh => ⟨h.1.meekDefeatOne A hA hz o h.2 cid verb hh, h.2.meekDefeatOne A hA hz o cid verb⟩
    electDist := fun h cid verb hh =>
      have hIe := h.2.elect A cid verb false
      ⟨(h.1.electNP A cid verb (fun c hc hcc => Or.inl (hh c hc hcc))).distribute A hA o.warren hIe.wf hIe.noEq,
        hIe.toMPre.distribute A hA o.warren⟩ }

theorem Mon.meekBody (hA : LawfulArith A) (hz : A.isZero A.zero = true) (o : MeekOpts) (omega : α) (fuel : Nat) {s : St α}
    (h : Mon s) (hI : MInv A s) : Mon (Droop.meekBody A o omega fuel s).1 :=
  ((meekStable_Mon A hA hz o).body hA hz omega fuel ⟨h, hI⟩).1

theorem foldl_mfcStep_acts (bs : List (Ballot α)) (s : St α) : (bs.foldl (mfcStep A) s).acts = s.acts :=
  TransferBlind.acts.toTallyBlind.foldl_mfcStep A bs s

theorem Mon.meekInit {s0 : St α} (h0 : MInit A s0) : Mon (Droop.meekInit A s0) := by
  unfold Droop.meekInit
  apply Mon.logAct
  apply Mon.of_noActs
  have e := meekFirstCount_eq A
    (((s0.setVotes (A.ofInt s0.nballots)).setQuota (meekQuota A (s0.setVotes (A.ofInt s0.nballots)))).initKf A.one) h0.noEq
  rw [e, foldl_mfcStep_acts]
  exact h0.noActs

/-- **C09 for meek and warren, run level**: whatever the count returns, its record is forward-only (every candidate's status
    code only moves forward from snapshot to snapshot, no candidate disappears) and the newest snapshot is behind the final state -/
theorem meek_record_monotone (hA : LawfulArith A) (hz : A.isZero A.zero = true) (o : MeekOpts) (iterFuel : Nat) (s0 t : St α)
    (h0 : MInit A s0) (h : meekCount A o iterFuel s0 = some t) : Mon t := by
  unfold meekCount at h
  by_cases hn : (A.name == "integer") = true
  · rw [if_pos hn] at h
    have ht : t = s0.setCrash "AssertionError" := (Option.some.inj h).symm
    rw [ht]
    exact (Mon.of_noActs h0.noActs).setCrash _
  rw [if_neg hn] at h
  cases hl : loopN (fun s => !meekCountComplete s) (meekBody A o (A.divV A.one (A.ofInt (10 ^ o.omega10))) iterFuel)
      (2 * s0.cands.length + 3) (meekInit A s0) with
  | none => rw [hl] at h; cases h
  | some s7 =>
    rw [hl] at h
    have ht : t = meekEpilogue A o s7 := (Option.some.inj h).symm
    have hP := (meekStable_Mon A hA hz o).remaining hA hz
      ((meekStable_Mon A hA hz o).loop hA hz _ iterFuel _ ⟨Mon.meekInit A h0, MInv.meekInit A hA h0⟩ hl)
    rw [ht]
    unfold meekEpilogue
    split
    · exact ((meekStable_Mon A hA hz o).loop hA hz _ iterFuel _ ⟨Mon.meekInit A h0, MInv.meekInit A hA h0⟩ hl).1
    · exact Mon.of_skel (Mon.of_skel hP.1 rfl rfl rfl) rfl rfl rfl

theorem ext_distribute (w : Bool) (s : St α) (hq : s.ballotsEq = []) : Ext s (distributeVotes A w s) :=
  Ext.of_acts_eq (distributeVotes_frame A w s hq).2.2.2.2

theorem ext_logMsg (s : St α) (verb : String) (subj : List Nat) (v : Option α) : Ext s (s.logMsg verb subj v) := by
  unfold Ext St.logMsg
  exact List.suffix_cons _ _

theorem ext_meekIterCore (o : MeekOpts) (s : St α) (hq : s.ballotsEq = []) : Ext s (Droop.meekIterCore A o s) := by
  unfold Droop.meekIterCore
  dsimp only
  refine Ext.trans ?_ (ext_setSurplus _ _)
  refine Ext.trans ?_ (ext_foldl (fun acc (c : Cand α) => acc.elect A c.cid "Elect" false) (fun s x => ext_elect A s _ _ _) _ _)
  exact (ext_distribute A o.warren s hq).trans (Ext.of_acts_eq rfl)

theorem ext_kfUpdate (cap : Bool) (s : St α) : Ext s (Droop.kfUpdate A cap s) := by
  rw [kfUpdate_eq]
  apply ext_foldl
  intro t c
  unfold Droop.kfStep
  split
  · split
    · exact ext_setCrash t _
    · exact Ext.of_acts_eq rfl
  · exact ext_setCrash t _

theorem ext_meekDefeatOne (o : MeekOpts) (s : St α) (hq : s.ballotsEq = []) (cid : Nat) (verb : String) :
    Ext s (Droop.meekDefeatOne A o s cid verb) := by
  unfold Droop.meekDefeatOne
  have h1 : Ext s ((s.defeat A cid verb).upd cid (fun c => { c with kf := some A.zero, vote := A.zero })) :=
    (ext_defeat A s cid verb).trans (Ext.of_acts_eq rfl)
  refine h1.trans (ext_distribute A o.warren _ ?_)
  unfold St.defeat St.logAct; simp only; split <;> exact hq

theorem meekStable_ext (hA : LawfulArith A) (hz : A.isZero A.zero = true) (o : MeekOpts) (s0 : St α) :
    MeekStable A o (fun t => MInv A t ∧ Ext s0 t) :=
  { inv := fun h => h.1
    logAct := fun h tag verb subj => ⟨h.1.logAct A tag verb subj, h.2.trans (ext_logAct A _ tag verb subj)⟩
    logMsg := fun h v => ⟨h.1.logMsg A _ _ v, h.2.trans (ext_logMsg _ _ _ v)⟩
    setCrash := fun h k => ⟨h.1.setCrash A k, h.2.trans (ext_setCrash _ k)⟩
    nextRound := fun h => ⟨h.1.of_same A rfl rfl rfl rfl rfl rfl rfl, h.2.trans (Ext.of_acts_eq rfl)⟩
    core := fun h => ⟨h.1.meekIterCore A hA o, h.2.trans (ext_meekIterCore A o _ h.1.noEq)⟩
    kf := fun h => ⟨h.1.kfUpdate A true, h.2.trans (ext_kfUpdate A true _)⟩
    defeatOne := fun h cid verb _ => ⟨h.1.meekDefeatOne A hA hz o cid verb, h.2.trans (ext_meekDefeatOne A o _ h.1.noEq cid verb)⟩
    electDist := fun h cid verb _ =>
      have hIe := h.1.elect A cid verb false
      ⟨hIe.toMPre.distribute A hA o.warren, h.2.trans ((ext_elect A _ cid verb false).trans (ext_distribute A o.warren _ hIe.noEq))⟩ }

theorem ext_meekBody (hA : LawfulArith A) (hz : A.isZero A.zero = true) (o : MeekOpts) (omega : α) (fuel : Nat) (s : St α)
    (hI : MInv A s) : Ext s (Droop.meekBody A o omega fuel s).1 :=
  ((meekStable_ext A hA hz o s).body hA hz omega fuel ⟨hI, Ext.refl s⟩).2

theorem ext_meekInit {s0 : St α} (h0 : MInit A s0) : Ext s0 (Droop.meekInit A s0) := by
  unfold Droop.meekInit
  refine Ext.trans (Ext.of_acts_eq ?_) (ext_logAct A _ _ _ _)
  have e := meekFirstCount_eq A
    (((s0.setVotes (A.ofInt s0.nballots)).setQuota (meekQuota A (s0.setVotes (A.ofInt s0.nballots)))).initKf A.one) h0.noEq
  rw [e, foldl_mfcStep_acts]
  rfl

theorem ext_meekEpilogue (hA : LawfulArith A) (hz : A.isZero A.zero = true) (o : MeekOpts) (s : St α) (hI : MInv A s) :
    Ext s (Droop.meekEpilogue A o s) := by
  unfold Droop.meekEpilogue
  split
  · exact Ext.refl s
  · exact ((meekStable_ext A hA hz o s).remaining hA hz ⟨hI, Ext.refl s⟩).2.trans (Ext.of_acts_eq rfl)

/-- **C09 for meek and warren, run level**: the log of whatever the count returns extends the log it started with -/
theorem meek_record_appendOnly (hA : LawfulArith A) (hz : A.isZero A.zero = true) (o : MeekOpts) (iterFuel : Nat) (s0 t : St α)
    (h0 : MInit A s0) (h : meekCount A o iterFuel s0 = some t) : Ext s0 t := by
  unfold meekCount at h
  by_cases hn : (A.name == "integer") = true
  · rw [if_pos hn] at h
    have ht : t = s0.setCrash "AssertionError" := (Option.some.inj h).symm
    rw [ht]; exact ext_setCrash s0 _
  rw [if_neg hn] at h
  cases hl : loopN (fun s => !meekCountComplete s) (meekBody A o (A.divV A.one (A.ofInt (10 ^ o.omega10))) iterFuel)
      (2 * s0.cands.length + 3) (meekInit A s0) with
  | none => rw [hl] at h; cases h
  | some s7 =>
    rw [hl] at h
    have ht : t = meekEpilogue A o s7 := (Option.some.inj h).symm
    obtain ⟨hI7, hx⟩ := (meekStable_ext A hA hz o s0).loop hA hz _ iterFuel _ ⟨MInv.meekInit A hA h0, ext_meekInit A h0⟩ hl
    rw [ht]
    exact hx.trans (ext_meekEpilogue A hA hz o s7 hI7)

end Droop
