import DroopProofs.MeekRound
import DroopProofs.StepComm

/-! # Transformers of states that a Meek / Warren round commutes with

The Meek counterpart of `StepComm`: on top of the selectors and primitive writes of `StepComm`, a round distributes (from a state
in which the dead keep nothing), iterates, and picks the members of a safe batch out of the candidate list.  A transformer that
commutes with these commutes with the exclusions, with what follows an iteration, with the round, the closing stage and the loop.
Every id an exclusion or a late election addresses is that of a hopeful candidate, which is what `dropW` asks for. -/
namespace Droop
variable {α : Type} [CommRing α] [LinearOrder α] [IsStrictOrderedRing α] (A : Arith α)

structure MeekComm (o : MeekOpts) (T : St α → St α) (G : Prop) : Prop where
  step : StepComm A T G
  surplus : ∀ s, (T s).surplus = s.surplus
  dist : ∀ s, MPre A s → distributeVotes A o.warren (T s) = T (distributeVotes A o.warren s)
  iterate : ∀ omega fuel last s, MInv A s →
    meekIterate A o omega fuel last (T s) = (T (meekIterate A o omega fuel last s).1, (meekIterate A o omega fuel last s).2)
  batchList : ∀ (s : St α) (cids : List Nat), MInv A s → (∀ i ∈ cids, ∃ w ∈ s.hopeful, w.cid = i) →
    (T s).cands.filter (fun c => cids.contains c.cid) = s.cands.filter (fun c => cids.contains c.cid)
  final : ∀ s, meekFinal A (T s) = T (meekFinal A s)

theorem nonWId_meekDefeatOne (hA : LawfulArith A) (hz : A.isZero A.zero = true) (o : MeekOpts) {s : St α} (hI : MInv A s)
    (cid : Nat) (verb : String) {d : Nat} (hn : NonWId s d) : NonWId (meekDefeatOne A o s cid verb) d := by
  unfold meekDefeatOne
  have hpre := hI.defeatZero A hA hz cid verb
  have h1 : NonWId ((s.defeat A cid verb).upd cid (fun c => { c with kf := some A.zero, vote := A.zero })) d :=
    nonWId_upd (nonWId_defeat A hn cid verb) cid _ (fun _ => rfl) (fun _ h => h)
  exact nonWId_of_skel h1 (distributeVotes_skel A o.warren _ hpre.wf hpre.noEq hA)

theorem nonWId_meekRemainingStep (hA : LawfulArith A) (hz : A.isZero A.zero = true) (o : MeekOpts) {s : St α} (hI : MInv A s)
    (c : Cand α) {d : Nat} (hn : NonWId s d) : NonWId (meekRemainingStep A o s c) d := by
  unfold meekRemainingStep
  split
  · have hpre := (hI.elect A c.cid "Elect remaining" false).toMPre
    exact nonWId_of_skel (nonWId_elect A hn c.cid _ _) (distributeVotes_skel A o.warren _ hpre.wf hpre.noEq hA)
  · exact nonWId_meekDefeatOne A hA hz o hI c.cid _ hn

namespace MeekComm
variable {A} {o : MeekOpts} {T : St α → St α} {G : Prop} (M : MeekComm A o T G) (hA : LawfulArith A)
  (hz : A.isZero A.zero = true)
include M

theorem countComplete (s : St α) : meekCountComplete (T s) = meekCountComplete s := by
  unfold meekCountComplete
  rw [M.step.hopeful, M.step.seatsLeft]

include hA hz

theorem defeatOne {s : St α} (hI : MInv A s) (cid : Nat) (verb : String) (hn : G → NonWId s cid) :
    meekDefeatOne A o (T s) cid verb = T (meekDefeatOne A o s cid verb) := by
  unfold meekDefeatOne
  rw [← M.step.defeat (fun _ => hI.wf) hn,
    ← M.step.keep (s.defeat A cid verb) cid (fun c => { c with kf := some A.zero, vote := A.zero }) (fun _ => rfl)]
  exact M.dist _ (hI.defeatZero A hA hz cid verb)

theorem foldDefeatOne (verb : String) (l : List (Cand α)) : ∀ {s : St α}, MInv A s → (∀ c ∈ l, G → NonWId s c.cid) →
    l.foldl (fun acc c => meekDefeatOne A o acc c.cid verb) (T s)
      = T (l.foldl (fun acc c => meekDefeatOne A o acc c.cid verb) s) := by
  induction l with
  | nil => intro s _ _; rfl
  | cons c cs ih =>
    intro s hI hn
    simp only [List.foldl_cons]
    rw [M.defeatOne hA hz hI c.cid verb (hn c (List.mem_cons_self ..))]
    exact ih (hI.meekDefeatOne A hA hz o c.cid verb)
      (fun c' hc' g => nonWId_meekDefeatOne A hA hz o hI c.cid verb (hn c' (List.mem_cons_of_mem _ hc') g))

theorem defeatBatch {s : St α} (hI : MInv A s) (cids : List Nat) (hc : ∀ i ∈ cids, ∃ w ∈ s.hopeful, w.cid = i) :
    meekDefeatBatch A o (T s) cids = T (meekDefeatBatch A o s cids) := by
  unfold meekDefeatBatch
  rw [M.batchList s cids hI hc]
  apply M.foldDefeatOne hA hz _ _ hI
  intro c hcl _
  obtain ⟨hcm, hcc⟩ := List.mem_filter.1 ((mem_pySorted _ _ _ _).1 hcl)
  obtain ⟨w, hw, hwc⟩ := hc c.cid (by simpa using hcc)
  rw [nodup_cid_eq hI.wf hcm (mem_hopeful.1 hw).1 hwc.symm]
  exact nonWId_of_hopeful hw

theorem defeatLow {s : St α} (hI : MInv A s) (b : Bool) :
    meekDefeatLow A o (T s) b = (T (meekDefeatLow A o s b).1, (meekDefeatLow A o s b).2) := by
  unfold meekDefeatLow
  rw [M.step.hopeful]
  cases hh : s.hopeful with
  | nil => rfl
  | cons hd hs =>
    simp only
    rw [M.surplus, M.step.breakTie]
    have hfr := (breakTie_frame A s ((hd :: hs).filter (fun c => A.ge (A.add (A.vMin hd.vote (hs.map (·.vote))) s.surplus) c.vote))
      "Break tie (defeat)").1
    have hmem := breakTie_mem A s ((hd :: hs).filter (fun c => A.ge (A.add (A.vMin hd.vote (hs.map (·.vote))) s.surplus) c.vote))
      "Break tie (defeat)"
    have hI3 := hI.breakTie A ((hd :: hs).filter (fun c => A.ge (A.add (A.vMin hd.vote (hs.map (·.vote))) s.surplus) c.vote))
      "Break tie (defeat)"
    cases hb : breakTie A s ((hd :: hs).filter (fun c => A.ge (A.add (A.vMin hd.vote (hs.map (·.vote))) s.surplus) c.vote))
        "Break tie (defeat)" with
    | mk s3 oc =>
      rw [hb] at hfr hmem hI3
      simp only at hfr hI3
      cases oc with
      | none => rfl
      | some lc =>
        simp only
        have hn : NonWId s3 lc.cid := by
          have : lc ∈ s.hopeful := by rw [hh]; exact (List.mem_filter.1 (hmem lc rfl)).1
          exact nonWId_of_cands (nonWId_of_hopeful this) hfr
        rw [M.defeatOne hA hz hI3 lc.cid _ (fun _ => hn)]

theorem body (omega : α) (fuel : Nat) {s : St α} (hI : MInv A s) :
    meekBody A o omega fuel (T s) = (T (meekBody A o omega fuel s).1, (meekBody A o omega fuel s).2) := by
  unfold meekBody
  rw [← M.step.newRound, M.step.nballots, M.iterate omega fuel _ _ (hI.newRound A)]
  have hIr := MInv.meekIterate A hA o omega fuel (A.ofInt (s.newRound A).nballots) _ (hI.newRound A)
  have hbatch := meekIterate_batch A o omega fuel (A.ofInt (s.newRound A).nballots) (s.newRound A)
  generalize meekIterate A o omega fuel (A.ofInt (s.newRound A).nballots) (s.newRound A) = r at hIr hbatch
  obtain ⟨t, st⟩ := r
  unfold meekAfterIterate
  cases st with
  | fuel => simp only; rw [M.step.setCrash]
  | crash => rfl
  | elected => simp only; rw [M.step.logAct]
  | omega =>
    simp only
    rw [← M.step.logAct]
    exact M.defeatLow hA hz (hIr.logAct A _ _ _) true
  | stable =>
    simp only
    rw [← M.step.logAct]
    exact M.defeatLow hA hz (hIr.logAct A _ _ _) false
  | batch cids =>
    simp only
    rw [← M.step.logAct, M.defeatBatch hA hz (hIr.logAct A _ _ _) cids]
    intro i hi
    obtain ⟨w, hw, hwc⟩ := hbatch cids rfl i hi
    refine ⟨w, ?_, hwc⟩
    unfold St.hopeful at hw ⊢
    rw [logAct_cands]; exact hw

theorem remainingStep {s : St α} (hI : MInv A s) (c : Cand α) (hn : G → NonWId s c.cid) :
    meekRemainingStep A o (T s) c = T (meekRemainingStep A o s c) := by
  unfold meekRemainingStep
  rw [M.step.elected, M.step.seats]
  split
  · rw [← M.step.elect (fun _ => hI.wf) hn]
    exact M.dist _ (hI.elect A c.cid "Elect remaining" false).toMPre
  · exact M.defeatOne hA hz hI c.cid _ hn

theorem epilogue {s : St α} (hI : MInv A s) : meekEpilogue A o (T s) = T (meekEpilogue A o s) := by
  have key : ∀ (l : List (Cand α)) {t : St α}, MInv A t → (∀ c ∈ l, G → NonWId t c.cid) →
      l.foldl (meekRemainingStep A o) (T t) = T (l.foldl (meekRemainingStep A o) t) := by
    intro l
    induction l with
    | nil => intro t _ _; rfl
    | cons c cs ih =>
      intro t ht hn
      simp only [List.foldl_cons]
      rw [M.remainingStep hA hz ht c (hn c (List.mem_cons_self ..))]
      exact ih (ht.meekRemainingStep A hA hz o c)
        (fun c' hc' g => nonWId_meekRemainingStep A hA hz o ht c (hn c' (List.mem_cons_of_mem _ hc') g))
  unfold meekEpilogue
  rw [M.step.crash]
  split
  · rfl
  · rw [M.step.hopeful, key s.hopeful hI (fun c hc _ => nonWId_of_hopeful hc), M.final]

theorem loop (omega : α) (iterFuel fuel : Nat) {s : St α} (hI : MInv A s) :
    loopN (fun s => !meekCountComplete s) (meekBody A o omega iterFuel) fuel (T s)
      = (loopN (fun s => !meekCountComplete s) (meekBody A o omega iterFuel) fuel s).map T :=
  loopN_comm T (MInv A) (fun _ hs _ _ => hs.meekBody A hA hz o omega iterFuel) M.step.crash
    (fun s => by rw [M.countComplete]) (fun _ hs => M.body hA hz omega iterFuel hs) fuel s hI

end MeekComm
end Droop
