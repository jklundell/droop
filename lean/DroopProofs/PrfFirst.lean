import DroopProofs.MeekFirst
import DroopProofs.PrfMon

/-! # meek-prf: the first distribution is the first-preference count; the log is append-only -/
namespace Droop

theorem foldl_prf_eq_fc (p : Nat) (bs : List (Ballot Int)) (s : St Int) (h : AllKeepOne p s bs) :
    bs.foldl (prfBallotStep (fixedArith p)) s = bs.foldl (fcStep (fixedArith p)) s := by
  rw [prfBallotStep_gen]
  refine foldl_gen_eq_fc p _ ?_ bs s h
  show ((fixedArith p).mul .up (pow10 p) (pow10 p), (fixedArith p).sub (pow10 p) ((fixedArith p).mul .up (pow10 p) (pow10 p))) = _
  rw [fixed_mul_up_exact]
  show (pow10 p, pow10 p - pow10 p) = _
  rw [sub_self]

/-- the state before the first distribution of a meek-prf count -/
def prfX (p : Nat) (s0 : St Int) : St Int :=
  { zeroActiveVotes (fixedArith p) ((prfStart (fixedArith p) s0).newRound (fixedArith p)) with residual := (fixedArith p).zero }

theorem prfS2_first (p : Nat) (s0 : St Int) :
    prfS2 (fixedArith p) ((prfStart (fixedArith p) s0).newRound (fixedArith p))
      = (prfX p s0).ballots.foldl (prfBallotStep (fixedArith p)) (prfX p s0) := rfl

theorem ksig_prfX (p : Nat) (s0 : St Int) :
    ksig (prfX p s0) = s0.cands.map (fun c => (c.cid, c.st, if c.st == CState.hopeful then some (fixedArith p).one else c.kf)) := by
  unfold prfX
  have h1 : ksig ({ zeroActiveVotes (fixedArith p) ((prfStart (fixedArith p) s0).newRound (fixedArith p)) with residual := (fixedArith p).zero } : St Int)
      = ksig ((prfStart (fixedArith p) s0).newRound (fixedArith p)) := by
    unfold zeroActiveVotes
    exact ksig_mapKeep _ _ (fun x => by split <;> exact ⟨rfl, rfl, rfl⟩)
  rw [h1]
  unfold St.newRound
  rw [ksig_logAct]
  show ksig (prfStart (fixedArith p) s0) = _
  rw [prfStart_eq, ksig_logAct, ksig_foldl_mfcStep]
  show ksig (prfS3 (fixedArith p) s0) = _
  unfold ksig prfS3
  simp only [List.map_map]
  apply List.map_congr_left
  intro c _
  simp only [Function.comp]
  show ((if (c.st == CState.hopeful) = true then ({ c with kf := some (fixedArith p).one } : Cand Int) else c).cid,
        (if (c.st == CState.hopeful) = true then ({ c with kf := some (fixedArith p).one } : Cand Int) else c).st,
        (if (c.st == CState.hopeful) = true then ({ c with kf := some (fixedArith p).one } : Cand Int) else c).kf) = _
  split <;> rfl

theorem kfOf_prfX (p : Nat) (s0 : St Int) (hwf : s0.WF) (x : Cand Int) (hx : x ∈ s0.cands) (hh : x.st = .hopeful) :
    kfOf (prfX p s0) x.cid = some (pow10 p) := by
  rw [kfOf_eq_ksig, ksig_prfX, List.find?_map]
  have hp : ((fun e : Nat × CState × Option Int => e.1 == x.cid) ∘
      fun c : Cand Int => (c.cid, c.st, if c.st == CState.hopeful then some (fixedArith p).one else c.kf)) = fun c : Cand Int => c.cid == x.cid := rfl
  rw [hp]
  have hf : s0.cands.find? (fun c => c.cid == x.cid) = some x := cand?_of_mem hwf hx
  rw [hf]
  simp [hh]
  rfl

theorem prfS3_skel (p : Nat) (s0 : St Int) : (prfS3 (fixedArith p) s0).skel = s0.skel := by
  unfold prfS3 St.skel
  simp only [List.map_map]
  apply List.map_congr_left
  intro c _
  simp only [Function.comp]
  split <;> rfl

theorem prfStart_skel (p : Nat) (s0 : St Int) : (prfStart (fixedArith p) s0).skel = s0.skel := by
  rw [prfStart_eq]
  unfold St.skel
  rw [logAct_cands]
  exact (foldl_mfcStep_skel p _ _).trans (prfS3_skel p s0)

theorem prfX_skel (p : Nat) (s0 : St Int) : (prfX p s0).skel = s0.skel := by
  refine (startDist_skel (fixedArith p) ((prfStart (fixedArith p) s0).newRound (fixedArith p))).trans ?_
  unfold St.newRound St.skel
  rw [logAct_cands]
  exact prfStart_skel p s0

theorem prfX_ballots (p : Nat) (s0 : St Int) : (prfX p s0).ballots = s0.ballots := by
  unfold prfX
  show ((prfStart (fixedArith p) s0).newRound (fixedArith p)).ballots = _
  unfold St.newRound
  rw [logAct_ballots]
  show (prfStart (fixedArith p) s0).ballots = _
  rw [prfStart_eq, logAct_ballots]
  rw [TallyBlind.ballots.foldl_mfcStep (fixedArith p)]
  rfl

/-- nobody holds anything when the first distribution starts -/
theorem prfX_votes_zero (p : Nat) (s0 : St Int) (hwf : s0.WF)
    (hfresh : ∀ c ∈ s0.cands, c.vote = 0 ∧ (c.st = .hopeful ∨ c.st = .withdrawn))
    (htops : ∀ b ∈ s0.ballots, ∃ c, b.top = some c ∧ ∃ x ∈ s0.cands, x.cid = c ∧ x.st = .hopeful) :
    ∀ c ∈ (prfX p s0).cands, c.vote = 0 := by
  have hA := fixed_lawful p
  have hY : (prfS3 (fixedArith p) s0).WF := WF_of_skel (prfS3_skel p s0).symm hwf
  have htops' : ∀ b ∈ (prfS3 (fixedArith p) s0).ballots, ∃ c, b.top = some c ∧ ∃ x ∈ (prfS3 (fixedArith p) s0).cands, x.cid = c ∧ x.st = .hopeful := by
    intro b hb
    obtain ⟨c, hc, x, hx, hxc, hxh⟩ := htops b hb
    obtain ⟨x', hx', hxs⟩ := mem_of_skel_eq (prfS3_skel p s0).symm hx
    exact ⟨c, hc, x', hx', (skel_cid hxs).trans hxc, by rw [(skel_st hxs).1]; exact hxh⟩
  have hfc := mfc_fold (fixedArith p) hA (prfS3 (fixedArith p) s0) hY (prfS3 (fixedArith p) s0).ballots htops' (prfS3 (fixedArith p) s0) []
    { skel := rfl, sum := by simp, wd := fun c hc _ => hc, frame := ⟨rfl, rfl, rfl, rfl, rfl, rfl⟩ }
  intro c' hc'
  unfold prfX zeroActiveVotes at hc'
  obtain ⟨c, hc, rfl⟩ := List.mem_map.1 hc'
  by_cases ha : (c.st == CState.hopeful || c.st == CState.elected) = true
  · rw [if_pos ha]; rfl
  · rw [if_neg ha]
    have hc1 : c ∈ (prfStart (fixedArith p) s0).cands := by
      unfold St.newRound at hc; rw [logAct_cands] at hc; exact hc
    rw [prfStart_eq, logAct_cands] at hc1
    obtain ⟨c0, hc0, hcs⟩ := mem_of_skel_eq ((foldl_mfcStep_skel p _ _).trans (prfS3_skel p s0)) hc1
    have hst : c.st = c0.st := (skel_st hcs).1.symm
    have hw : c.st = .withdrawn := by
      rcases (hfresh c0 hc0).2 with h | h
      · exfalso; rw [hst, h] at ha; simp at ha
      · rw [hst]; exact h
    have hmem := hfc.wd c (by simpa using hc1) hw
    unfold prfS3 at hmem
    obtain ⟨c00, hc00, hce⟩ := List.mem_map.1 hmem
    have hv : c.vote = c00.vote := by rw [← hce]; split <;> rfl
    rw [hv]; exact (hfresh c00 hc00).1

theorem prf_first_figures (p : Nat) (s0 : St Int) (h0 : MInit (fixedArith p) s0) (hf : FreshBallots p s0) :
    let s1 := (prfStart (fixedArith p) s0).newRound (fixedArith p)
    (∀ d, (prfS2 (fixedArith p) s1).voteOf d = (s0.ballots.map (fun b => if b.top = some d then bvote (fixedArith p) b else 0)).sum)
    ∧ (prfS2 (fixedArith p) s1).skel = s0.skel
    ∧ activeVotes (fixedArith p) (prfS2 (fixedArith p) s1) ≤ (s0.nballots : Int) * pow10 p
    ∧ (prfS2 (fixedArith p) s1).seats = s0.seats := by
  intro s1
  have hXsk := prfX_skel p s0
  obtain ⟨hkeep, f1, f2, f3⟩ := fresh_first_count p s0 (prfX p s0) h0 hf (prfX_ballots p s0) hXsk
    (prfX_votes_zero p s0 h0.wf (fun c hc => ⟨(h0.fresh c hc).1, (h0.fresh c hc).2.2⟩) h0.tops)
    (fun x hx hxh => kfOf_prfX p s0 h0.wf x hx hxh)
  have hS2 : prfS2 (fixedArith p) s1 = (prfX p s0).ballots.foldl (fcStep (fixedArith p)) (prfX p s0) := by
    rw [prfS2_first]; exact foldl_prf_eq_fc p _ _ hkeep
  rw [← hS2] at f1 f2 f3
  refine ⟨f1, f2, f3, ?_⟩
  rw [hS2, foldl_fcStep_seats]
  show ((prfStart (fixedArith p) s0).newRound (fixedArith p)).seats = _
  unfold St.newRound
  rw [(logAct_sc p _ _ _ _).1]
  show (prfStart (fixedArith p) s0).seats = _
  rw [prfStart_eq, (logAct_sc p _ _ _ _).1, (foldl_mfcStep_sc p _ _).1]
  rfl

theorem ext_prfS6 (s : St Int) (p : Nat) : Ext s (prfS6 (fixedArith p) s) := by
  unfold prfS6
  refine Ext.trans ?_ (Ext.of_acts_eq rfl)
  unfold prfS5
  refine Ext.trans ?_ (ext_foldl (fun acc (c : Cand Int) => acc.elect (fixedArith p) c.cid "Elect" false)
    (fun s x => ext_elect (fixedArith p) s _ _ _) _ _)
  unfold prfS4
  exact Ext.of_acts_eq (prfS2_am (fixedArith p) s).1

theorem ext_prfIterate (p : Nat) (omega : Int) :
    ∀ (fuel : Nat) (last : Int) (s : St Int), Ext s (prfIterate (fixedArith p) omega fuel last s).1 :=
  fun fuel last s => prfIterate_preserves (fixedArith p) omega (P := Ext s)
    (fun t h => h.trans (ext_prfS6 t p)) (fun t h => h.trans (ext_kfUpdate (fixedArith p) false t))
    (fun t _ h => h.trans (ext_logMsg _ _ _ _)) (fun t h => h.trans (ext_setCrash t _)) fuel last s (Ext.refl s)

theorem ext_prfBody (p : Nat) (omega : Int) (iterFuel : Nat) (s : St Int) : Ext s (prfBody (fixedArith p) omega iterFuel s).1 := by
  rw [prfBody_eq']
  exact prfAfter_preserves (fixedArith p) (P := Ext s) (fun t tied verb h => h.trans ((stepRel_ext (fixedArith p)).breakTie t tied verb))
    (fun t lc verb h _ => h.trans ((ext_defeat (fixedArith p) t _ verb).trans (Ext.of_acts_eq rfl))) _
    ((ext_newRound (fixedArith p) s).trans (ext_prfIterate p omega iterFuel _ _))

theorem ext_prfFinish (p : Nat) (s6 : St Int) : Ext s6 (prfFinish (fixedArith p) s6) := by
  rw [prfFinish_eq]
  split
  · exact Ext.refl s6
  · refine Ext.trans ?_ (Ext.of_acts_eq rfl)
    apply ext_foldl
    intro t c
    unfold prfFinishStep
    split
    · exact ext_elect (fixedArith p) t _ _ _
    · exact (ext_defeat (fixedArith p) t _ _).trans (Ext.of_acts_eq rfl)

end Droop
