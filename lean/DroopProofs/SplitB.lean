import DroopProofs.PermBMore

/-! # C10: splitting a ballot line `(m, r)` into `(m₁, r)` and `(m − m₁, r)` is a transformation the count commutes with

`splitBallots i m1` replaces the `i`-th ballot `b` by two copies carrying `min m1 b.mult` and the rest of its multiplier;
`splitViews i` duplicates the `i`-th entry of a logged ballot view.  Both copies move together (same ranking, position and
weight), and weight × multiplier is exact, so the two halves credit exactly what the whole credited: `XF_split`.  Read from
right to left the same equations say that *merging* two adjacent identical lines changes nothing. -/
namespace Droop
variable {α : Type} [CommRing α] [LinearOrder α] [IsStrictOrderedRing α] (A : Arith α)

def splitOne (m1 : Nat) (b : Ballot α) : List (Ballot α) :=
  [{ b with mult := min m1 b.mult }, { b with mult := b.mult - min m1 b.mult }]

def splitBallots (i m1 : Nat) (l : List (Ballot α)) : List (Ballot α) :=
  l.take i ++ (match l.drop i with
               | b :: r => splitOne m1 b ++ r
               | [] => [])

def splitViews (i : Nat) (l : List (Nat × α)) : List (Nat × α) :=
  l.take i ++ (match l.drop i with
               | a :: r => a :: a :: r
               | [] => [])

omit [LinearOrder α] [IsStrictOrderedRing α] in
theorem mul_split (w : α) (m1 m : Nat) :
    w * (((min m1 m : Nat) : Int) : α) + w * (((m - min m1 m : Nat) : Int) : α) = w * ((m : Int) : α) := by
  have h1 : ((min m1 m : Nat) : Int) + ((m - min m1 m : Nat) : Int) = (m : Int) := by omega
  rw [← mul_add, ← Int.cast_add, h1]

theorem moveBallot_setMult (s : St α) (cids : List Nat) (rew : α → α) (b : Ballot α) (m : Nat) :
    moveBallot s cids rew { b with mult := m } = { moveBallot s cids rew b with mult := m } := by
  unfold moveBallot
  have ht : ({ b with mult := m } : Ballot α).top = b.top := rfl
  rw [ht]
  cases b.top with
  | none => rfl
  | some c =>
    simp only
    split
    · unfold advanceTo
      simp only
      cases (b.rank.drop b.idx).findIdx? (fun cid => s.isHopeful cid) <;> rfl
    · rfl

theorem applyEff_add (hA : LawfulArith A) (st : St α) (d : Option Nat) (v1 v2 : α) :
    applyEff A (applyEff A st (some (d, v1))) (some (d, v2)) = applyEff A st (some (d, v1 + v2)) := by
  cases d with
  | none =>
    unfold applyEff
    simp only [hA.add_eq]
    congr 1; ring
  | some c =>
    unfold applyEff St.addVote St.upd
    simp only [List.map_map]
    congr 1
    apply List.map_congr_left
    intro x _
    simp only [Function.comp]
    by_cases h1 : (x.cid == c) = true
    · simp only [h1, if_true, hA.add_eq]; congr 1; ring
    · simp only [h1, Bool.false_eq_true, if_false]

theorem bvote_setMult (hA : LawfulArith A) (b : Ballot α) (m : Nat) :
    bvote A { b with mult := m } = b.w * ((m : Int) : α) := by
  rw [bvote_eq A hA]

/-- the effect of a ballot with its multiplier replaced: same destination, value = moved weight × the new multiplier -/
theorem effOf_setMult (hA : LawfulArith A) (h : Nat → Bool) (cids : List Nat) (rew : α → α) (b : Ballot α) (m : Nat) :
    effOf A h cids rew { b with mult := m } =
      match b.top with
      | none => none
      | some c =>
        if cids.contains c then
          some ((advanceTo h { b with w := rew b.w }).top, (advanceTo h { b with w := rew b.w }).w * ((m : Int) : α))
        else none := by
  unfold effOf
  have ht : ({ b with mult := m } : Ballot α).top = b.top := rfl
  rw [ht]
  cases b.top with
  | none => rfl
  | some c =>
    simp only
    split
    · have hadv : advanceTo h ({ ({ b with mult := m } : Ballot α) with w := rew b.w })
          = { advanceTo h { b with w := rew b.w } with mult := m } := by
        unfold advanceTo
        simp only
        cases (b.rank.drop b.idx).findIdx? h <;> rfl
      simp only at hadv
      rw [hadv, bvote_setMult A hA]
      rfl
    · rfl

theorem effOf_self (hA : LawfulArith A) (h : Nat → Bool) (cids : List Nat) (rew : α → α) (b : Ballot α) :
    effOf A h cids rew b =
      match b.top with
      | none => none
      | some c =>
        if cids.contains c then
          some ((advanceTo h { b with w := rew b.w }).top, (advanceTo h { b with w := rew b.w }).w * ((b.mult : Int) : α))
        else none := by
  have := effOf_setMult A hA h cids rew b b.mult
  simpa using this

theorem tstate_split (hA : LawfulArith A) (cids : List Nat) (rew : α → α) (st : St α) (b : Ballot α) (m1 : Nat) :
    (splitOne m1 b).foldl (tstate A cids rew) st = tstate A cids rew st b := by
  unfold splitOne
  simp only [List.foldl_cons, List.foldl_nil]
  rw [tstate_eq A cids rew st, tstate_eq, tstate_eq A cids rew st b, isHopeful_applyEff,
    effOf_setMult A hA, effOf_setMult A hA, effOf_self A hA]
  cases b.top with
  | none => rfl
  | some c =>
    simp only
    by_cases hc : cids.contains c = true
    · simp only [hc, if_true]
      rw [applyEff_add A hA]
      congr 2
      rw [mul_split]
    · simp only [hc, Bool.false_eq_true, if_false]; rfl

theorem fcStep_setMult (hA : LawfulArith A) (st : St α) (b : Ballot α) (m : Nat) :
    fcStep A st { b with mult := m } = applyEff A st (b.top.map (fun c => (some c, b.w * ((m : Int) : α)))) := by
  unfold fcStep applyEff
  have ht : ({ b with mult := m } : Ballot α).top = b.top := rfl
  rw [ht]
  cases b.top with
  | none => rfl
  | some c => simp only [Option.map_some]; rw [bvote_setMult A hA]

theorem fcStep_split (hA : LawfulArith A) (st : St α) (b : Ballot α) (m1 : Nat) :
    (splitOne m1 b).foldl (fcStep A) st = fcStep A st b := by
  unfold splitOne
  simp only [List.foldl_cons, List.foldl_nil]
  have hb : fcStep A st b = fcStep A st { b with mult := b.mult } := rfl
  rw [hb, fcStep_setMult A hA, fcStep_setMult A hA, fcStep_setMult A hA]
  cases b.top with
  | none => rfl
  | some c =>
    simp only [Option.map_some]
    rw [applyEff_add A hA]
    congr 2
    rw [mul_split]

theorem XF_split (hA : LawfulArith A) (i m1 : Nat) : XF A (splitBallots (α := α) i m1) (splitViews i) := by
  refine ⟨?_, ?_, ?_, ?_, ?_⟩
  · intro l
    unfold splitBallots splitViews splitOne
    rw [← List.map_take, ← List.map_drop, List.map_append]
    congr 1
    cases l.drop i with
    | nil => rfl
    | cons b r => rfl
  · intro s cids rew l
    unfold splitBallots splitOne
    rw [← List.map_take, ← List.map_drop, List.map_append]
    congr 1
    cases l.drop i with
    | nil => rfl
    | cons b r =>
      simp only [List.map_cons, List.cons_append, List.nil_append]
      simp only [moveBallot_setMult, moveBallot_mult]
  · intro cids rew st l
    unfold splitBallots
    conv_rhs => rw [← List.take_append_drop i l]
    rw [List.foldl_append, List.foldl_append]
    cases l.drop i with
    | nil => rfl
    | cons b r =>
      simp only [List.foldl_append, List.foldl_cons]
      rw [tstate_split A hA]
  · intro st l
    unfold splitBallots
    conv_rhs => rw [← List.take_append_drop i l]
    rw [List.foldl_append, List.foldl_append]
    cases l.drop i with
    | nil => rfl
    | cons b r =>
      simp only [List.foldl_append, List.foldl_cons]
      rw [fcStep_split A hA]
  · intro f hf l
    unfold splitBallots
    conv_rhs => rw [← List.take_append_drop i l]
    rw [List.filter_append, List.filter_append, List.map_append, List.map_append, arith_sum_eq A hA, arith_sum_eq A hA,
      List.sum_append, List.sum_append]
    congr 1
    cases l.drop i with
    | nil => rfl
    | cons b r =>
      unfold splitOne
      simp only [List.cons_append, List.nil_append, List.filter_cons, hf]
      by_cases hb : f b = true
      · simp only [hb, if_true, List.map_cons, List.sum_cons]
        rw [bvote_setMult A hA, bvote_setMult A hA, bvote_eq A hA]
        rw [← add_assoc, mul_split]
      · simp only [hb, Bool.false_eq_true, if_false]

end Droop
