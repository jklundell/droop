import DroopProofs.PermBPrf
import DroopProofs.QpqComm

/-! # C10 for QPQ: the order of the ballot lines does not matter

QPQ reads the ballot list in three ways: it maps a per-ballot function over it (restart, and the advance after an election or an
exclusion), it folds `qTally` over it (additions to the active total, the exhausted total and the candidates' tallies and
contributions — they commute), and it sums the multipliers of the non-exhausted ballots once at the start.  Everything else is
decided from the candidate list. -/
namespace Droop
variable {α : Type} [CommRing α] [LinearOrder α] [IsStrictOrderedRing α] (A : Arith α)

theorem qTally_comm (hA : LawfulArith A) (acc : QSt α) (b b' : Ballot α) :
    qTally A (qTally A acc b) b' = qTally A (qTally A acc b') b := by
  unfold qTally
  cases hb : b.top with
  | none =>
    cases hb' : b'.top with
    | none =>
      simp only
      congr 1
      simp only [hA.add_eq]; ring
    | some c' => rfl
  | some c =>
    cases hb' : b'.top with
    | none => rfl
    | some c' =>
      simp only
      congr 1
      · unfold St.upd
        simp only [List.map_map]
        congr 1
        apply List.map_congr_left
        intro x _
        simp only [Function.comp]
        by_cases h1 : (x.cid == c) = true <;> by_cases h2 : (x.cid == c') = true <;>
          simp only [h1, h2, if_true, Bool.false_eq_true, if_false, hA.add_eq]
        · congr 1 <;> ring
      · simp only [hA.add_eq]; ring

theorem foldl_qTally_perm (hA : LawfulArith A) {l l' : List (Ballot α)} (hp : l'.Perm l) (acc : QSt α) :
    l'.foldl (qTally A) acc = l.foldl (qTally A) acc :=
  hp.foldl_eq' (fun x _ y _ z => qTally_comm A hA z x y) acc

structure XQ (fb : List (Ballot α) → List (Ballot α)) (fw : List (Nat × α) → List (Nat × α)) : Prop extends XF A fb fw where
  mapB : ∀ (f : Ballot α → Ballot α), MultEq f → ∀ (l : List (Ballot α)), fb (l.map f) = (fb l).map f
  tally : ∀ (acc : QSt α) (l : List (Ballot α)), (fb l).foldl (qTally A) acc = l.foldl (qTally A) acc
  vaSum : ∀ l : List (Ballot α), A.sum (((fb l).filter (fun b => !b.exhaustedB)).map (fun b => A.ofInt b.mult))
    = A.sum ((l.filter (fun b => !b.exhaustedB)).map (fun b => A.ofInt b.mult))

variable {fb : List (Ballot α) → List (Ballot α)} {fw : List (Nat × α) → List (Nat × α)}

theorem qComm_xB (hA : LawfulArith A) (hx : XQ A fb fw) : QComm A (xB fb fw) False where
  step := stepComm_xB A hA hx.toXF
  isHopeful := fun _ => rfl
  mapCands := fun _ _ _ => rfl
  mapB := fun s g hg => by unfold mapBallots xB; simp only [hx.mapB g hg]
  setQuota := fun _ _ => rfl
  tallyB := fun s acc => hx.tally acc s.ballots
  vaSum := fun s => hx.vaSum s.ballots

/-- **C10 for QPQ, run level**: no hypothesis on the state -/
theorem qpq_xB (hA : LawfulArith A) (hx : XQ A fb fw) (s0 : St α) : qpqCount A (xB fb fw s0) = (qpqCount A s0).map (xB fb fw) := by
  have C := qComm_xB A hA hx
  rw [qpqCount_eq, qpqCount_eq]
  have hlen : (xB fb fw s0).cands.length = s0.cands.length := rfl
  rw [hlen, ← C.start, C.loop _ _ (fun g => g.elim)]
  cases qpqLoop A (s0.cands.length * (s0.cands.length + 2) + 3) (qpqStart A s0) with
  | none => rfl
  | some q => simp only [Option.map_some]; rw [C.finish q (fun g => g.elim)]

theorem XQ_of_natPerm (hA : LawfulArith A) {π : ∀ {β : Type}, List β → List β} (hπ : NatPerm π) :
    XQ A (π (β := Ballot α)) (π (β := Nat × α)) :=
  { toXF := XF_of_natPerm A hA hπ
    mapB := fun f _ l => hπ.nat f l
    tally := fun acc l => foldl_qTally_perm A hA (hπ.perm l) acc
    vaSum := fun l => by
      rw [arith_sum_eq A hA, arith_sum_eq A hA]
      exact (((hπ.perm l).filter _).map _).sum_eq }

end Droop
