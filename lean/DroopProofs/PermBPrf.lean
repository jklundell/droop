import DroopProofs.PermBMeek
import DroopProofs.PermBWigm
import DroopProofs.PrfStages

/-! # C10 for meek-prf: the order of the ballot lines does not matter

The ballot step of the reference rule is an instance of `genBallotStep`, for which `PermBMeek.lean` shows that two ballots' steps
commute and that the step does not care how the list is stored.  The reference rule never reads equal rankings, so there is no side
condition on the state. -/
namespace Droop
variable {α : Type} [CommRing α] [LinearOrder α] [IsStrictOrderedRing α] (A : Arith α)

theorem prfBallotStep_blind {g : St α → St α} (hg : Blind A g) (s : St α) (b : Ballot α) :
    prfBallotStep A (g s) b = g (prfBallotStep A s b) := by
  rw [prfBallotStep_gen]
  exact genBallotStep_blind A hg _ s b

theorem prfBallotStep_comm (hA : LawfulArith A) (s : St α) (b b' : Ballot α) :
    prfBallotStep A (prfBallotStep A s b) b' = prfBallotStep A (prfBallotStep A s b') b := by
  rw [prfBallotStep_gen]
  exact genBallotStep_blind A (blind_genBallotStep A hA _ b) _ s b'

theorem foldl_prfBallotStep_perm (hA : LawfulArith A) {l l' : List (Ballot α)} (hp : l'.Perm l) (st : St α) :
    l'.foldl (prfBallotStep A) st = l.foldl (prfBallotStep A) st := by
  rw [prfBallotStep_gen]
  exact foldl_genBallotStep_perm A hA _ hp st

/-- what a transformation of the ballot list must satisfy for a meek-prf count to commute with it -/
structure XPrf (fb : List (Ballot α) → List (Ballot α)) (fw : List (Nat × α) → List (Nat × α)) : Prop extends XF A fb fw where
  prf : ∀ (st : St α) (l : List (Ballot α)), (fb l).foldl (prfBallotStep A) st = l.foldl (prfBallotStep A) st
  pfirst : ∀ (st : St α) (l : List (Ballot α)), (fb l).foldl (mfcStep A) st = l.foldl (mfcStep A) st
  nil : fw [] = []

variable {fb : List (Ballot α) → List (Ballot α)} {fw : List (Nat × α) → List (Nat × α)}

theorem xB_prfS2 (hx : XPrf A fb fw) (s : St α) : prfS2 A (xB fb fw s) = xB fb fw (prfS2 A s) := by
  unfold prfS2
  show (fb s.ballots).foldl (prfBallotStep A) (xB fb fw { zeroActiveVotes A s with residual := A.zero }) = _
  rw [hx.prf]
  exact (foldl_map_comm (xB fb fw) (fun _ => True) _ (prfBallotStep A) (fun _ _ _ _ => trivial)
    (fun t _ b _ => (prfBallotStep_blind A (blind_xB A) t b).symm) _ trivial).symm

theorem xB_prfS4 (hx : XPrf A fb fw) (s : St α) : prfS4 A (xB fb fw s) = xB fb fw (prfS4 A s) := by
  unfold prfS4
  rw [xB_prfS2 A hx]
  rfl

theorem xB_prfS5 (hx : XPrf A fb fw) (s : St α) : prfS5 A (xB fb fw s) = xB fb fw (prfS5 A s) := by
  unfold prfS5 prfWinners
  rw [xB_prfS4 A hx, xB_foldElect A hx.toXF]
  rfl

theorem prfWinners_xB (hx : XPrf A fb fw) (s : St α) : prfWinners A (xB fb fw s) = prfWinners A s := by
  unfold prfWinners
  rw [xB_prfS4 A hx]
  rfl

theorem xB_prfS6 (hx : XPrf A fb fw) (s : St α) : prfS6 A (xB fb fw s) = xB fb fw (prfS6 A s) := by
  unfold prfS6
  rw [xB_prfS5 A hx]
  rfl

theorem xB_prfIterate (hx : XPrf A fb fw) (omega : α) (fuel : Nat) (last : α) (s : St α) :
    prfIterate A omega fuel last (xB fb fw s)
      = (xB fb fw (prfIterate A omega fuel last s).1, (prfIterate A omega fuel last s).2) :=
  prfIterate_comm A (iterBlind_xB A hx.nil) omega (I := fun _ => True) (fun _ _ => trivial)
    (fun s _ => prfWinners_xB A hx s) (fun s _ => xB_prfS6 A hx s) fuel last s trivial

theorem xB_prfBody (hx : XPrf A fb fw) (omega : α) (iterFuel : Nat) (s : St α) :
    prfBody A omega iterFuel (xB fb fw s) = (xB fb fw (prfBody A omega iterFuel s).1, (prfBody A omega iterFuel s).2) := by
  rw [prfBody_eq', prfBody_eq', ← xB_newRound A hx.toXF]
  have hnb : (xB fb fw (s.newRound A)).nballots = (s.newRound A).nballots := rfl
  rw [hnb, xB_prfIterate A hx]
  exact prfAfter_comm A (T := xB fb fw) (G := False) (fun _ => rfl) (fun s => hopeful_xB fb fw s) (fun _ => rfl) (xB_breakTie A hx.toXF)
    (fun s cid verb _ _ => xB_defeat A hx.toXF s cid verb) (fun s cid f _ => xB_upd s cid f) _ (fun g => g.elim)

theorem xB_prfStart (hx : XPrf A fb fw) (s0 : St α) : prfStart A (xB fb fw s0) = xB fb fw (prfStart A s0) := by
  rw [prfStart_eq, prfStart_eq, xB_logAct A hx.toXF]
  congr 1
  have h3 : prfS3 A (xB fb fw s0) = xB fb fw (prfS3 A s0) := rfl
  rw [h3, ballots_xB, hx.pfirst]
  exact (xB_foldl_mfcStep A _ _).symm

theorem xB_prfFinish (hx : XPrf A fb fw) (s6 : St α) : prfFinish A (xB fb fw s6) = xB fb fw (prfFinish A s6) := by
  unfold prfFinish
  by_cases hc : s6.crash.isSome = true
  · rw [if_pos (show (xB fb fw s6).crash.isSome = true from hc), if_pos hc]
  · rw [if_neg (show ¬ (xB fb fw s6).crash.isSome = true from hc), if_neg hc]
    simp only [hopeful_xB]
    rw [← foldl_map_comm (xB fb fw) (fun _ => True) s6.hopeful _ (fun _ _ _ _ => trivial) ?_ s6 trivial]
    · rfl
    · intro t _ c _
      by_cases hlt : t.elected.length < t.seats
      · rw [if_pos (show (xB fb fw t).elected.length < (xB fb fw t).seats from hlt), if_pos hlt, xB_elect A hx.toXF]
      · rw [if_neg (show ¬ (xB fb fw t).elected.length < (xB fb fw t).seats from hlt), if_neg hlt, xB_upd, xB_defeat A hx.toXF]

/-- C10 for meek-prf, run level: the count of the rearranged profile is the count of the original, rearranged -/
theorem prf_xB (hx : XPrf A fb fw) (iterFuel : Nat) (s0 : St α) :
    prfCount A iterFuel (xB fb fw s0) = (prfCount A iterFuel s0).map (xB fb fw) := by
  rw [prfCount_eq, prfCount_eq]
  have hlen : (xB fb fw s0).cands.length = s0.cands.length := rfl
  rw [hlen, xB_prfStart A hx, loopN_xB stdGuard (prfBody A _ iterFuel) stdGuard_xB (xB_prfBody A hx _ iterFuel)]
  cases loopN stdGuard (prfBody A (A.divV (A.ofInt 1) (A.ofInt (10 ^ 6))) iterFuel) (2 * s0.cands.length + 3) (prfStart A s0) with
  | none => rfl
  | some s6 => simp only [Option.map_some]; rw [xB_prfFinish A hx]

theorem XPrf_of_natPerm (hA : LawfulArith A) {π : ∀ {β : Type}, List β → List β} (hπ : NatPerm π) :
    XPrf A (π (β := Ballot α)) (π (β := Nat × α)) :=
  { toXF := XF_of_natPerm A hA hπ
    prf := fun st l => foldl_prfBallotStep_perm A hA (hπ.perm l) st
    pfirst := fun st l => foldl_mfcStep_perm A hA (hπ.perm l) st
    nil := List.Perm.eq_nil (hπ.perm []) }

end Droop
