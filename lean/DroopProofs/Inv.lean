import DroopProofs.Conserve
import DroopProofs.SortPerm
import DroopProofs.StepRel
import Mathlib.Tactic.Linarith
import Mathlib.Data.List.Nodup

/-! # The Gregory invariant bundle `Inv` and the steps that move no ballot

`Inv` says of a state what C02 and C06 say of the record: nothing negative, every tally in scope is the value of the ballots
standing to its credit, Σ votes + exhausted is within the ballots cast, and every snapshot logged so far was fine.  Here it is
shown for log lines, status changes and tie-breaks; ballot transfers follow in `InvTransfer`. -/
namespace Droop
variable {α : Type} [CommRing α] [LinearOrder α] [IsStrictOrderedRing α] (A : Arith α)

def Cand.inScope (c : Cand α) : Prop := c.st = .hopeful ∨ (c.st = .elected ∧ c.pending = true)

/-- what the record shows in one snapshot: tallies of non-withdrawn candidates plus the non-transferable total
    never exceed the number of ballots, and nothing is negative (C02, upper half) -/
def SnapOK (nb : Nat) (sn : Snap α) : Prop :=
  ((sn.cs.filter (fun e => e.2.1 != "W")).map (fun e => e.2.2.1)).sum + sn.x1 ≤ ((nb : Int) : α) * A.one
  ∧ (∀ e ∈ sn.cs, 0 ≤ e.2.2.1) ∧ 0 ≤ sn.x1

/-- every snapshot logged so far is fine -/
def RecOK (s : St α) : Prop := ∀ a ∈ s.acts, ∀ sn, a.snap = some sn → SnapOK A s.nballots sn

structure Inv (s : St α) : Prop where
  meth : s.method = .wigm
  recOK : RecOK A s
  wf   : s.WF
  bwf  : BallotsWF s
  wpos : ∀ b ∈ s.ballots, 0 ≤ b.w
  vpos : ∀ c ∈ s.cands, 0 ≤ c.vote
  epos : 0 ≤ s.exhausted
  qpos : 0 < s.quota
  i1   : ∀ c ∈ s.cands, c.inScope → c.vote = s.tally A c.cid
  pq   : ∀ c ∈ s.cands, c.st = .elected → c.pending = true → s.quota ≤ c.vote
  cons : s.total ≤ ((s.nballots : Int) : α) * A.one

/-- the fields the invariant reads: a state that agrees with `s` on them, and whose log shows only fine snapshots,
    satisfies the bundle -/
theorem Inv.of_fields {s t : St α} (h : Inv A s) (hc : t.cands = s.cands) (hb : t.ballots = s.ballots)
    (he : t.exhausted = s.exhausted) (hq : t.quota = s.quota) (hn : t.nballots = s.nballots)
    (hm : t.method = s.method) (hr : RecOK A t) : Inv A t := by
  have htally : ∀ d, t.tally A d = s.tally A d := by intro d; unfold St.tally; rw [hb]
  have hcand : ∀ cid, t.cand? cid = s.cand? cid := by intro cid; unfold St.cand?; rw [hc]
  exact
    { meth := by rw [hm]; exact h.meth
      recOK := hr
      wf := by unfold St.WF; rw [hc]; exact h.wf
      bwf := by
        intro b hb' cid hcid
        rw [hcand]; exact h.bwf b (hb ▸ hb') cid hcid
      wpos := by intro b hb'; exact h.wpos b (hb ▸ hb')
      vpos := by intro c hc'; exact h.vpos c (hc ▸ hc')
      epos := by rw [he]; exact h.epos
      qpos := by rw [hq]; exact h.qpos
      i1 := by intro c hc' hs; rw [htally]; exact h.i1 c (hc ▸ hc') hs
      pq := by intro c hc' h1 h2; rw [hq]; exact h.pq c (hc ▸ hc') h1 h2
      cons := by
        have : t.total = s.total := by unfold St.total St.sumVotes; rw [hc, he]
        rw [this, hn]; exact h.cons }

theorem Inv.of_same {s t : St α} (h : Inv A s) (hc : t.cands = s.cands) (hb : t.ballots = s.ballots)
    (he : t.exhausted = s.exhausted) (hq : t.quota = s.quota) (hn : t.nballots = s.nballots)
    (hm : t.method = s.method) (ha : t.acts = s.acts) : Inv A t :=
  h.of_fields A hc hb he hq hn hm (by unfold RecOK; rw [ha, hn]; exact h.recOK)

theorem sum_filter_le {β : Type} (l : List β) (p : β → Bool) (f : β → α) (hf : ∀ x ∈ l, 0 ≤ f x) :
    ((l.filter p).map f).sum ≤ (l.map f).sum := by
  induction l with
  | nil => simp
  | cons x xs ih =>
    have ih' := ih (fun y hy => hf y (by simp [hy]))
    have hx := hf x (by simp)
    simp only [List.filter_cons, List.map_cons, List.sum_cons]
    split
    · simp only [List.map_cons, List.sum_cons]; linarith
    · linarith

theorem Inv.snapOK {s : St α} (h : Inv A s) : SnapOK A s.nballots (s.mkSnap A) := by
  unfold SnapOK St.mkSnap
  have hx1 : (if s.method == .meek then s.residual else s.exhausted) = s.exhausted := by
    rw [h.meth]; rfl
  simp only [hx1]
  refine ⟨?_, ?_, h.epos⟩
  · have hc := h.cons
    unfold St.total St.sumVotes at hc
    have hle : (((s.cands.map (fun c => (c.cid, c.code s.method, c.vote, c.kf, c.quotient))).filter
          (fun e => e.2.1 != "W")).map (fun e => e.2.2.1)).sum
        ≤ ((s.cands.map (fun c => (c.cid, c.code s.method, c.vote, c.kf, c.quotient))).map (fun e => e.2.2.1)).sum := by
      apply sum_filter_le
      intro e he
      obtain ⟨c, hc', rfl⟩ := List.mem_map.1 he
      exact h.vpos c hc'
    have heq : ((s.cands.map (fun c => (c.cid, c.code s.method, c.vote, c.kf, c.quotient))).map (fun e => e.2.2.1))
        = s.cands.map (·.vote) := by simp [List.map_map, Function.comp]
    rw [heq] at hle
    linarith
  · intro e he
    obtain ⟨c, hc', rfl⟩ := List.mem_map.1 he
    exact h.vpos c hc'

theorem Inv.logAct {s : St α} (h : Inv A s) (tag verb : String) (subj : List Nat) :
    Inv A (s.logAct A tag verb subj) := by
  have hfr : (s.logAct A tag verb subj).cands = s.cands ∧ (s.logAct A tag verb subj).ballots = s.ballots
      ∧ (s.logAct A tag verb subj).exhausted = s.exhausted ∧ (s.logAct A tag verb subj).quota = s.quota
      ∧ (s.logAct A tag verb subj).nballots = s.nballots ∧ (s.logAct A tag verb subj).method = s.method := by
    unfold St.logAct; simp only; split <;> exact ⟨rfl, rfl, rfl, rfl, rfl, rfl⟩
  obtain ⟨e1, e2, e3, e4, e5, e6⟩ := hfr
  -- only the log has changed: the new line carries a snapshot of `s` itself (for a round line: of `s` with one more
  -- entry in `rounds`, which the snapshot does not read)
  have hsnap := h.snapOK A
  refine h.of_fields A e1 e2 e3 e4 e5 e6 ?_
  intro a ha sn hsn
  rw [e5]
  unfold St.logAct at ha
  simp only at ha
  split at ha
  · rcases List.mem_cons.mp ha with rfl | ha'
    · simp only at hsn
      have : sn = St.mkSnap A { s with rounds := s.rounds ++ [s.cands] } := (Option.some.inj hsn).symm
      rw [this]; exact hsnap
    · exact h.recOK a ha' sn hsn
  · rcases List.mem_cons.mp ha with rfl | ha'
    · simp only at hsn
      have : sn = St.mkSnap A s := (Option.some.inj hsn).symm
      rw [this]; exact hsnap
    · exact h.recOK a ha' sn hsn

theorem Inv.newRound {s : St α} (h : Inv A s) : Inv A (s.newRound A) := by
  unfold St.newRound
  exact (h.of_same A (t := { s with round := s.round + 1 }) rfl rfl rfl rfl rfl rfl rfl).logAct A _ _ _

theorem Inv.setCrash {s : St α} (h : Inv A s) (k : String) : Inv A (s.setCrash k) := by
  unfold St.setCrash; split
  · exact h
  · exact h.of_same A rfl rfl rfl rfl rfl rfl rfl


/-- an update that changes only `st`/`pending` -/
def statusOnly (f : Cand α → Cand α) : Prop :=
  ∀ c, (f c).cid = c.cid ∧ (f c).vote = c.vote

theorem mem_upd {s : St α} {cid : Nat} {f : Cand α → Cand α} {c' : Cand α} :
    c' ∈ (s.upd cid f).cands ↔ ∃ c ∈ s.cands, c' = if c.cid == cid then f c else c := by
  unfold St.upd; simp only [List.mem_map]
  constructor
  · rintro ⟨c, hc, rfl⟩; exact ⟨c, hc, rfl⟩
  · rintro ⟨c, hc, rfl⟩; exact ⟨c, hc, rfl⟩

/-- a candidate of the updated state is the image of the one with id `cid`, or one of the others, untouched -/
theorem mem_upd_cases {s : St α} {cid : Nat} {f : Cand α → Cand α} {c' : Cand α} :
    c' ∈ (s.upd cid f).cands ↔ ∃ c ∈ s.cands, (c.cid = cid ∧ c' = f c) ∨ (c.cid ≠ cid ∧ c' = c) := by
  rw [mem_upd]
  constructor
  · rintro ⟨c, hc, rfl⟩
    by_cases h : c.cid = cid
    · exact ⟨c, hc, Or.inl ⟨h, by simp [h]⟩⟩
    · exact ⟨c, hc, Or.inr ⟨h, by simp [h]⟩⟩
  · rintro ⟨c, hc, ⟨h, e⟩ | ⟨h, e⟩⟩
    · exact ⟨c, hc, by simp [h, e]⟩
    · exact ⟨c, hc, by simp [h, e]⟩

theorem mem_upd_of_ne {s : St α} {cid : Nat} {f : Cand α → Cand α} {c : Cand α} (hc : c ∈ s.cands) (hne : c.cid ≠ cid) :
    c ∈ (s.upd cid f).cands := by
  apply mem_upd.2
  exact ⟨c, hc, by simp [hne]⟩

theorem mem_upd_of_eq {s : St α} {cid : Nat} {f : Cand α → Cand α} {c : Cand α} (hc : c ∈ s.cands) (he : c.cid = cid) :
    f c ∈ (s.upd cid f).cands := by
  apply mem_upd.2
  exact ⟨c, hc, by simp [he]⟩

theorem upd_status_cids (s : St α) (cid : Nat) (f : Cand α → Cand α) (hf : statusOnly f) :
    (s.upd cid f).cands.map (·.cid) = s.cands.map (·.cid) := by
  unfold St.upd; simp only [List.map_map]
  apply List.map_congr_left; intro c _
  simp only [Function.comp]; split
  · exact (hf c).1
  · rfl

theorem upd_status_votes (s : St α) (cid : Nat) (f : Cand α → Cand α) (hf : statusOnly f) :
    (s.upd cid f).cands.map (·.vote) = s.cands.map (·.vote) := by
  unfold St.upd; simp only [List.map_map]
  apply List.map_congr_left; intro c _
  simp only [Function.comp]; split
  · exact (hf c).2
  · rfl

theorem cand?_isSome_upd (s : St α) (cid d : Nat) (f : Cand α → Cand α) (hf : statusOnly f) :
    ((s.upd cid f).cand? d).isSome = (s.cand? d).isSome := by
  rw [cand?_upd s cid d f (fun c => (hf c).1)]; simp

/-- a status-only update preserves the invariant provided the scope/pending obligations of the changed
    candidate are met -/
theorem Inv.upd_status {s : St α} (h : Inv A s) (cid : Nat) (f : Cand α → Cand α) (hf : statusOnly f)
    (hscope : ∀ c ∈ s.cands, c.cid = cid → (f c).inScope → c.inScope)
    (hpq : ∀ c ∈ s.cands, c.cid = cid → (f c).st = .elected → (f c).pending = true → s.quota ≤ c.vote) :
    Inv A (s.upd cid f) := by
  have hb : (s.upd cid f).ballots = s.ballots := rfl
  have htally : ∀ d, (s.upd cid f).tally A d = s.tally A d := fun d => rfl
  exact
    { meth := h.meth
      recOK := h.recOK
      wf := by unfold St.WF; rw [upd_status_cids s cid f hf]; exact h.wf
      bwf := by
        intro b hb' c hc
        rw [cand?_isSome_upd s cid c f hf]; exact h.bwf b hb' c hc
      wpos := h.wpos
      vpos := by
        intro c' hc'
        obtain ⟨c, hc, rfl⟩ := mem_upd.1 hc'
        split
        · rw [(hf c).2]; exact h.vpos c hc
        · exact h.vpos c hc
      epos := h.epos
      qpos := h.qpos
      i1 := by
        intro c' hc' hs
        obtain ⟨c, hc, rfl⟩ := mem_upd.1 hc'
        rw [htally]
        by_cases hcid : (c.cid == cid) = true
        · simp only [hcid, if_true] at hs ⊢
          rw [(hf c).2, (hf c).1]
          exact h.i1 c hc (hscope c hc (by simpa using hcid) hs)
        · simp only [hcid] at hs ⊢
          exact h.i1 c hc hs
      pq := by
        intro c' hc' h1 h2
        obtain ⟨c, hc, rfl⟩ := mem_upd.1 hc'
        by_cases hcid : (c.cid == cid) = true
        · simp only [hcid, if_true] at h1 h2 ⊢
          rw [(hf c).2]
          exact hpq c hc (by simpa using hcid) h1 h2
        · simp only [hcid] at h1 h2 ⊢
          exact h.pq c hc h1 h2
      cons := by
        have : (s.upd cid f).total = s.total := by
          unfold St.total St.sumVotes; rw [upd_status_votes s cid f hf]; rfl
        rw [this]; exact h.cons }

theorem Inv.elect {s : St α} (h : Inv A s) (cid : Nat) (verb : String) (p : Bool)
    (hhop : ∀ c ∈ s.cands, c.cid = cid → c.st = .hopeful)
    (hq : ∀ c ∈ s.cands, c.cid = cid → p = true → s.quota ≤ c.vote) :
    Inv A (s.elect A cid verb p) := by
  unfold St.elect
  apply Inv.logAct
  refine Inv.upd_status A h cid _ ?_ ?_ ?_
  · intro c; exact ⟨rfl, rfl⟩
  · intro c hc hcid _; exact Or.inl (hhop c hc hcid)
  · intro c hc hcid _ hp; exact hq c hc hcid hp

theorem Inv.defeat {s : St α} (h : Inv A s) (cid : Nat) (verb : String) : Inv A (s.defeat A cid verb) := by
  unfold St.defeat
  apply Inv.logAct
  refine Inv.upd_status A h cid _ ?_ ?_ ?_
  · intro c; exact ⟨rfl, rfl⟩
  · intro c _ _ hs
    rcases hs with hs | ⟨hs, _⟩ <;> simp at hs
  · intro c _ _ h1 _; simp at h1

theorem Inv.unpendLog {s : St α} (h : Inv A s) (cid : Nat) (verb : String) : Inv A (s.unpendLog A cid verb) := by
  unfold St.unpendLog
  apply Inv.logAct
  refine Inv.upd_status A h cid _ ?_ ?_ ?_
  · intro c; exact ⟨rfl, rfl⟩
  · intro c _ _ hs
    rcases hs with hs | ⟨hs, hp⟩
    · exact Or.inl hs
    · simp at hp
  · intro c _ _ _ hp; simp at hp

theorem Inv.unpendSilent {s : St α} (h : Inv A s) (cid : Nat) : Inv A (s.unpendSilent cid) := by
  unfold St.unpendSilent
  refine Inv.upd_status A h cid _ ?_ ?_ ?_
  · intro c; exact ⟨rfl, rfl⟩
  · intro c _ _ hs
    rcases hs with hs | ⟨hs, hp⟩
    · exact Or.inl hs
    · simp at hp
  · intro c _ _ _ hp; simp at hp

@[simp] theorem logAct_cands (s : St α) (tag verb : String) (subj : List Nat) : (s.logAct A tag verb subj).cands = s.cands := by
  unfold St.logAct; simp only; split <;> rfl
@[simp] theorem logAct_quota (s : St α) (tag verb : String) (subj : List Nat) : (s.logAct A tag verb subj).quota = s.quota := by
  unfold St.logAct; simp only; split <;> rfl
@[simp] theorem logAct_ballots (s : St α) (tag verb : String) (subj : List Nat) : (s.logAct A tag verb subj).ballots = s.ballots := by
  unfold St.logAct; simp only; split <;> rfl
@[simp] theorem logAct_seats (s : St α) (tag verb : String) (subj : List Nat) : (s.logAct A tag verb subj).seats = s.seats := by
  unfold St.logAct; simp only; split <;> rfl

theorem hopeful_cids_nodup {s : St α} (hwf : s.WF) : (s.hopeful.map (·.cid)).Nodup := by
  unfold St.hopeful
  exact List.Nodup.sublist (List.Sublist.map _ List.filter_sublist) hwf

theorem mem_hopeful {s : St α} {c : Cand α} : c ∈ s.hopeful ↔ c ∈ s.cands ∧ c.st = .hopeful := by
  unfold St.hopeful; simp

theorem hasQuotaX_sound (hA : LawfulArith A) (s : St α) (c : Cand α) (h : hasQuotaX A s c = true) : s.quota ≤ c.vote := by
  unfold hasQuotaX at h
  split at h
  · exact le_of_lt (hA.gt_sound _ _ h)
  · rename_i hex
    exact hA.ge_sound _ _ (by simpa using hex) h

theorem hasQuotaGE_sound (hA : LawfulArith A) (hex : A.exact = false) (s : St α) (c : Cand α)
    (h : hasQuotaGE A s c = true) : s.quota ≤ c.vote := hA.ge_sound _ _ hex h

theorem setCrash_frame (s : St α) (k : String) :
    (s.setCrash k).cands = s.cands ∧ (s.setCrash k).ballots = s.ballots ∧ (s.setCrash k).exhausted = s.exhausted
    ∧ (s.setCrash k).quota = s.quota ∧ (s.setCrash k).nballots = s.nballots := by
  unfold St.setCrash; split <;> exact ⟨rfl, rfl, rfl, rfl, rfl⟩

theorem logAct_frame (s : St α) (tag verb : String) (subj : List Nat) :
    (s.logAct A tag verb subj).cands = s.cands ∧ (s.logAct A tag verb subj).ballots = s.ballots
    ∧ (s.logAct A tag verb subj).exhausted = s.exhausted ∧ (s.logAct A tag verb subj).quota = s.quota
    ∧ (s.logAct A tag verb subj).nballots = s.nballots := by
  unfold St.logAct; simp only; split <;> exact ⟨rfl, rfl, rfl, rfl, rfl⟩

theorem breakTie_frame (s : St α) (tied : List (Cand α)) (verb : String) :
    (breakTie A s tied verb).1.cands = s.cands ∧ (breakTie A s tied verb).1.ballots = s.ballots
    ∧ (breakTie A s tied verb).1.exhausted = s.exhausted ∧ (breakTie A s tied verb).1.quota = s.quota
    ∧ (breakTie A s tied verb).1.nballots = s.nballots := by
  unfold breakTie
  split
  · exact setCrash_frame s _
  · exact ⟨rfl, rfl, rfl, rfl, rfl⟩
  · exact logAct_frame A s _ _ _

theorem Inv.breakTie {s : St α} (h : Inv A s) (tied : List (Cand α)) (verb : String) :
    Inv A (Droop.breakTie A s tied verb).1 := by
  unfold Droop.breakTie
  split
  · exact h.setCrash A _
  · exact h
  · exact h.logAct A _ _ _

theorem breakTie_mem (s : St α) (tied : List (Cand α)) (verb : String) (c : Cand α)
    (h : (breakTie A s tied verb).2 = some c) : c ∈ tied := by
  unfold breakTie at h
  split at h
  · cases h
  · cases h; simp
  · have : c ∈ byTieOrder tied := List.mem_of_head? h
    exact (mem_pySorted _ _ _ _).1 this

theorem transferSurplus_congr (s : St α) (c x : Cand α) (rew : α → α → α → α) (verb : String)
    (hc : x.cid = c.cid) (hv : x.vote = c.vote) :
    transferSurplus A s c rew verb = transferSurplus A s x rew verb := by
  unfold transferSurplus; rw [hc, hv]

theorem mem_pendingL {s : St α} {c : Cand α} : c ∈ s.pendingL ↔ c ∈ s.cands ∧ c.st = .elected ∧ c.pending = true := by
  unfold St.pendingL; simp

theorem maxVoteOf_isSome (l : List (Cand α)) (h : l ≠ []) : ∃ v, maxVoteOf A l = some v := by
  cases l with
  | nil => exact absurd rfl h
  | cons c cs => exact ⟨_, rfl⟩
theorem minVoteOf_isSome (l : List (Cand α)) (h : l ≠ []) : ∃ v, minVoteOf A l = some v := by
  cases l with
  | nil => exact absurd rfl h
  | cons c cs => exact ⟨_, rfl⟩

theorem breakTie_none_crash (s : St α) (tied : List (Cand α)) (verb : String)
    (h : (breakTie A s tied verb).2 = none) : (breakTie A s tied verb).1.crash.isSome = true := by
  unfold breakTie at h ⊢
  split
  · unfold St.setCrash; split <;> simp_all
  · simp at h
  · rename_i hne1 hne2
    simp only at h
    cases htied : tied with
    | nil => exact absurd htied hne1
    | cons x xs =>
      have : (byTieOrder tied) ≠ [] := by
        intro hnil
        have hp := (pySorted_perm (fun a b : Cand α => a.tie < b.tie) false tied).length_eq
        unfold byTieOrder at hnil
        rw [hnil, htied] at hp; simp at hp
      cases hb : byTieOrder tied with
      | nil => exact absurd hb this
      | cons y ys => rw [hb] at h; simp at h

theorem mem_elect_of_ne {s : St α} {c : Cand α} (hc : c ∈ s.cands) (cid : Nat) (verb : String) (p : Bool)
    (hne : c.cid ≠ cid) : c ∈ (s.elect A cid verb p).cands := by
  unfold St.elect; rw [logAct_cands]; exact mem_upd_of_ne hc hne

theorem mem_defeat_of_ne {s : St α} {c : Cand α} (hc : c ∈ s.cands) (cid : Nat) (verb : String)
    (hne : c.cid ≠ cid) : c ∈ (s.defeat A cid verb).cands := by
  unfold St.defeat; rw [logAct_cands]; exact mem_upd_of_ne hc hne

/-- "for w in ws: s = op(s, w)" over distinct hopeful candidates, where `op s w` touches no candidate but `w` -/
theorem foldl_hopefuls (P : Nat → St α → Prop) (op : St α → Cand α → St α)
    (hstep : ∀ n s w, P (n + 1) s → w ∈ s.cands → w.st = .hopeful →
      P n (op s w) ∧ ∀ c ∈ s.cands, c.cid ≠ w.cid → c ∈ (op s w).cands)
    (ws : List (Cand α)) (hnd : (ws.map (·.cid)).Nodup) {s : St α}
    (hw : ∀ w ∈ ws, w ∈ s.cands ∧ w.st = .hopeful) (hP : P ws.length s) : P 0 (ws.foldl op s) := by
  induction ws generalizing s with
  | nil => exact hP
  | cons w ws ih =>
    simp only [List.foldl_cons]
    simp only [List.map_cons, List.nodup_cons, List.mem_map, not_exists, not_and] at hnd
    obtain ⟨hwm, hwh⟩ := hw w (by simp)
    obtain ⟨h1, h2⟩ := hstep ws.length s w hP hwm hwh
    apply ih hnd.2 _ h1
    intro w' hw'
    obtain ⟨hm, hh⟩ := hw w' (by simp [hw'])
    exact ⟨h2 w' hm (fun e => hnd.1 w' hw' e), hh⟩

theorem crash_logAct (s : St α) (tag verb : String) (subj : List Nat) : (s.logAct A tag verb subj).crash = s.crash := by
  unfold St.logAct; simp only; split <;> rfl
theorem crash_elect (s : St α) (cid : Nat) (verb : String) (p : Bool) : (s.elect A cid verb p).crash = s.crash := by
  unfold St.elect; rw [crash_logAct]; rfl
theorem crash_defeat (s : St α) (cid : Nat) (verb : String) : (s.defeat A cid verb).crash = s.crash := by
  unfold St.defeat; rw [crash_logAct]; rfl
theorem crash_foldUnpend (l : List (Cand α)) (s : St α) :
    (l.foldl (fun acc c => acc.unpendSilent c.cid) s).crash = s.crash := by
  apply foldl_proj St.crash
  intro acc c
  rfl

end Droop
