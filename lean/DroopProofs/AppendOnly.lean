import DroopProofs.StepRel
import DroopProofs.Transfer

/-! # The action log is append-only; what no step of a count changes

`Ext s t`: the log of `s` is a suffix of the newest-first log of `t` — the fact C19 (an interrupted count shows a prefix of
the uninterrupted one) and C18 rest on. `Reach s t` adds the election's constants, the method and the list of candidate ids.
Both are proved for the primitive writes and are `StepRel` instances, so they hold across every step of every rule; the
wigm count only ever appends (`wigmCount_appendOnly`). -/
namespace Droop
variable {α : Type} (A : Arith α)

/-- `s ⊑ t`: everything logged in `s` is still there, in the same order, in `t` (acts are newest-first) -/
def Ext (s t : St α) : Prop := s.acts <:+ t.acts

theorem Ext.refl (s : St α) : Ext s s := List.suffix_refl _
theorem Ext.trans {s t u : St α} (h1 : Ext s t) (h2 : Ext t u) : Ext s u := List.IsSuffix.trans h1 h2
theorem Ext.of_acts_eq {s t : St α} (h : t.acts = s.acts) : Ext s t := by unfold Ext; rw [h]; exact List.suffix_refl _

/-- `t` is reached from `s` by steps of a count: nothing logged is lost, and the election's constants and the list of
    candidate ids are those of `s`.  Every primitive of `Core`, every transfer and every composite step of a rule is such
    a step, whatever the state; what a step does to statuses and tallies is said by the invariants. -/
structure Reach (s t : St α) : Prop where
  ext : Ext s t
  quota : t.quota = s.quota
  seats : t.seats = s.seats
  nballots : t.nballots = s.nballots
  method : t.method = s.method
  ids : t.cands.map (·.cid) = s.cands.map (·.cid)

theorem Reach.refl (s : St α) : Reach s s := ⟨Ext.refl s, rfl, rfl, rfl, rfl, rfl⟩
theorem Reach.trans {s t u : St α} (h1 : Reach s t) (h2 : Reach t u) : Reach s u :=
  ⟨h1.ext.trans h2.ext, h2.quota.trans h1.quota, h2.seats.trans h1.seats, h2.nballots.trans h1.nballots,
   h2.method.trans h1.method, h2.ids.trans h1.ids⟩

theorem Reach.of_eq {s t : St α} (ha : t.acts = s.acts) (hq : t.quota = s.quota) (hs : t.seats = s.seats)
    (hn : t.nballots = s.nballots) (hm : t.method = s.method) (hc : t.cands.map (·.cid) = s.cands.map (·.cid)) :
    Reach s t := ⟨Ext.of_acts_eq ha, hq, hs, hn, hm, hc⟩

theorem skel_ids {s t : St α} (h : t.skel = s.skel) : t.cands.map (·.cid) = s.cands.map (·.cid) := by
  have := congrArg (List.map (·.1)) h
  simpa [St.skel, List.map_map, Function.comp_def, Cand.skel] using this

theorem reach_logAct (s : St α) (tag verb : String) (subj : List Nat) : Reach s (s.logAct A tag verb subj) := by
  unfold St.logAct
  split <;> exact ⟨List.suffix_cons _ _, rfl, rfl, rfl, rfl, rfl⟩

theorem reach_upd (s : St α) (cid : Nat) (f : Cand α → Cand α) (hf : ∀ c, (f c).cid = c.cid) : Reach s (s.upd cid f) := by
  refine Reach.of_eq rfl rfl rfl rfl rfl ?_
  unfold St.upd
  rw [List.map_map]
  apply List.map_congr_left
  intro c _
  simp only [Function.comp]
  split
  · exact hf c
  · rfl

theorem reach_newRound (s : St α) : Reach s (s.newRound A) :=
  Reach.trans (t := { s with round := s.round + 1 }) (Reach.of_eq rfl rfl rfl rfl rfl rfl) (reach_logAct A _ _ _ _)
theorem reach_elect (s : St α) (cid : Nat) (verb : String) (p : Bool) : Reach s (s.elect A cid verb p) := by
  unfold St.elect
  refine Reach.trans ?_ (reach_logAct A _ _ _ _)
  exact reach_upd s cid _ (fun _ => rfl)
theorem reach_defeat (s : St α) (cid : Nat) (verb : String) : Reach s (s.defeat A cid verb) := by
  unfold St.defeat
  refine Reach.trans ?_ (reach_logAct A _ _ _ _)
  exact reach_upd s cid _ (fun _ => rfl)
theorem reach_unpendLog (s : St α) (cid : Nat) (verb : String) : Reach s (s.unpendLog A cid verb) := by
  unfold St.unpendLog
  refine Reach.trans ?_ (reach_logAct A _ _ _ _)
  exact reach_upd s cid _ (fun _ => rfl)
theorem reach_setCrash (s : St α) (k : String) : Reach s (s.setCrash k) := by
  unfold St.setCrash
  split
  · exact Reach.refl s
  · exact Reach.of_eq rfl rfl rfl rfl rfl rfl

theorem reach_transferAll (s : St α) (cids : List Nat) (rew : α → α) : Reach s (transferAll A s cids rew) :=
  Reach.of_eq (TransferBlind.acts.transferAll s cids rew) (TransferBlind.quota.transferAll s cids rew)
    (TransferBlind.seats.transferAll s cids rew) (TransferBlind.nballots.transferAll s cids rew)
    (TransferBlind.method.transferAll s cids rew) (skel_ids (TransferBlind.skel.transferAll s cids rew))

/-- `Reach` is respected by every primitive write, hence by every step of every rule (`StepRel`) -/
theorem stepRel_reach : StepRel A (Reach (α := α)) :=
  ⟨Reach.refl, Reach.trans, reach_logAct A, reach_upd, reach_setCrash, fun _ _ => Reach.of_eq rfl rfl rfl rfl rfl rfl,
    fun _ => Reach.of_eq rfl rfl rfl rfl rfl rfl, reach_transferAll A⟩

theorem stepRel_ext : StepRel A (Ext (α := α)) :=
  ⟨Ext.refl, Ext.trans, fun s tag verb subj => (reach_logAct A s tag verb subj).ext, fun _ _ _ _ => Ext.of_acts_eq rfl,
    fun s k => (reach_setCrash s k).ext, fun _ _ => Ext.of_acts_eq rfl, fun _ => Ext.of_acts_eq rfl,
    fun s cids rew => (reach_transferAll A s cids rew).ext⟩

theorem ext_logAct (s : St α) (tag verb : String) (subj : List Nat) : Ext s (s.logAct A tag verb subj) :=
  (reach_logAct A s tag verb subj).ext
theorem ext_newRound (s : St α) : Ext s (s.newRound A) := (reach_newRound A s).ext
theorem ext_elect (s : St α) (cid : Nat) (verb : String) (p : Bool) : Ext s (s.elect A cid verb p) :=
  (reach_elect A s cid verb p).ext
theorem ext_defeat (s : St α) (cid : Nat) (verb : String) : Ext s (s.defeat A cid verb) := (reach_defeat A s cid verb).ext
theorem ext_setCrash (s : St α) (k : String) : Ext s (s.setCrash k) := (reach_setCrash s k).ext

theorem ext_foldl {β : Type} (f : St α → β → St α) (hf : ∀ s x, Ext s (f s x)) (l : List β) (s : St α) :
    Ext s (l.foldl f s) := by
  induction l generalizing s with
  | nil => exact Ext.refl s
  | cons x xs ih => exact Ext.trans (hf s x) (ih _)


theorem ext_loopN (guard : St α → Bool) (body : St α → St α × Flow) (hb : ∀ s, Ext s (body s).1) :
    ∀ (fuel : Nat) (s t : St α), loopN guard body fuel s = some t → Ext s t :=
  fun fuel s t => loopN_rel (fun _ => True) Ext Ext.refl Ext.trans (fun _ _ _ _ => trivial) (fun s _ _ => hb s) fuel s t trivial

theorem firstCount_acts (s : St α) : (firstCount A s).acts = s.acts := TransferBlind.acts.firstCount s

/-- C19 for wigm / wigm-prf(-batch): the count only ever appends actions, so an interrupted count shows a prefix of the
    uninterrupted one -/
theorem wigmCount_appendOnly (o : WigmOpts) (s0 t : St α) (h : wigmCount A o s0 = some t) : Ext s0 t := by
  refine Ext.trans (Ext.trans (Ext.of_acts_eq ?_) ((reach_logAct A _ _ _ _).ext)) ((stepRel_ext A).wigmCount o s0 t h)
  show (firstCount A (s0.setQuota (wigmQuota A o s0))).acts = s0.acts
  rw [firstCount_acts]; rfl

end Droop
