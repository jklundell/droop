import DroopProofs.CoalitionRun
import DroopProofs.DropW
import DroopProofs.QpqStages

/-! # C01 for QPQ: the count never runs out of rounds

`qpqLoop` is given `n(n+2)+3` rounds for `n` candidates.  A round that continues either elects one hopeful candidate or excludes
one; an exclusion is followed by a restart in which every elected candidate becomes hopeful again.  With `k` = hopeful + elected
and `h` = hopeful, the measure `T(k) + (k+1 if a restart is due, else h+1)` (`T` the triangular numbers) drops in every round that
continues: an election lowers the second summand, an exclusion turns `T(k)` into `T(k-1) + k = T(k)` and loses the rest.
Initially it is at most `T(n) + n + 1`, which is below the rounds given.  No hypothesis on the arithmetic or on the ballots:
only distinct candidate ids.

The file also holds what the other QPQ files read a round through, field by field: `qR2_fields` (the restart handling),
`qR5_frame` (up to the decision state), `qDecide_out` (the decision), `qpqStart_fields` (the start). -/
namespace Droop
variable {α : Type} [CommRing α] [LinearOrder α] [IsStrictOrderedRing α] (A : Arith α)

def tri : Nat → Nat
  | 0 => 0
  | k+1 => tri k + (k + 1)

def stsig (s : St α) : List (Nat × CState) := s.cands.map (fun c => (c.cid, c.st))

theorem nHop_of_stsig {s t : St α} (h : stsig t = stsig s) : nHop t = nHop s := by
  have e : ∀ u : St α, nHop u = ((stsig u).filter (fun p => p.2 == CState.hopeful)).length := by
    intro u; unfold nHop St.hopeful stsig; rw [List.filter_map, List.length_map]; rfl
  rw [e, e, h]

theorem nEl_of_stsig {s t : St α} (h : stsig t = stsig s) : nEl t = nEl s := by
  have e : ∀ u : St α, nEl u = ((stsig u).filter (fun p => p.2 == CState.elected)).length := by
    intro u; unfold nEl St.elected stsig; rw [List.filter_map, List.length_map]; rfl
  rw [e, e, h]

theorem WF_of_stsig {s t : St α} (h : stsig t = stsig s) (hwf : s.WF) : t.WF := by
  have e : ∀ u : St α, u.cands.map (·.cid) = (stsig u).map (·.1) := by
    intro u; unfold stsig; rw [List.map_map]; rfl
  unfold St.WF at *
  rw [e, h, ← e]; exact hwf

theorem stsig_upd_keep (s : St α) (cid : Nat) (f : Cand α → Cand α) (hf : ∀ c, (f c).cid = c.cid ∧ (f c).st = c.st) :
    stsig (s.upd cid f) = stsig s := by
  unfold stsig St.upd
  rw [List.map_map]
  apply List.map_congr_left
  intro c _
  simp only [Function.comp]
  split
  · rw [(hf c).1, (hf c).2]
  · rfl

theorem stsig_mapKeep (s : St α) (f : Cand α → Cand α) (hf : ∀ c, (f c).cid = c.cid ∧ (f c).st = c.st) :
    stsig ({ s with cands := s.cands.map f } : St α) = stsig s := by
  unfold stsig
  rw [List.map_map]
  apply List.map_congr_left
  intro c _
  simp only [Function.comp]
  rw [(hf c).1, (hf c).2]

theorem stsig_logAct (s : St α) (tag verb : String) (subj : List Nat) : stsig (s.logAct A tag verb subj) = stsig s := by
  unfold stsig; rw [logAct_cands]

theorem stsig_setCrash (s : St α) (k : String) : stsig (s.setCrash k) = stsig s := by
  unfold stsig; rw [(setCrash_frame s k).1]

theorem unElect_counts (s1 : St α) : nHop (unElect s1) = nHop s1 + nEl s1 ∧ nEl (unElect s1) = 0 ∧ (unElect s1).cands.map (·.cid) = s1.cands.map (·.cid) := by
  unfold unElect nHop nEl St.hopeful St.elected
  simp only
  refine ⟨?_, ?_, ?_⟩
  · induction s1.cands with
    | nil => rfl
    | cons c cs ih =>
      simp only [List.map_cons, List.filter_cons]
      cases hc : c.st <;> simp [hc] at ih ⊢ <;> omega
  · rw [List.length_eq_zero_iff, List.filter_eq_nil_iff]
    intro a ha
    obtain ⟨c, _, rfl⟩ := List.mem_map.1 ha
    by_cases he : (c.st == CState.elected) = true
    · rw [if_pos he]; simp
    · rw [if_neg he]; exact he
  · rw [List.map_map]
    apply List.map_congr_left
    intro c _
    simp only [Function.comp]
    split <;> rfl

theorem setCrash_eq (s : St α) (k : String) : ∃ cr, s.setCrash k = { s with crash := cr } := by
  unfold St.setCrash
  split
  · exact ⟨s.crash, rfl⟩
  · exact ⟨_, rfl⟩

/-- The tally fold writes only the candidate list (and the two totals), and there neither ids nor statuses. -/
theorem foldl_qTally_frame (bs : List (Ballot α)) (acc : QSt α) :
    ∃ cs, (bs.foldl (qTally A) acc).s = { acc.s with cands := cs } ∧ stsig (bs.foldl (qTally A) acc).s = stsig acc.s
      ∧ (bs.foldl (qTally A) acc).restart = acc.restart := by
  induction bs generalizing acc with
  | nil => exact ⟨acc.s.cands, rfl, rfl, rfl⟩
  | cons b bs ih =>
    obtain ⟨cs, h1, h2, h3⟩ := ih (qTally A acc b)
    have hb : (∃ cs0, (qTally A acc b).s = { acc.s with cands := cs0 }) ∧ stsig (qTally A acc b).s = stsig acc.s
        ∧ (qTally A acc b).restart = acc.restart := by
      unfold qTally
      cases b.top with
      | none => exact ⟨⟨_, rfl⟩, rfl, rfl⟩
      | some c => exact ⟨⟨_, rfl⟩, stsig_upd_keep acc.s c _ (fun _ => ⟨rfl, rfl⟩), rfl⟩
    obtain ⟨⟨cs0, g1⟩, g2, g3⟩ := hb
    rw [g1] at h1
    exact ⟨cs, h1, h2.trans g2, h3.trans g3⟩

theorem foldl_qTally_stsig (bs : List (Ballot α)) (acc : QSt α) :
    stsig (bs.foldl (qTally A) acc).s = stsig acc.s ∧ (bs.foldl (qTally A) acc).restart = acc.restart :=
  let ⟨_, _, h⟩ := foldl_qTally_frame A bs acc
  h

theorem foldl_qTally_seats (bs : List (Ballot α)) (acc : QSt α) : (bs.foldl (qTally A) acc).s.seats = acc.s.seats := by
  obtain ⟨_, h, _⟩ := foldl_qTally_frame A bs acc
  rw [h]

/-- From the state after the restart handling to the state the decision is taken in only the candidate list, the quota and the
crash flag are written, and in the candidate list neither ids nor statuses. -/
theorem qR5_frame (q : QSt α) : ∃ cs, (∃ qt cr, qR5 A q = { qR2 A q with cands := cs, quota := qt, crash := cr })
    ∧ stsig (qR5 A q) = stsig (qR2 A q) := by
  obtain ⟨cs1, h1, g1, _⟩ := foldl_qTally_frame A (qR3 A q).ballots { s := qR3 A q, va := A.zero, tx := A.zero, restart := false }
  have h3 : stsig (qR3 A q) = stsig (qR2 A q) := stsig_mapKeep (qR2 A q) _ (fun c => by split <;> exact ⟨rfl, rfl⟩)
  have h4 : stsig (qR4 A q) = stsig (qQ1 A q).s := stsig_mapKeep (qQ1 A q).s _ (fun c => by split <;> exact ⟨rfl, rfl⟩)
  have e4 : ∃ cs, qR4 A q = { qR2 A q with cands := cs } := by
    unfold qR4 qQ1
    rw [h1]
    exact ⟨_, rfl⟩
  obtain ⟨cs, e4⟩ := e4
  have h5 : stsig (qR5 A q) = stsig (qR4 A q) := by
    unfold qR5
    split
    · exact stsig_setCrash _ _
    · rfl
  refine ⟨cs, ?_, h5.trans (h4.trans (g1.trans h3))⟩
  unfold qR5
  split
  · obtain ⟨cr, hcr⟩ := setCrash_eq ({ qR4 A q with quota := (qpqQuota A { qQ1 A q with s := qR4 A q }).1 } : St α) "ZeroDivisionError"
    rw [hcr, e4]
    exact ⟨_, _, rfl⟩
  · rw [e4]
    exact ⟨_, _, rfl⟩

theorem qR5_stsig (q : QSt α) : stsig (qR5 A q) = stsig (qR2 A q) ∧ (qQ1 A q).restart = false :=
  let ⟨_, _, h⟩ := qR5_frame A q
  ⟨h, (foldl_qTally_stsig A _ _).2⟩

theorem stsig_of_cands {s t : St α} (h : t.cands = s.cands) : stsig t = stsig s := by unfold stsig; rw [h]

/-- What the restart handling leaves: the candidate list of the start state (everybody un-elected if a restart is due), its ballots
(reset to their first hopeful preference, with contribution 0, if a restart is due), its seats; the log has grown. -/
theorem qR2_fields (q : QSt α) :
    (qR2 A q).cands = (if q.restart then unElect q.s else q.s).cands
    ∧ (qR2 A q).ballots = (if q.restart then q.s.ballots.map (fun (b : Ballot α) =>
        qAdvance (qR2 A q) { b with idx := 0, w := A.zero, residual := A.zero }) else q.s.ballots)
    ∧ (qR2 A q).seats = q.s.seats ∧ Ext q.s (qR2 A q) := by
  have hc : (qR1 A q).cands = q.s.cands := logAct_cands A _ _ _ _
  have hb : (qR1 A q).ballots = q.s.ballots := logAct_ballots A _ _ _ _
  have hs : (qR1 A q).seats = q.s.seats := (frame_newRound A q.s).2.1
  have he : Ext q.s (qR1 A q) := ext_newRound A q.s
  unfold qR2
  split
  · refine ⟨?_, ?_, hs, he.trans (Ext.of_acts_eq rfl)⟩
    · show (unElect (qR1 A q)).cands = _
      unfold unElect; rw [hc]
    · show (qR1 A q).ballots.map _ = _
      rw [hb]
      rfl
  · exact ⟨hc, hb, hs, he⟩

theorem qR2_counts (q : QSt α) :
    (q.restart = true → nHop (qR2 A q) = nHop q.s + nEl q.s ∧ nEl (qR2 A q) = 0)
    ∧ (q.restart = false → nHop (qR2 A q) = nHop q.s ∧ nEl (qR2 A q) = nEl q.s)
    ∧ (qR2 A q).cands.map (·.cid) = q.s.cands.map (·.cid) := by
  have hc := (qR2_fields A q).1
  have hsig := stsig_of_cands hc
  rw [nHop_of_stsig hsig, nEl_of_stsig hsig, hc]
  cases q.restart with
  | true =>
    rw [if_pos rfl]
    exact ⟨fun _ => ⟨(unElect_counts q.s).1, (unElect_counts q.s).2.1⟩, nofun, (unElect_counts q.s).2.2⟩
  | false =>
    rw [if_neg (by decide)]
    exact ⟨nofun, fun _ => ⟨rfl, rfl⟩, rfl⟩

theorem qElected_cands (s6 : St α) (hc : Cand α) :
    (qElected A s6 hc).cands = (s6.elect A hc.cid "Elect high quotient" false).cands := by
  unfold qElected
  split
  · exact (setCrash_frame _ _).1
  · rfl

/-- `c`'s quotient is (within the arithmetic's `==`) the largest hopeful quotient, and that is above the quota -/
def QHigh (s5 : St α) (c : Cand α) : Prop := ∃ hd hs, s5.hopeful = hd :: hs
  ∧ A.gt (A.pyMax (qQuot A hd) (hs.map (qQuot A))) s5.quota = true
  ∧ A.eq (qQuot A c) (A.pyMax (qQuot A hd) (hs.map (qQuot A))) = true

/-- the largest hopeful quotient is not above the quota, and `c`'s quotient is the smallest -/
def QLow (s5 : St α) (c : Cand α) : Prop := ∃ hd hs, s5.hopeful = hd :: hs
  ∧ ¬ A.gt (A.pyMax (qQuot A hd) (hs.map (qQuot A))) s5.quota = true
  ∧ A.eq (qQuot A c) (A.pyMin (qQuot A hd) (hs.map (qQuot A))) = true

theorem cands_of_tie {s5 s6 : St α} (h : s6.cands = s5.cands) (cid : Nat) (f : Cand α → Cand α) :
    (s6.upd cid f).cands = (s5.upd cid f).cands := by
  unfold St.upd; simp only [h]

/-- What the decision leaves of the decision state `s5`, field by field: the seats stay and the log grows; a round that breaks off
has raised the crash flag and kept the candidates; otherwise the candidate list is that of `s5` with one hopeful candidate elected
(largest quotient, above the quota; no restart; the ballots standing with it get the contribution `1 / quotient`, and a zero
quotient raises the crash flag) or excluded (smallest quotient; restart; contributions unchanged). -/
theorem qDecide_out (q1 : QSt α) (s5 : St α) :
    (qDecide A q1 s5).1.s.seats = s5.seats ∧ Ext s5 (qDecide A q1 s5).1.s
    ∧ (((qDecide A q1 s5).2 = .brk ∧ (qDecide A q1 s5).1.s.crash.isSome = true ∧ (qDecide A q1 s5).1.s.cands = s5.cands)
      ∨ (∃ c ∈ s5.hopeful, QHigh A s5 c ∧ (qDecide A q1 s5).2 = .cont ∧ (qDecide A q1 s5).1.restart = q1.restart
          ∧ (qDecide A q1 s5).1.s.cands = (s5.elect A c.cid "Elect high quotient" false).cands
          ∧ ((qDecide A q1 s5).1.s.crash = none → A.isZero (qQuot A c) = false)
          ∧ ∃ s7, (qDecide A q1 s5).1.s.ballots = s5.ballots.map (fun (b : Ballot α) =>
              if b.top == some c.cid then qAdvance s7 { b with w := A.divV A.one (qQuot A c) } else b))
      ∨ (∃ c ∈ s5.hopeful, QLow A s5 c ∧ (qDecide A q1 s5).2 = .cont ∧ (qDecide A q1 s5).1.restart = true
          ∧ (qDecide A q1 s5).1.s.cands = (s5.defeat A c.cid "Defeat low quotient").cands
          ∧ ∃ s7, (qDecide A q1 s5).1.s.ballots = s5.ballots.map (fun (b : Ballot α) =>
              if b.top == some c.cid then qAdvance s7 b else b))) := by
  have hbt : ∀ {tied verb s6 oc}, breakTie A s5 tied verb = (s6, oc) → Ext s5 s6 := fun {tied verb _ _} hb => by
    have := (stepRel_ext A).breakTie s5 tied verb
    rwa [hb] at this
  rcases qDecide_cases A q1 s5 with ⟨_, e⟩ | ⟨_, _, _, _, s6, _, _, hb, e⟩ | ⟨hd, hs, s6, c, hh, hg, hb, hfr, hm, e⟩
      | ⟨hd, hs, s6, c, hh, hg, hb, hfr, hm, e⟩
  · rw [e]
    exact ⟨(frame_setCrash _ _).2.1, ext_setCrash _ _, Or.inl ⟨rfl, setCrash_isSome _ _, (setCrash_frame _ _).1⟩⟩
  · rw [e]
    have hn := breakTie_none_crash A s5 _ _ (by rw [hb])
    rw [hb] at hn
    exact ⟨(breakTie_fst A hb).2.2, hbt hb, Or.inl ⟨rfl, hn, (breakTie_fst A hb).1⟩⟩
  · rw [e]
    obtain ⟨_, hbl, hse⟩ := breakTie_fst A hb
    have hel : Ext s6 (qElected A s6 c) ∧ (qElected A s6 c).seats = s6.seats ∧ (qElected A s6 c).ballots = s6.ballots
        ∧ ((qElected A s6 c).crash = none → A.isZero (qQuot A c) = false) := by
      unfold qElected
      split
      · exact ⟨(ext_elect A s6 _ _ _).trans (ext_setCrash _ _), ((frame_setCrash _ _).2.1).trans (frame_elect A s6 _ _ _).2.1,
          ((setCrash_frame _ _).2.1).trans (by unfold St.elect; rw [logAct_ballots]; rfl),
          fun h => absurd (setCrash_isSome _ _) (by rw [h]; simp)⟩
      · exact ⟨ext_elect A s6 _ _ _, (frame_elect A s6 _ _ _).2.1, by unfold St.elect; rw [logAct_ballots]; rfl,
          fun _ => eq_false_of_ne_true ‹¬ _›⟩
    refine ⟨?_, ?_, Or.inr (Or.inl ⟨c, hm, ⟨hd, hs, hh, hg, (List.mem_filter.1 (breakTie_snd A hb)).2⟩, rfl, rfl, ?_, ?_, qElected A s6 c, ?_⟩)⟩
    · simp only [qElectK, logAct_seats]; exact hel.2.1.trans hse
    · simp only [qElectK]
      refine (hbt hb).trans (hel.1.trans (Ext.trans ?_ (ext_logAct A _ _ _ _)))
      exact Ext.of_acts_eq rfl
    · simp only [qElectK, logAct_cands]
      exact (qElected_cands A s6 c).trans (by unfold St.elect; rw [logAct_cands, logAct_cands, cands_of_tie hfr])
    · simp only [qElectK, crash_logAct]; exact hel.2.2.2
    · simp only [qElectK, logAct_ballots]
      show (qElected A s6 c).ballots.map _ = _
      rw [hel.2.2.1, hbl]
  · rw [e]
    obtain ⟨_, hbl, hse⟩ := breakTie_fst A hb
    refine ⟨?_, ?_, Or.inr (Or.inr ⟨c, hm, ⟨hd, hs, hh, hg, (List.mem_filter.1 (breakTie_snd A hb)).2⟩, rfl, rfl, ?_, s6.defeat A c.cid "Defeat low quotient", ?_⟩)⟩
    · simp only [qDefeatK, logAct_seats]; exact ((frame_defeat A s6 c.cid "Defeat low quotient").2.1).trans hse
    · simp only [qDefeatK]
      refine (hbt hb).trans ((ext_defeat A s6 c.cid "Defeat low quotient").trans (Ext.trans ?_ (ext_logAct A _ _ _ _)))
      exact Ext.of_acts_eq rfl
    · simp only [qDefeatK, logAct_cands]
      show (s6.defeat A c.cid "Defeat low quotient").cands = _
      unfold St.defeat; rw [logAct_cands, logAct_cands, cands_of_tie hfr]
    · simp only [qDefeatK, logAct_ballots]
      show (s6.defeat A c.cid "Defeat low quotient").ballots.map _ = _
      rw [defeat_ballots, hbl]

theorem qDecide_cont (q1 : QSt α) (s5 : St α) (hwf : s5.WF) (hr1 : q1.restart = false) (h : (qDecide A q1 s5).2 = .cont) :
    (qDecide A q1 s5).1.s.WF ∧
    (((qDecide A q1 s5).1.restart = false ∧ nHop (qDecide A q1 s5).1.s + 1 = nHop s5 ∧ nEl (qDecide A q1 s5).1.s = nEl s5 + 1)
     ∨ ((qDecide A q1 s5).1.restart = true ∧ nHop (qDecide A q1 s5).1.s + 1 = nHop s5 ∧ nEl (qDecide A q1 s5).1.s = nEl s5)) := by
  rcases (qDecide_out A q1 s5).2.2 with ⟨hb, _⟩ | ⟨c, hm, _, _, hr, hcs, _⟩ | ⟨c, hm, _, _, hr, hcs, _⟩
  · rw [hb] at h; cases h
  · obtain ⟨hm5, hh⟩ := mem_hopeful.1 hm
    have hsig := stsig_of_cands hcs
    rw [nHop_of_stsig hsig, nEl_of_stsig hsig]
    exact ⟨WF_of_stsig hsig (WF_elect A hwf _ _ _), Or.inl ⟨hr.trans hr1, counts_elect A s5 c _ false hwf hm5 hh⟩⟩
  · obtain ⟨hm5, hh⟩ := mem_hopeful.1 hm
    have hsig := stsig_of_cands hcs
    rw [nHop_of_stsig hsig, nEl_of_stsig hsig]
    exact ⟨WF_of_stsig hsig (WF_defeat A hwf _ _), Or.inr ⟨hr, counts_defeat A s5 c _ hwf hm5 hh⟩⟩

def qMu (q : QSt α) : Nat := tri (nHop q.s + nEl q.s) + (if q.restart then nHop q.s + nEl q.s + 1 else nHop q.s + 1)

theorem tri_pred (k : Nat) (hk : 1 ≤ k) : tri k = tri (k - 1) + k := by
  obtain ⟨j, rfl⟩ : ∃ j, k = j + 1 := ⟨k - 1, by omega⟩
  rfl

theorem tri_mono {a b : Nat} (h : a ≤ b) : tri a ≤ tri b := by
  induction b with
  | zero => have : a = 0 := by omega
            subst this; exact Nat.le_refl _
  | succ n ih =>
    by_cases he : a = n + 1
    · subst he; exact Nat.le_refl _
    · have := ih (by omega)
      show tri a ≤ tri n + (n + 1)
      omega

theorem tri_fuel (n : Nat) : tri n + n + 1 < n * (n + 2) + 3 := by
  induction n with
  | zero => decide
  | succ n ih =>
    have e : (n + 1) * (n + 1 + 2) = n * (n + 2) + 2 * n + 3 := by ring
    show tri n + (n + 1) + (n + 1) + 1 < (n + 1) * (n + 1 + 2) + 3
    omega

/-- The decision state has the hopefuls and the elected of the state the round starts in — after a restart, all of them
hopeful. -/
theorem qR5_counts (q : QSt α) :
    (q.restart = true → nHop (qR5 A q) = nHop q.s + nEl q.s ∧ nEl (qR5 A q) = 0)
    ∧ (q.restart = false → nHop (qR5 A q) = nHop q.s ∧ nEl (qR5 A q) = nEl q.s)
    ∧ (q.s.WF → (qR5 A q).WF) := by
  have hsig := (qR5_stsig A q).1
  obtain ⟨c1, c2, c3⟩ := qR2_counts A q
  rw [← nHop_of_stsig hsig, ← nEl_of_stsig hsig] at c1 c2
  exact ⟨c1, c2, fun hwf => WF_of_stsig hsig (by unfold St.WF; rw [c3]; exact hwf)⟩

/-- A round that continues elects one of the hopefuls of the decision state (no restart ordered) or excludes one (restart
ordered). -/
theorem qpqBody_cont (q : QSt α) (hwf : q.s.WF) (h : (qpqBody A q).2 = .cont) :
    (qpqBody A q).1.s.WF
    ∧ (((qpqBody A q).1.restart = false ∧ nHop (qpqBody A q).1.s + 1 = nHop (qR5 A q)
          ∧ nEl (qpqBody A q).1.s = nEl (qR5 A q) + 1)
      ∨ ((qpqBody A q).1.restart = true ∧ nHop (qpqBody A q).1.s + 1 = nHop (qR5 A q)
          ∧ nEl (qpqBody A q).1.s = nEl (qR5 A q))) := by
  rw [qpqBody_eq] at h ⊢
  exact qDecide_cont A (qQ1 A q) (qR5 A q) ((qR5_counts A q).2.2 hwf) (qR5_stsig A q).2 h

theorem qpqBody_measure (q : QSt α) (hwf : q.s.WF) (h : (qpqBody A q).2 = .cont) :
    qMu (qpqBody A q).1 < qMu q ∧ (qpqBody A q).1.s.WF := by
  obtain ⟨c1, c2, _⟩ := qR5_counts A q
  obtain ⟨hwf', hcase⟩ := qpqBody_cont A q hwf h
  refine ⟨?_, hwf'⟩
  -- the measure of `q` in the numbers of the decision state: `T(h + e) + h + 1`, whether or not a restart was due
  have hmu : qMu q = tri (nHop (qR5 A q) + nEl (qR5 A q)) + (nHop (qR5 A q) + 1) := by
    unfold qMu
    cases hr : q.restart with
    | true =>
      obtain ⟨a1, a2⟩ := c1 hr
      rw [a1, a2, if_pos rfl]
      rfl
    | false =>
      obtain ⟨a1, a2⟩ := c2 hr
      rw [a1, a2, if_neg (by decide)]
  rw [hmu]
  unfold qMu
  generalize nHop (qR5 A q) = h5 at hcase ⊢
  generalize nEl (qR5 A q) = e5 at hcase ⊢
  generalize nHop (qpqBody A q).1.s = h' at hcase ⊢
  generalize nEl (qpqBody A q).1.s = e' at hcase ⊢
  -- an election keeps hopeful + elected and takes one hopeful away; an exclusion takes one away from the sum: T(k-1) + k = T(k)
  rcases hcase with ⟨r', x1, x2⟩ | ⟨r', x1, x2⟩
  · rw [r', if_neg (by decide), show h' + e' = h5 + e5 by omega]
    omega
  · rw [r', if_pos rfl, show h' + e' = h5 + e5 - 1 by omega, tri_pred (h5 + e5) (by omega)]
    omega

theorem qpqLoop_total : ∀ (fuel : Nat) (q : QSt α), q.s.WF → qMu q < fuel → ∃ r, qpqLoop A fuel q = some r := by
  intro fuel
  induction fuel with
  | zero => intro q _ h; omega
  | succ n ih =>
    intro q hwf hmu
    unfold qpqLoop
    by_cases hc : q.s.crash.isSome = true
    · rw [if_pos hc]; exact ⟨q, rfl⟩
    · rw [if_neg hc]
      by_cases hg : (!qpqCountComplete q.s) = true
      · rw [if_pos hg]
        cases hb : qpqBody A q with
        | mk q' fl =>
          cases fl with
          | brk => exact ⟨q', rfl⟩
          | cont =>
            simp only
            have := qpqBody_measure A q hwf (by rw [hb])
            rw [hb] at this
            simp only at this
            exact ih q' this.2 (by omega)
      · rw [if_neg hg]; exact ⟨q, rfl⟩

theorem sumHE_le_length (s : St α) : nHop s + nEl s ≤ s.cands.length := by
  unfold nHop nEl St.hopeful St.elected
  induction s.cands with
  | nil => simp
  | cons c cs ih =>
    simp only [List.filter_cons, List.length_cons]
    cases hc : c.st <;> simp <;> omega

/-- the start writes the tally fields of the hopefuls, the quota, the ballots' contributions and one log line -/
theorem qpqStart_fields (s0 : St α) :
    stsig (qpqStart A s0).s = stsig s0 ∧ (qpqStart A s0).s.seats = s0.seats ∧ (qpqStart A s0).s.crash = s0.crash
    ∧ (qpqStart A s0).s.ballots = s0.ballots.map (fun (b : Ballot α) => { b with w := A.zero }) ∧ Ext s0 (qpqStart A s0).s := by
  unfold qpqStart
  simp only [stsig_logAct, logAct_seats, crash_logAct, logAct_ballots]
  refine ⟨stsig_mapKeep s0 _ (fun c => by split <;> exact ⟨rfl, rfl⟩), rfl, rfl, rfl, Ext.trans ?_ (ext_logAct A _ _ _ _)⟩
  exact Ext.of_acts_eq rfl

theorem qpqStart_seats (s0 : St α) : (qpqStart A s0).s.seats = s0.seats := (qpqStart_fields A s0).2.1
theorem qpqStart_crash (s0 : St α) : (qpqStart A s0).s.crash = s0.crash := (qpqStart_fields A s0).2.2.1
theorem qpqStart_ballots (s0 : St α) :
    (qpqStart A s0).s.ballots = s0.ballots.map (fun (b : Ballot α) => { b with w := A.zero }) := (qpqStart_fields A s0).2.2.2.1

/-- **C01 for QPQ: the count returns** — for every profile with distinct candidate ids and every arithmetic -/
theorem qpqCount_terminates (s0 : St α) (hwf : s0.WF) : ∃ t, qpqCount A s0 = some t := by
  rw [qpqCount_eq]
  have hsig := (qpqStart_fields A s0).1
  have hwf1 : (qpqStart A s0).s.WF := WF_of_stsig hsig hwf
  have hlen : (qpqStart A s0).s.cands.length = s0.cands.length := by
    have := congrArg List.length hsig
    unfold stsig at this
    simpa using this
  have hk := sumHE_le_length (qpqStart A s0).s
  have hmu : qMu (qpqStart A s0) < s0.cands.length * (s0.cands.length + 2) + 3 := by
    unfold qMu
    have hr : (qpqStart A s0).restart = true := rfl
    rw [hr]; simp only [if_true]
    have h1 := tri_mono (a := nHop (qpqStart A s0).s + nEl (qpqStart A s0).s) (b := s0.cands.length) (by omega)
    have h2 := tri_fuel s0.cands.length
    omega
  obtain ⟨r, hr⟩ := qpqLoop_total A _ _ hwf1 hmu
  rw [hr]
  exact ⟨_, rfl⟩

end Droop
