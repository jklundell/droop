import DroopModel.Meek

/-! # What the iteration of a Meek round is

`meekIterate` (meek, warren) and `prfIterate` (meek-prf) repeat one pass — distribute, recompute total and quota, elect, compute the
surplus — and after each pass run a short ladder of tests on its result; the first test that fires ends the iteration, and if
none does the keep factors are updated and the next pass starts.  The ladder is `meekIterExit` / `prfIterExit`, a function of
the pass's result alone; the iteration is its unfolding equation, from which an induction rule over the passes and a commutation
rule for state transformers the ladder is blind to follow. -/
namespace Droop
variable {α : Type} (A : Arith α)

/-- the state after distribution, with the totals and the quota recomputed -/
def meekS3 (o : MeekOpts) (s : St α) : St α :=
  ((distributeVotes A o.warren s).setVotes (activeVotes A (distributeVotes A o.warren s))).setQuota
      (meekQuota A ((distributeVotes A o.warren s).setVotes (activeVotes A (distributeVotes A o.warren s))))

theorem meekS3_cands (o : MeekOpts) (s : St α) : (meekS3 A o s).cands = (distributeVotes A o.warren s).cands := rfl

/-- the state after the election step of a pass -/
def meekS4 (o : MeekOpts) (s : St α) : St α :=
  (meekWinners A (meekS3 A o s)).foldl (fun acc c => acc.elect A c.cid "Elect" false) (meekS3 A o s)

theorem meekIterCore_eq (o : MeekOpts) (s : St α) :
    meekIterCore A o s =
      (meekS4 A o s).setSurplus
        (if A.lt (A.sum ((meekS4 A o s).elected.map (fun c => A.sub c.vote (meekS4 A o s).quota))) A.zero then A.zero
         else A.sum ((meekS4 A o s).elected.map (fun c => A.sub c.vote (meekS4 A o s).quota))) := rfl

theorem meekIterElected_eq (o : MeekOpts) (s : St α) : meekIterElected A o s = !(meekWinners A (meekS3 A o s)).isEmpty := rfl

/-- a state transformer that the tests after a pass cannot tell from the identity -/
structure IterBlind (T : St α → St α) : Prop where
  surplus : ∀ s, (T s).surplus = s.surplus
  crash : ∀ s, (T s).crash = s.crash
  setCrash : ∀ s k, T (s.setCrash k) = (T s).setCrash k
  logMsg : ∀ s verb subj v, T (s.logMsg verb subj v) = (T s).logMsg verb subj v
  batch : ∀ s sp, batchDefeatGroups A (T s) sp = batchDefeatGroups A s sp
  kf : ∀ cap s, kfUpdate A cap (T s) = T (kfUpdate A cap s)

/-- the tests after a pass with result `c` (`el`: somebody was elected in it): the state and status the iteration ends with,
    or `none` if it goes on -/
def meekIterExit (o : MeekOpts) (omega last : α) (el : Bool) (c : St α) : Option (St α × IStatus) :=
  if el then some (c, .elected)
  else if A.le c.surplus omega then some (c, .omega)
  else if A.ge c.surplus last then some (c.logMsg "Stable state detected" [] (some c.surplus), .stable)
  else if !(if o.batchSafe then batchDefeatGroups A c c.surplus else []).isEmpty then
    some (c, .batch ((if o.batchSafe then batchDefeatGroups A c c.surplus else []).map (·.cid)))
  else if (kfUpdate A true c).crash.isSome then some (kfUpdate A true c, .crash)
  else none

theorem meekIterate_succ (o : MeekOpts) (omega : α) (fuel : Nat) (last : α) (s : St α) :
    meekIterate A o omega (fuel + 1) last s =
      match meekIterExit A o omega last (meekIterElected A o s) (meekIterCore A o s) with
      | some r => r
      | none => meekIterate A o omega fuel (meekIterCore A o s).surplus (kfUpdate A true (meekIterCore A o s)) := by
  rw [meekIterate]
  unfold meekIterExit
  generalize meekIterCore A o s = c
  generalize meekIterElected A o s = el
  generalize (if o.batchSafe then batchDefeatGroups A c c.surplus else []) = g
  by_cases h1 : el = true
  · rw [if_pos h1, if_pos h1]
  · rw [if_neg h1, if_neg h1]
    by_cases h2 : A.le c.surplus omega = true
    · rw [if_pos h2, if_pos h2]
    · rw [if_neg h2, if_neg h2]
      by_cases h3 : A.ge c.surplus last = true
      · rw [if_pos h3, if_pos h3]
      · rw [if_neg h3, if_neg h3]
        by_cases h4 : (!g.isEmpty) = true
        · rw [if_pos h4, if_pos h4]
        · rw [if_neg h4, if_neg h4]
          by_cases h5 : (kfUpdate A true c).crash.isSome = true
          · rw [if_pos h5, if_pos h5]
          · rw [if_neg h5, if_neg h5]

theorem meekIterate_elected (o : MeekOpts) (omega : α) (fuel : Nat) (last : α) (s : St α) (h : meekIterElected A o s = true) :
    meekIterate A o omega (fuel + 1) last s = (meekIterCore A o s, .elected) := by
  rw [meekIterate_succ, h]
  rfl

/-- each exit, with the tests that led to it -/
theorem meekIterExit_some {o : MeekOpts} {omega last : α} {el : Bool} {c : St α} {r : St α × IStatus}
    (h : meekIterExit A o omega last el c = some r) :
    (r = (c, .elected) ∧ el = true)
    ∨ (r = (c, .omega) ∧ el = false ∧ A.le c.surplus omega = true)
    ∨ (r = (c.logMsg "Stable state detected" [] (some c.surplus), .stable) ∧ el = false ∧ A.le c.surplus omega = false
        ∧ A.ge c.surplus last = true)
    ∨ (r = (c, .batch ((if o.batchSafe then batchDefeatGroups A c c.surplus else []).map (·.cid))) ∧ el = false
        ∧ (if o.batchSafe then batchDefeatGroups A c c.surplus else []).isEmpty = false)
    ∨ r = (kfUpdate A true c, .crash) := by
  unfold meekIterExit at h
  by_cases h1 : el = true
  · rw [if_pos h1] at h
    exact Or.inl ⟨(Option.some.inj h).symm, h1⟩
  · rw [if_neg h1] at h
    have h1' : el = false := Bool.eq_false_iff.2 h1
    by_cases h2 : A.le c.surplus omega = true
    · rw [if_pos h2] at h
      exact Or.inr (Or.inl ⟨(Option.some.inj h).symm, h1', h2⟩)
    · rw [if_neg h2] at h
      by_cases h3 : A.ge c.surplus last = true
      · rw [if_pos h3] at h
        exact Or.inr (Or.inr (Or.inl ⟨(Option.some.inj h).symm, h1', Bool.eq_false_iff.2 h2, h3⟩))
      · rw [if_neg h3] at h
        by_cases h4 : (!(if o.batchSafe then batchDefeatGroups A c c.surplus else []).isEmpty) = true
        · rw [if_pos h4] at h
          exact Or.inr (Or.inr (Or.inr (Or.inl ⟨(Option.some.inj h).symm, h1', by simpa using h4⟩)))
        · rw [if_neg h4] at h
          by_cases h5 : (kfUpdate A true c).crash.isSome = true
          · rw [if_pos h5] at h
            exact Or.inr (Or.inr (Or.inr (Or.inr (Option.some.inj h).symm)))
          · rw [if_neg h5] at h
            cases h

/-- the state an exit returns is the pass's result, possibly with the "stable state" line logged or the keep factors updated -/
theorem meekIterExit_fst {o : MeekOpts} {omega last : α} {el : Bool} {c : St α} {r : St α × IStatus}
    (h : meekIterExit A o omega last el c = some r) :
    r.1 = c ∨ r.1 = c.logMsg "Stable state detected" [] (some c.surplus) ∨ r.1 = kfUpdate A true c := by
  rcases meekIterExit_some A h with ⟨e, _⟩ | ⟨e, _⟩ | ⟨e, _⟩ | ⟨e, _⟩ | e
  · rw [e]; exact Or.inl rfl
  · rw [e]; exact Or.inl rfl
  · rw [e]; exact Or.inr (Or.inl rfl)
  · rw [e]; exact Or.inl rfl
  · rw [e]; exact Or.inr (Or.inr rfl)

/-- induction over the passes of an iteration: `P` holds of every state a pass starts from, `Q` of whatever the iteration
    returns -/
theorem meekIterate_induct (o : MeekOpts) (omega : α) {P : St α → Prop} {Q : St α × IStatus → Prop}
    (hfuel : ∀ s, P s → Q (s, .fuel))
    (hexit : ∀ last s r, P s → meekIterExit A o omega last (meekIterElected A o s) (meekIterCore A o s) = some r → Q r)
    (hnext : ∀ last s, P s → meekIterExit A o omega last (meekIterElected A o s) (meekIterCore A o s) = none →
      P (kfUpdate A true (meekIterCore A o s))) :
    ∀ (fuel : Nat) (last : α) (s : St α), P s → Q (meekIterate A o omega fuel last s) := by
  intro fuel
  induction fuel with
  | zero => intro last s h; exact hfuel s h
  | succ n ih =>
    intro last s h
    rw [meekIterate_succ]
    cases he : meekIterExit A o omega last (meekIterElected A o s) (meekIterCore A o s) with
    | some r => exact hexit last s r h he
    | none => exact ih _ _ (hnext last s h he)

/-- what a pass, the keep-factor update and the "stable state" line keep, the iteration keeps -/
theorem meekIterate_preserves (o : MeekOpts) (omega : α) {P : St α → Prop}
    (hcore : ∀ s, P s → P (meekIterCore A o s))
    (hkf : ∀ s, P s → P (kfUpdate A true s))
    (hmsg : ∀ s v, P s → P (s.logMsg "Stable state detected" [] v)) :
    ∀ (fuel : Nat) (last : α) (s : St α), P s → P (meekIterate A o omega fuel last s).1 := by
  apply meekIterate_induct A o omega (Q := fun r => P r.1) (fun s h => h)
  · intro last s r h he
    rcases meekIterExit_fst A he with e | e | e
    · rw [e]; exact hcore s h
    · rw [e]; exact hmsg _ _ (hcore s h)
    · rw [e]; exact hkf _ (hcore s h)
  · intro last s h _
    exact hkf _ (hcore s h)

theorem meekIterExit_comm {T : St α → St α} (hT : IterBlind A T) (o : MeekOpts) (omega last : α) (el : Bool) (c : St α) :
    meekIterExit A o omega last el (T c) = (meekIterExit A o omega last el c).map (fun r => (T r.1, r.2)) := by
  unfold meekIterExit
  rw [hT.surplus, hT.batch, hT.kf, hT.crash, ← hT.logMsg]
  simp only [apply_ite (Option.map fun r : St α × IStatus => (T r.1, r.2)), Option.map_some, Option.map_none]

/-- a transformer the tests are blind to commutes with the iteration, if it commutes with a pass on the states (`I`) the
    passes start from -/
theorem meekIterate_comm {T : St α → St α} (hT : IterBlind A T) (o : MeekOpts) (omega : α) {I : St α → Prop}
    (hI : ∀ s, I s → I (kfUpdate A true (meekIterCore A o s)))
    (hel : ∀ s, I s → meekIterElected A o (T s) = meekIterElected A o s)
    (hcore : ∀ s, I s → meekIterCore A o (T s) = T (meekIterCore A o s)) :
    ∀ (fuel : Nat) (last : α) (s : St α), I s →
      meekIterate A o omega fuel last (T s) = (T (meekIterate A o omega fuel last s).1, (meekIterate A o omega fuel last s).2) := by
  intro fuel
  induction fuel with
  | zero => intro last s _; rfl
  | succ n ih =>
    intro last s h
    rw [meekIterate_succ, meekIterate_succ, hel s h, hcore s h, meekIterExit_comm A hT, hT.surplus, hT.kf]
    cases meekIterExit A o omega last (meekIterElected A o s) (meekIterCore A o s) with
    | some r => rfl
    | none => exact ih _ _ (hI s h)

/-- the distribution of one iteration -/
def prfS2 (s : St α) : St α :=
  ({ zeroActiveVotes A s with residual := A.zero } : St α).ballots.foldl (prfBallotStep A) { zeroActiveVotes A s with residual := A.zero }

/-- totals and quota recomputed -/
def prfS4 (s : St α) : St α :=
  { ({ prfS2 A s with votes := activeVotes A (prfS2 A s) } : St α) with
    quota := A.add (A.fdivV (activeVotes A (prfS2 A s)) (A.ofInt ((prfS2 A s).seats + 1))) A.eps }

def prfWinners (s : St α) : List (Cand α) := (prfS4 A s).hopeful.filter (fun c => A.ge c.vote (prfS4 A s).quota)

def prfS5 (s : St α) : St α := (prfWinners A s).foldl (fun acc c => acc.elect A c.cid "Elect" false) (prfS4 A s)

def prfS6 (s : St α) : St α :=
  { prfS5 A s with surplus := if A.lt (A.sum ((prfS5 A s).elected.map (fun c => A.sub c.vote (prfS5 A s).quota))) A.zero then A.zero
                              else A.sum ((prfS5 A s).elected.map (fun c => A.sub c.vote (prfS5 A s).quota)) }

/-- the tests after a pass of the reference rule with result `c` -/
def prfIterExit (omega last : α) (el : Bool) (c : St α) : Option (St α × PStatus) :=
  if el then some (c, .elected)
  else if A.lt c.surplus omega then some (c, .omega)
  else if A.ge c.surplus last then some (c.logMsg "Stable state detected" [] (some c.surplus), .stable)
  else if (kfUpdate A false c).crash.isSome then some (kfUpdate A false c, .stable)
  else none

theorem prfIterate_succ (omega : α) (fuel : Nat) (last : α) (s : St α) :
    prfIterate A omega (fuel + 1) last s =
      match prfIterExit A omega last (!(prfWinners A s).isEmpty) (prfS6 A s) with
      | some r => r
      | none => prfIterate A omega fuel (prfS6 A s).surplus (kfUpdate A false (prfS6 A s)) := by
  show (if !(prfWinners A s).isEmpty then (prfS6 A s, PStatus.elected)
      else if A.lt (prfS6 A s).surplus omega then (prfS6 A s, .omega)
      else if A.ge (prfS6 A s).surplus last then ((prfS6 A s).logMsg "Stable state detected" [] (some (prfS6 A s).surplus), .stable)
      else if (kfUpdate A false (prfS6 A s)).crash.isSome then (kfUpdate A false (prfS6 A s), .stable)
      else prfIterate A omega fuel (prfS6 A s).surplus (kfUpdate A false (prfS6 A s))) = _
  unfold prfIterExit
  generalize prfS6 A s = c
  generalize (!(prfWinners A s).isEmpty) = el
  by_cases h1 : el = true
  · rw [if_pos h1, if_pos h1]
  · rw [if_neg h1, if_neg h1]
    by_cases h2 : A.lt c.surplus omega = true
    · rw [if_pos h2, if_pos h2]
    · rw [if_neg h2, if_neg h2]
      by_cases h3 : A.ge c.surplus last = true
      · rw [if_pos h3, if_pos h3]
      · rw [if_neg h3, if_neg h3]
        by_cases h5 : (kfUpdate A false c).crash.isSome = true
        · rw [if_pos h5, if_pos h5]
        · rw [if_neg h5, if_neg h5]

theorem prfIterate_elected (omega : α) (fuel : Nat) (last : α) (s : St α) (h : (prfWinners A s).isEmpty = false) :
    prfIterate A omega (fuel + 1) last s = (prfS6 A s, .elected) := by
  rw [prfIterate_succ, h]
  rfl

theorem prfIterExit_some {omega last : α} {el : Bool} {c : St α} {r : St α × PStatus}
    (h : prfIterExit A omega last el c = some r) :
    (r = (c, .elected) ∧ el = true)
    ∨ (r = (c, .omega) ∧ el = false ∧ A.lt c.surplus omega = true)
    ∨ (r = (c.logMsg "Stable state detected" [] (some c.surplus), .stable) ∧ el = false ∧ A.lt c.surplus omega = false
        ∧ A.ge c.surplus last = true)
    ∨ (r = (kfUpdate A false c, .stable) ∧ (kfUpdate A false c).crash.isSome = true) := by
  unfold prfIterExit at h
  by_cases h1 : el = true
  · rw [if_pos h1] at h
    exact Or.inl ⟨(Option.some.inj h).symm, h1⟩
  · rw [if_neg h1] at h
    have h1' : el = false := Bool.eq_false_iff.2 h1
    by_cases h2 : A.lt c.surplus omega = true
    · rw [if_pos h2] at h
      exact Or.inr (Or.inl ⟨(Option.some.inj h).symm, h1', h2⟩)
    · rw [if_neg h2] at h
      by_cases h3 : A.ge c.surplus last = true
      · rw [if_pos h3] at h
        exact Or.inr (Or.inr (Or.inl ⟨(Option.some.inj h).symm, h1', Bool.eq_false_iff.2 h2, h3⟩))
      · rw [if_neg h3] at h
        by_cases h5 : (kfUpdate A false c).crash.isSome = true
        · rw [if_pos h5] at h
          exact Or.inr (Or.inr (Or.inr ⟨(Option.some.inj h).symm, h5⟩))
        · rw [if_neg h5] at h
          cases h

theorem prfIterExit_fst {omega last : α} {el : Bool} {c : St α} {r : St α × PStatus}
    (h : prfIterExit A omega last el c = some r) :
    r.1 = c ∨ r.1 = c.logMsg "Stable state detected" [] (some c.surplus) ∨ r.1 = kfUpdate A false c := by
  rcases prfIterExit_some A h with ⟨e, _⟩ | ⟨e, _⟩ | ⟨e, _⟩ | ⟨e, _⟩
  · rw [e]; exact Or.inl rfl
  · rw [e]; exact Or.inl rfl
  · rw [e]; exact Or.inr (Or.inl rfl)
  · rw [e]; exact Or.inr (Or.inr rfl)

/-- out of fuel, the model of the reference rule raises the crash flag -/
theorem prfIterate_induct (omega : α) {P : St α → Prop} {Q : St α × PStatus → Prop}
    (hfuel : ∀ s, P s → Q (s.setCrash "FUEL", .stable))
    (hexit : ∀ last s r, P s → prfIterExit A omega last (!(prfWinners A s).isEmpty) (prfS6 A s) = some r → Q r)
    (hnext : ∀ last s, P s → prfIterExit A omega last (!(prfWinners A s).isEmpty) (prfS6 A s) = none →
      P (kfUpdate A false (prfS6 A s))) :
    ∀ (fuel : Nat) (last : α) (s : St α), P s → Q (prfIterate A omega fuel last s) := by
  intro fuel
  induction fuel with
  | zero => intro last s h; exact hfuel s h
  | succ n ih =>
    intro last s h
    rw [prfIterate_succ]
    cases he : prfIterExit A omega last (!(prfWinners A s).isEmpty) (prfS6 A s) with
    | some r => exact hexit last s r h he
    | none => exact ih _ _ (hnext last s h he)

theorem prfIterate_preserves (omega : α) {P : St α → Prop}
    (hcore : ∀ s, P s → P (prfS6 A s))
    (hkf : ∀ s, P s → P (kfUpdate A false s))
    (hmsg : ∀ s v, P s → P (s.logMsg "Stable state detected" [] v))
    (hfuel : ∀ s, P s → P (s.setCrash "FUEL")) :
    ∀ (fuel : Nat) (last : α) (s : St α), P s → P (prfIterate A omega fuel last s).1 := by
  apply prfIterate_induct A omega (Q := fun r => P r.1) hfuel
  · intro last s r h he
    rcases prfIterExit_fst A he with e | e | e
    · rw [e]; exact hcore s h
    · rw [e]; exact hmsg _ _ (hcore s h)
    · rw [e]; exact hkf _ (hcore s h)
  · intro last s h _
    exact hkf _ (hcore s h)

theorem prfIterExit_comm {T : St α → St α} (hT : IterBlind A T) (omega last : α) (el : Bool) (c : St α) :
    prfIterExit A omega last el (T c) = (prfIterExit A omega last el c).map (fun r => (T r.1, r.2)) := by
  unfold prfIterExit
  rw [hT.surplus, hT.kf, hT.crash, ← hT.logMsg]
  simp only [apply_ite (Option.map fun r : St α × PStatus => (T r.1, r.2)), Option.map_some, Option.map_none]

theorem prfIterate_comm {T : St α → St α} (hT : IterBlind A T) (omega : α) {I : St α → Prop}
    (hI : ∀ s, I s → I (kfUpdate A false (prfS6 A s)))
    (hwin : ∀ s, I s → prfWinners A (T s) = prfWinners A s)
    (hcore : ∀ s, I s → prfS6 A (T s) = T (prfS6 A s)) :
    ∀ (fuel : Nat) (last : α) (s : St α), I s →
      prfIterate A omega fuel last (T s) = (T (prfIterate A omega fuel last s).1, (prfIterate A omega fuel last s).2) := by
  intro fuel
  induction fuel with
  | zero =>
    intro last s _
    show ((T s).setCrash "FUEL", PStatus.stable) = (T (s.setCrash "FUEL"), PStatus.stable)
    rw [← hT.setCrash]
  | succ n ih =>
    intro last s h
    rw [prfIterate_succ, prfIterate_succ, hwin s h, hcore s h, prfIterExit_comm A hT, hT.surplus, hT.kf]
    cases prfIterExit A omega last (!(prfWinners A s).isEmpty) (prfS6 A s) with
    | some r => rfl
    | none => exact ih _ _ (hI s h)

end Droop
