import DroopProofs.QpqMon
import DroopProofs.StepComm

/-! # Transformers of states that a QPQ count commutes with

The QPQ counterpart of `MeekComm`.  On top of the selectors and primitive writes of `StepComm`, a QPQ round maps functions over
the candidate list that keep "withdrawn or not" (un-elect, zero the figures, set the quotients), maps per-ballot functions that do
not look at the multiplier over the ballot list (`MultEq`: reset, advance, set the contribution), folds `qTally` over the ballots
and writes the quota.  A transformer that commutes with these commutes with every stage of a round, with the decision, the loop,
the start and the closing stage.  Deleting the withdrawn candidates (`dropW`) and rearranging or splitting ballot lines (`xB`) are
the two instances. -/
namespace Droop
variable {α : Type} [CommRing α] [LinearOrder α] [IsStrictOrderedRing α] (A : Arith α)

/-- a per-ballot function that does not look at the multiplier -/
def MultEq (f : Ballot α → Ballot α) : Prop := ∀ (b : Ballot α) (m : Nat), f { b with mult := m } = { f b with mult := m }

theorem qAdvance_setMult (s : St α) (b : Ballot α) (m : Nat) : qAdvance s { b with mult := m } = { qAdvance s b with mult := m } := by
  unfold qAdvance advanceTo
  simp only
  cases (b.rank.drop b.idx).findIdx? (fun cid => s.isHopeful cid) <;> rfl

theorem multEq_reset (s : St α) (z : α) : MultEq (fun (b : Ballot α) => qAdvance s { b with idx := 0, w := z, residual := z }) :=
  fun b m => qAdvance_setMult s { b with idx := 0, w := z, residual := z } m

/-- on the ballots standing with `cid`: apply `g`, then advance -/
theorem multEq_adv (s : St α) (cid : Nat) (g : Ballot α → Ballot α) (hg : MultEq g) :
    MultEq (fun (b : Ballot α) => if b.top == some cid then qAdvance s (g b) else b) := by
  intro b m
  have ht : ({ b with mult := m } : Ballot α).top = b.top := rfl
  simp only [ht]
  split
  · rw [hg, qAdvance_setMult]
  · rfl

theorem multEq_setW (z : α) : MultEq (fun (b : Ballot α) => { b with w := z }) := fun _ _ => rfl

def liftQ (T : St α → St α) (q : QSt α) : QSt α := { q with s := T q.s }

structure QComm (T : St α → St α) (G : Prop) : Prop where
  step : StepComm A T G
  isHopeful : ∀ s, (fun cid => (T s).isHopeful cid) = fun cid => s.isHopeful cid
  /-- a map over the candidate list that keeps "withdrawn or not" -/
  mapCands : ∀ (s : St α) (f : Cand α → Cand α), (∀ c, nonW (f c) = nonW c) →
    T ({ s with cands := s.cands.map f } : St α) = { T s with cands := (T s).cands.map f }
  mapB : ∀ (s : St α) (g : Ballot α → Ballot α), MultEq g → T (mapBallots s g) = mapBallots (T s) g
  setQuota : ∀ (s : St α) (v : α), T ({ s with quota := v } : St α) = { T s with quota := v }
  tallyB : ∀ (s : St α) (acc : QSt α), (T s).ballots.foldl (qTally A) acc = s.ballots.foldl (qTally A) acc
  vaSum : ∀ s : St α, A.sum (((T s).ballots.filter (fun b => !b.exhaustedB)).map (fun b => A.ofInt b.mult))
    = A.sum ((s.ballots.filter (fun b => !b.exhaustedB)).map (fun b => A.ofInt b.mult))

namespace QComm
variable {A} {T : St α → St α} {G : Prop} (C : QComm A T G)
include C

theorem qAdvance (s : St α) : Droop.qAdvance (T s) = Droop.qAdvance s := by
  funext b; unfold Droop.qAdvance; rw [C.isHopeful]

theorem unElect (s : St α) : T (Droop.unElect s) = Droop.unElect (T s) :=
  C.mapCands s _ (fun c => by
    unfold nonW
    by_cases h : (c.st == CState.elected) = true
    · rw [if_pos h, show c.st = .elected by simpa using h]; rfl
    · rw [if_neg h])

theorem qR2 (q : QSt α) : T (Droop.qR2 A q) = Droop.qR2 A (liftQ T q) := by
  have e : Droop.qAdvance (Droop.unElect (T (q.s.newRound A))) = Droop.qAdvance (Droop.unElect (q.s.newRound A)) := by
    rw [← C.unElect, C.qAdvance]
  unfold Droop.qR2 qR1 qRestart
  show _ = if q.restart then _ else _
  split
  · rw [C.mapB _ _ (multEq_reset _ A.zero), C.unElect, ← e, C.step.newRound]; rfl
  · exact C.step.newRound q.s

theorem qR3 (q : QSt α) : T (Droop.qR3 A q) = Droop.qR3 A (liftQ T q) := by
  unfold Droop.qR3
  rw [C.mapCands _ _ (fun c => by unfold nonW; split <;> rfl), C.qR2]

theorem qTally (acc : QSt α) (b : Ballot α) : Droop.qTally A (liftQ T acc) b = liftQ T (Droop.qTally A acc b) := by
  unfold Droop.qTally liftQ
  split
  · rfl
  · simp only
    congr 1
    symm
    apply C.step.keep
    exact fun _ => rfl

theorem qQ1 (q : QSt α) : liftQ T (Droop.qQ1 A q) = Droop.qQ1 A (liftQ T q) := by
  unfold Droop.qQ1
  rw [← C.qR3, C.tallyB]
  exact (List.foldl_hom (liftQ T) (H := fun x y => C.qTally x y)).symm

theorem qR4 (q : QSt α) : T (Droop.qR4 A q) = Droop.qR4 A (liftQ T q) := by
  unfold Droop.qR4
  rw [C.mapCands _ _ (fun c => by unfold nonW; split <;> rfl), ← C.qQ1]
  rfl

theorem qR5 (q : QSt α) : T (Droop.qR5 A q) = Droop.qR5 A (liftQ T q) := by
  have hq : qpqQuota A { Droop.qQ1 A (liftQ T q) with s := Droop.qR4 A (liftQ T q) }
      = qpqQuota A { Droop.qQ1 A q with s := Droop.qR4 A q } := by
    unfold qpqQuota
    rw [← C.qQ1, ← C.qR4]
    simp only [C.step.seats]
    rfl
  unfold Droop.qR5
  rw [hq]
  split
  · rw [C.step.setCrash, C.setQuota, C.qR4]
  · rw [C.setQuota, C.qR4]

theorem qElected {s6 : St α} (hwf : G → s6.WF) (hc : Cand α) (h : G → NonWId s6 hc.cid) :
    T (Droop.qElected A s6 hc) = Droop.qElected A (T s6) hc := by
  unfold Droop.qElected
  split
  · rw [C.step.setCrash, C.step.elect hwf h]
  · exact C.step.elect hwf h _ _

theorem qElectK (q1 : QSt α) {s6 : St α} (hwf : G → s6.WF) (hc : Cand α) (h : G → NonWId s6 hc.cid) :
    Droop.qElectK A (liftQ T q1) (T s6) hc = (liftQ T (Droop.qElectK A q1 s6 hc).1, .cont) := by
  have e : Droop.qAdvance (Droop.qElected A (T s6) hc) = Droop.qAdvance (Droop.qElected A s6 hc) := by
    rw [← C.qElected hwf hc h, C.qAdvance]
  unfold Droop.qElectK liftQ
  simp only
  rw [C.step.logAct, C.mapB _ _ (multEq_adv _ _ _ (multEq_setW _)), C.qElected hwf hc h, e]

theorem qDefeatK (q1 : QSt α) {s6 : St α} (hwf : G → s6.WF) (lc : Cand α) (h : G → NonWId s6 lc.cid) :
    Droop.qDefeatK A (liftQ T q1) (T s6) lc = (liftQ T (Droop.qDefeatK A q1 s6 lc).1, .cont) := by
  have e : Droop.qAdvance ((T s6).defeat A lc.cid "Defeat low quotient") = Droop.qAdvance (s6.defeat A lc.cid "Defeat low quotient") := by
    rw [← C.step.defeat hwf h, C.qAdvance]
  unfold Droop.qDefeatK liftQ
  simp only
  rw [C.step.logAct, C.mapB _ _ (multEq_adv _ _ (fun b => b) (fun _ _ => rfl)), C.step.defeat hwf h, e]

/-- the one tie-break of a decision: whoever is picked is hopeful, so `k` may ask for what `dropW` needs -/
theorem qTie (q1 : QSt α) {s5 : St α} (hwf : G → s5.WF) (v : α) (verb : String) (k k' : St α → Cand α → QSt α × Flow)
    (hk : ∀ s6 c, (G → s6.WF) → (G → NonWId s6 c.cid) → k' (T s6) c = (liftQ T (k s6 c).1, (k s6 c).2)) :
    Droop.qTie A (liftQ T q1) (T s5) v verb k' = (liftQ T (Droop.qTie A q1 s5 v verb k).1, (Droop.qTie A q1 s5 v verb k).2) := by
  unfold Droop.qTie
  rw [C.step.hopeful, C.step.breakTie]
  cases hb : breakTie A s5 (s5.hopeful.filter (fun c => A.eq (qQuot A c) v)) verb with
  | mk s6 oc =>
    cases oc with
    | none => rfl
    | some c =>
      obtain ⟨h1, h2⟩ := breakTie_pick A hwf (fun w hw _ => nonWId_of_hopeful (List.mem_filter.1 hw).1) hb
      exact hk s6 c h1 h2

theorem qDecide (q1 : QSt α) {s5 : St α} (hwf : G → s5.WF) :
    Droop.qDecide A (liftQ T q1) (T s5) = (liftQ T (Droop.qDecide A q1 s5).1, (Droop.qDecide A q1 s5).2) := by
  cases hh : s5.hopeful with
  | nil => rw [qDecide_nil A _ hh, qDecide_nil A _ ((C.step.hopeful s5).trans hh), ← C.step.setCrash]; rfl
  | cons hd hs =>
    rw [qDecide_cons A _ hh, qDecide_cons A _ ((C.step.hopeful s5).trans hh), C.step.quota]
    split
    · exact C.qTie q1 hwf _ _ _ _ (fun s6 c h1 h2 => C.qElectK q1 h1 c h2)
    · exact C.qTie q1 hwf _ _ _ _ (fun s6 c h1 h2 => C.qDefeatK q1 h1 c h2)

theorem body (q : QSt α) (hwf : G → q.s.WF) :
    qpqBody A (liftQ T q) = (liftQ T (qpqBody A q).1, (qpqBody A q).2) := by
  rw [qpqBody_eq, qpqBody_eq, ← C.qQ1, ← C.qR5]
  exact C.qDecide _ (fun g => (qR5_counts A q).2.2 (hwf g))

theorem complete (s : St α) : qpqCountComplete (T s) = qpqCountComplete s := by
  unfold qpqCountComplete
  rw [C.step.hopeful, C.step.seatsLeft]

theorem loop : ∀ (fuel : Nat) (q : QSt α), (G → q.s.WF) → qpqLoop A fuel (liftQ T q) = (qpqLoop A fuel q).map (liftQ T) :=
  qpqLoop_comm A (liftQ T) (fun q => G → q.s.WF) (fun q => congrArg Option.isSome (C.step.crash q.s)) (fun q => C.complete q.s)
    (fun q hwf => ⟨C.body q hwf, fun g => (qpqBody_fwd A q (hwf g)).WF (hwf g)⟩)

theorem start (s0 : St α) : liftQ T (qpqStart A s0) = qpqStart A (T s0) := by
  have hva : qVA A (T s0) = qVA A s0 := C.vaSum s0
  have h1 : T (qS1 A s0) = qS1 A (T s0) := C.mapCands s0 _ (fun c => by unfold nonW; split <;> rfl)
  unfold qpqStart liftQ
  simp only
  rw [hva, C.step.logAct, C.mapB _ _ (multEq_setW A.zero), C.setQuota, h1]
  unfold qpqQuota
  simp only [← h1, C.step.seats]

theorem finish (q : QSt α) (hwf : G → q.s.WF) : T (qpqFinish A q) = qpqFinish A (liftQ T q) := by
  rw [qpqFinish_eq, qpqFinish_eq]
  show _ = if (T q.s).crash.isSome then T q.s else defeatRest A (fitElect A (T q.s))
  have h4 : T (fitElect A q.s) = fitElect A (T q.s) ∧ (G → (fitElect A q.s).WF) := by
    unfold fitElect
    rw [C.step.hopeful, C.step.seatsLeft]
    split
    · exact ⟨C.step.foldElect _ (fun _ => "Elect remaining candidates") (fun _ => false) hwf (fun w hw _ => nonWId_of_hopeful hw),
        fun g => (electAll_fwd A true _ (hwf g)).WF (hwf g)⟩
    · exact ⟨rfl, hwf⟩
  rw [← h4.1, C.step.crash]
  split
  · rfl
  · unfold defeatRest
    rw [C.step.hopeful]
    exact C.step.foldDefeat _ (fun _ => "Defeat remaining candidates") h4.2 (fun w hw _ => nonWId_of_hopeful hw)

/-- the count with any fuel: start, loop, closing stage -/
theorem run (s0 : St α) (hwf : s0.WF) (fuel : Nat) :
    (qpqLoop A fuel (qpqStart A (T s0))).map (qpqFinish A) = ((qpqLoop A fuel (qpqStart A s0)).map (qpqFinish A)).map T := by
  have hwf1 : (qpqStart A s0).s.WF := WF_of_stsig (qpqStart_stsig A s0) hwf
  rw [← C.start, C.loop fuel _ (fun _ => hwf1)]
  cases hl : qpqLoop A fuel (qpqStart A s0) with
  | none => rfl
  | some r =>
    simp only [Option.map_some]
    rw [C.finish r (fun _ => (qpqLoop_fwd A fuel _ r hwf1 hl).WF hwf1)]

end QComm
end Droop
