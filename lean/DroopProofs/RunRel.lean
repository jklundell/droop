import DroopProofs.RunCommon

/-! # The Scottish, CfER and Minneapolis rounds respect every `StepRel`

The walk of `StepRel.lean` continued through the steps, rounds, epilogues and whole counts of the three other rule families.
One more instance lives here: the round counter never goes back (`stepRel_round`), which is all the CfER round invariant
needs to know about it. -/
namespace Droop
variable {α : Type} (A : Arith α)

namespace StepRel
variable {A} {R : St α → St α → Prop} (hR : StepRel A R)
include hR

theorem scotBreakTie (s : St α) (tied : List (Cand α)) (lowest : Bool) (reason : String) :
    R s (Droop.scotBreakTie A s tied lowest reason).1 := by
  unfold Droop.scotBreakTie
  split
  · exact hR.setCrash s _
  · exact hR.refl s
  · dsimp only
    split <;> exact hR.logAct s _ _ _

theorem scotSurplusStep (s : St α) : R s (Droop.scotSurplusStep A s) := by
  unfold Droop.scotSurplusStep
  split
  · exact hR.refl s
  · rename_i hv _
    have hb := hR.scotBreakTie s (s.pendingL.filter (fun c => A.eq c.vote hv)) false "largest surplus"
    split
    · rename_i s3 hc heq
      rw [heq] at hb
      exact hR.trans hb (hR.trans (hR.unpendLog _ _ _) (hR.transferSurplus _ _ _ _))
    · rename_i s3 heq
      rw [heq] at hb; exact hb

theorem scotDefeatStep (s : St α) : R s (Droop.scotDefeatStep A s) := by
  unfold Droop.scotDefeatStep
  split
  · exact hR.refl s
  · rename_i lv _
    have hb := hR.scotBreakTie s (s.hopeful.filter (fun c => A.eq c.vote lv)) true "defeat low candidate"
    split
    · rename_i s3 lc heq
      rw [heq] at hb
      exact hR.trans hb (hR.trans (hR.defeat _ _ _) (hR.transferDefeated _ _ _))
    · rename_i s3 heq
      rw [heq] at hb; exact hb

theorem scotRound (s : St α) : R s (Droop.scotRound A s) :=
  hR.trans (hR.newRound s) (hR.setSurplus _ _)

theorem scotStage (s : St α) : R s (Droop.scotStage A s).1 := by
  unfold Droop.scotStage scotFinish
  split
  · exact hR.scotSurplusStep s
  · split
    · split <;> exact hR.scotDefeatStep s
    · split <;> exact hR.refl s

theorem scotBody (s : St α) : R s (Droop.scotBody A s).1 := by
  have h1 : R s (scotElect A s) := hR.electWinners _ _ _ s
  unfold Droop.scotBody
  split
  · exact h1
  · exact hR.trans h1 (hR.trans (hR.scotRound _) (hR.scotStage _))

theorem scotEpilogue (s : St α) : R s (Droop.scotEpilogue A s) := by
  unfold Droop.scotEpilogue
  dsimp only
  refine hR.trans (hR.foldUnpend s.pendingL s) (hR.trans ?_ (hR.foldDefeat _ (fun _ => _) _))
  split
  · exact hR.foldElect _ (fun _ => _) (fun _ => false) _
  · exact hR.refl _

theorem scotCount (s0 t : St α) (h : Droop.scotCount A s0 = some t) : R (scotInit A s0) t := by
  rw [scotCount_eq] at h
  obtain ⟨s4, hl, rfl⟩ := Option.map_eq_some_iff.1 h
  exact hR.trans (hR.loopN _ _ hR.scotBody _ _ _ hl) (hR.scotEpilogue s4)

theorem cferFinishDefeats (s : St α) (defeats : List (Cand α)) : R s (Droop.cferFinishDefeats A s defeats).1 := by
  unfold Droop.cferFinishDefeats
  split
  · exact hR.trans (hR.foldElect _ (fun _ => _) (fun _ => false) _) (hR.foldElect _ (fun _ => _) (fun _ => false) _)
  · exact hR.transferDefeated _ _ _

theorem cferSurplusOne (acc : St α) (c : Cand α) : R acc (Droop.cferSurplusOne A acc c) := by
  unfold Droop.cferSurplusOne
  split
  · exact hR.trans (hR.unpendLog _ _ _) (hR.transferSurplus _ _ _ _)
  · exact hR.refl _

theorem cferDefeatLow (s : St α) : R s (Droop.cferDefeatLow A s).1 := by
  unfold Droop.cferDefeatLow
  split
  · exact hR.setCrash _ _
  · rename_i lv _
    have hb := hR.breakTie s (s.hopeful.filter (fun c => A.eq c.vote lv)) "Break tie (defeat)"
    split
    · rename_i s3 lc heq
      rw [heq] at hb
      exact hR.trans hb (hR.trans (hR.defeat _ _ _) (hR.cferFinishDefeats _ _))
    · rename_i s3 heq
      rw [heq] at hb; exact hb

theorem cferAfterElect (batch : Bool) (s : St α) : R s (Droop.cferAfterElect A batch s).1 := by
  unfold Droop.cferAfterElect
  generalize (if batch then cferBatch A s else []) = defeats
  split
  · exact hR.trans (hR.foldUnpend _ _) (hR.foldDefeat _ (fun _ => _) _)
  · split
    · exact hR.trans (hR.foldDefeat _ (fun _ => _) _) (hR.cferFinishDefeats _ _)
    · split
      · exact hR.foldl _ hR.cferSurplusOne _ _
      · exact hR.cferDefeatLow s

/-- the part of a CfER round after `New Round` -/
theorem cferAfterRound (batch : Bool) (s : St α) : R (s.newRound A) (Droop.cferBody A batch s).1 := by
  unfold Droop.cferBody
  split
  · exact hR.foldElect _ (fun _ => _) (fun _ => false) _
  · exact hR.trans (hR.electWinners _ _ _ _) (hR.cferAfterElect batch _)

theorem cferBody (batch : Bool) (s : St α) : R s (Droop.cferBody A batch s).1 :=
  hR.trans (hR.newRound s) (hR.cferAfterRound batch s)

theorem cferCount (batch : Bool) (s0 t : St α) (h : Droop.cferCount A batch s0 = some t) : R (cferInit A s0) t :=
  hR.loopN _ _ (hR.cferBody batch) _ _ _ h

theorem mplsLogTransfer (s : St α) (verb : String) (subj : List Nat) : R s (Droop.mplsLogTransfer A s verb subj) :=
  hR.trans (hR.setSurplus _ _) (hR.logAct _ _ _ _)

theorem mplsCountVotes (s : St α) : R s (Droop.mplsCountVotes A s) :=
  hR.trans (hR.setSurplus _ _) (hR.logAct _ _ _ _)

theorem mplsDefeatMany (s : St α) (l : List (Cand α)) : R s (Droop.mplsDefeatMany A s l).1 :=
  hR.trans (hR.foldDefeat l mplsDefeatVerb s) (hR.trans (hR.transferAll _ _ _)
    (hR.trans (hR.foldl (fun (acc : St α) (c : Nat) => acc.setVote c A.zero) (fun t c => hR.upd t c _ (by intro _; rfl)) _ _)
      (hR.mplsLogTransfer _ _ _)))

theorem mplsElectSurplus (s : St α) (hwq : List (Cand α)) (hv : α) : R s (Droop.mplsElectSurplus A s hwq hv).1 := by
  unfold Droop.mplsElectSurplus
  have hb := hR.breakTie s (hwq.filter (fun c => A.eq c.vote hv)) "Break tie (largest surplus)"
  split
  · rename_i s3 hc heq
    rw [heq] at hb
    exact hR.trans hb (hR.trans (hR.elect _ _ _ _) (hR.trans (hR.transferAll _ _ _)
      (hR.trans (hR.upd _ _ _ (by intro _; rfl)) (hR.mplsLogTransfer _ _ _))))
  · rename_i s3 heq
    rw [heq] at hb; exact hb

theorem mplsAfterDefeatLow (s : St α) (lc : Cand α) : R s (Droop.mplsAfterDefeatLow A s lc) := by
  unfold Droop.mplsAfterDefeatLow
  split
  · exact hR.trans (hR.transferAll _ _ _) (hR.trans (hR.upd _ _ _ (by intro _; rfl)) (hR.mplsLogTransfer _ _ _))
  · exact hR.refl _

theorem mplsDefeatLow (s : St α) : R s (Droop.mplsDefeatLow A s) := by
  unfold Droop.mplsDefeatLow
  split
  · split
    · exact hR.refl s
    · rename_i lv _
      have hb := hR.breakTie s (s.hopeful.filter (fun c => A.eq c.vote lv)) "Break tie (defeat low candidate)"
      split
      · rename_i s3 lc heq
        rw [heq] at hb
        exact hR.trans hb (hR.trans (hR.defeat _ _ _) (hR.mplsAfterDefeatLow _ _))
      · rename_i s3 heq
        rw [heq] at hb; exact hb
  · exact hR.refl s

theorem mplsRound (s : St α) : R s (Droop.mplsRound A s).1 := by
  unfold Droop.mplsRound
  split
  · exact hR.mplsDefeatMany s _
  · split
    · exact hR.mplsElectSurplus s _ _
    · unfold mplsFinish
      split <;> exact hR.mplsDefeatLow s

theorem mplsBody (s : St α) : R s (Droop.mplsBody A s).1 := by
  unfold Droop.mplsBody
  split
  · exact hR.trans (hR.mplsCountVotes s) (hR.foldElect _ (fun _ => _) (fun _ => false) _)
  · exact hR.trans (hR.mplsCountVotes s) (hR.trans (hR.newRound _) (hR.mplsRound _))

theorem mplsEpilogue (s : St α) : R s (Droop.mplsEpilogue A s) := by
  unfold Droop.mplsEpilogue
  refine hR.trans ?_ (hR.foldDefeat _ (fun _ => _) _)
  split
  · exact hR.foldElect _ (fun _ => _) (fun _ => false) _
  · exact hR.refl _

theorem mplsCount (s0 t : St α) (h : Droop.mplsCount A s0 = some t) : R (mplsInit A s0) t := by
  rw [mplsCount_eq] at h
  obtain ⟨s4, hl, rfl⟩ := Option.map_eq_some_iff.1 h
  exact hR.trans (hR.loopN _ _ hR.mplsBody _ _ _ hl) (hR.mplsEpilogue s4)

end StepRel

/-- the round counter never goes back -/
theorem stepRel_round [CommRing α] [LinearOrder α] [IsStrictOrderedRing α] : StepRel A (fun s t : St α => s.round ≤ t.round) :=
  ⟨fun _ => Nat.le_refl _, Nat.le_trans, fun s _ _ _ => (round_logAct A s _ _ _).ge, fun _ _ _ _ => Nat.le_refl _,
    fun s k => by unfold St.setCrash; split <;> exact Nat.le_refl _, fun _ _ => Nat.le_refl _, fun s => Nat.le_succ s.round,
    fun s cids rew => (TransferBlind.round.transferAll (A := A) s cids rew).ge⟩

end Droop
