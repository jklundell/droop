import DroopProofs.Inv

/-! # Ballot transfers keep the bundle

`transferAll` keeps every field of `Inv` but conservation, whatever is moved.  For the two transfers the rules make the total is
known exactly — after a surplus transfer the old total plus what the ballots carry away minus the surplus, after an exclusion
transfer the old total — and conservation follows, as does the lower bound of `Lower.lean`. -/
namespace Droop
variable {α : Type} [CommRing α] [LinearOrder α] [IsStrictOrderedRing α] (A : Arith α)

theorem transferAll_method (s : St α) (cids : List Nat) (rew : α → α) : (transferAll A s cids rew).method = s.method :=
  TransferBlind.method.transferAll s cids rew
theorem transferAll_acts (s : St α) (cids : List Nat) (rew : α → α) : (transferAll A s cids rew).acts = s.acts :=
  TransferBlind.acts.transferAll s cids rew
theorem transferAll_quota (s : St α) (cids : List Nat) (rew : α → α) : (transferAll A s cids rew).quota = s.quota :=
  TransferBlind.quota.transferAll s cids rew
theorem transferAll_nballots (s : St α) (cids : List Nat) (rew : α → α) : (transferAll A s cids rew).nballots = s.nballots :=
  TransferBlind.nballots.transferAll s cids rew

theorem nodup_cid_eq {l : List (Cand α)} (h : (l.map (·.cid)).Nodup) {a b : Cand α} (ha : a ∈ l) (hb : b ∈ l)
    (hab : a.cid = b.cid) : a = b := by
  induction l with
  | nil => simp at ha
  | cons x xs ih =>
    simp only [List.map_cons, List.nodup_cons, List.mem_map, not_exists, not_and] at h
    rcases List.mem_cons.mp ha with rfl | ha' <;> rcases List.mem_cons.mp hb with rfl | hb'
    · rfl
    · exact absurd hab.symm (h.1 b hb')
    · exact absurd hab (h.1 a ha')
    · exact ih h.2 ha' hb'

theorem voteOf_of_mem {s : St α} (hwf : s.WF) {c : Cand α} (hc : c ∈ s.cands) : s.voteOf c.cid = c.vote := by
  unfold St.voteOf St.cand?
  have hsome : (s.cands.find? (fun x => x.cid == c.cid)).isSome := by
    rw [List.find?_isSome]; exact ⟨c, hc, by simp⟩
  obtain ⟨x, hx⟩ := Option.isSome_iff_exists.1 hsome
  have hxm := List.mem_of_find?_eq_some hx
  have hxc : x.cid = c.cid := by have := List.find?_some hx; simpa using this
  have : x = c := nodup_cid_eq hwf hxm hc hxc
  rw [hx, this]

theorem mem_of_skel_eq {s t : St α} (h : t.skel = s.skel) {c' : Cand α} (hc' : c' ∈ t.cands) :
    ∃ c ∈ s.cands, c.skel = c'.skel := by
  have : c'.skel ∈ t.skel := List.mem_map.2 ⟨c', hc', rfl⟩
  rw [h] at this
  obtain ⟨c, hc, hsk⟩ := List.mem_map.1 this
  exact ⟨c, hc, hsk⟩

theorem skel_cid {c c' : Cand α} (h : c.skel = c'.skel) : c.cid = c'.cid := by
  unfold Cand.skel at h; exact (Prod.mk.inj h).1
theorem skel_st {c c' : Cand α} (h : c.skel = c'.skel) : c.st = c'.st ∧ c.pending = c'.pending := by
  unfold Cand.skel at h
  simp only [Prod.mk.injEq] at h
  exact ⟨h.2.2.2.2.1, h.2.2.2.2.2⟩

theorem contrib_nonneg (hA : LawfulArith A) (s : St α) (cids : List Nat) (rew : α → α) (d : Nat) (b : Ballot α)
    (hw : 0 ≤ rew b.w) : 0 ≤ contrib A s cids rew d b := by
  unfold contrib
  split
  · split
    · split
      · rw [bvote_eq A hA]
        have hm : (0 : α) ≤ (((moveBallot s cids rew b).mult : Int) : α) := by exact_mod_cast Nat.zero_le _
        have hwm : (moveBallot s cids rew b).w = rew b.w := by
          unfold moveBallot
          rename_i c hc hcon _
          have hmem : c ∈ cids := by simpa using hcon
          simp [hc, hmem, advanceTo_w]
        rw [hwm]; exact mul_nonneg hw hm
      · exact le_refl 0
    · exact le_refl 0
  · exact le_refl 0

theorem sum_nonneg' {β : Type} (l : List β) (f : β → α) (h : ∀ x ∈ l, 0 ≤ f x) : 0 ≤ (l.map f).sum := by
  induction l with
  | nil => simp
  | cons x xs ih =>
    simp only [List.map_cons, List.sum_cons]
    exact add_nonneg (h x (by simp)) (ih (fun y hy => h y (by simp [hy])))

theorem advanceTo_top_cont (cont : Nat → Bool) (b : Ballot α) (c : Nat) (h : (advanceTo cont b).top = some c) :
    cont c = true := by
  unfold advanceTo at h
  cases hf : (b.rank.drop b.idx).findIdx? cont with
  | none =>
    rw [hf] at h
    simp [Ballot.top] at h
  | some k =>
    rw [hf] at h
    simp only [Ballot.top] at h
    have hk := List.findIdx?_eq_some_iff_getElem.1 hf
    obtain ⟨hlt, hck, _⟩ := hk
    have : (b.rank.drop b.idx)[k]? = some c := by
      rw [List.getElem?_drop]; exact h
    have : (b.rank.drop b.idx)[k] = c := by
      rw [List.getElem?_eq_getElem hlt] at this; exact Option.some.inj this
    rw [← this]; exact hck

theorem contrib_eq_zero_of_not_hopeful (s : St α) (cids : List Nat) (rew : α → α) (d : Nat) (b : Ballot α)
    (hd : s.isHopeful d = false) : contrib A s cids rew d b = 0 := by
  unfold contrib
  cases htop : b.top with
  | none => rfl
  | some c =>
    by_cases hc : c ∈ cids
    · simp only [List.contains_iff_mem, hc, if_true]
      split
      · rename_i hdest
        exfalso
        have : (moveBallot s cids rew b) = advanceTo (fun cid => s.isHopeful cid) { b with w := rew b.w } := by
          unfold moveBallot; simp [htop, hc]
        rw [this] at hdest
        have := advanceTo_top_cont _ _ _ hdest
        rw [hd] at this; exact absurd this (by decide)
      · rfl
    · simp [hc]

theorem transferAll_wpos (s : St α) (cids : List Nat) (rew : α → α)
    (hw : ∀ b ∈ s.ballots, 0 ≤ b.w) (hr : ∀ b ∈ s.ballots, 0 ≤ rew b.w) :
    ∀ b ∈ (transferAll A s cids rew).ballots, 0 ≤ b.w := by
  rw [transferAll_ballots]
  intro b' hb'
  obtain ⟨b, hb, rfl⟩ := List.mem_map.1 hb'
  unfold moveBallot
  split
  · split
    · rw [advanceTo_w]; exact hr b hb
    · exact hw b hb
  · exact hw b hb

theorem moveBallot_rank (s : St α) (cids : List Nat) (rew : α → α) (b : Ballot α) :
    (moveBallot s cids rew b).rank = b.rank := by
  unfold moveBallot
  split
  · split
    · rw [advanceTo_rank]
    · rfl
  · rfl

theorem transferAll_bwf (s : St α) (cids : List Nat) (rew : α → α) (h : BallotsWF s) :
    BallotsWF (transferAll A s cids rew) := by
  intro b' hb' cid hcid
  rw [transferAll_ballots] at hb'
  obtain ⟨b, hb, rfl⟩ := List.mem_map.1 hb'
  rw [moveBallot_rank] at hcid
  rw [cand?_isSome_of_skel (transferAll_skel A s cids rew)]
  exact h b hb cid hcid

theorem tstep_epos (hA : LawfulArith A) (cids : List Nat) (rew : α → α) (acc : St α × List (Ballot α)) (b : Ballot α)
    (hr : 0 ≤ rew b.w) (he : 0 ≤ acc.1.exhausted) : 0 ≤ (tstep A cids rew acc b).1.exhausted := by
  unfold tstep
  split
  · split
    · unfold transferBallot
      split
      · exact he
      · simp only [hA.add_eq]
        apply add_nonneg he
        rw [bvote_eq A hA, advanceTo_w, advanceTo_mult]
        exact mul_nonneg hr (by exact_mod_cast Nat.zero_le _)
    · exact he
  · exact he

theorem foldl_tstep_epos (hA : LawfulArith A) (cids : List Nat) (rew : α → α) (bs : List (Ballot α))
    (acc : St α × List (Ballot α)) (hr : ∀ b ∈ bs, 0 ≤ rew b.w) (he : 0 ≤ acc.1.exhausted) :
    0 ≤ (bs.foldl (tstep A cids rew) acc).1.exhausted := by
  induction bs generalizing acc with
  | nil => exact he
  | cons b bs ih =>
    simp only [List.foldl_cons]
    exact ih _ (fun b' hb' => hr b' (by simp [hb'])) (tstep_epos A hA cids rew acc b (hr b (by simp)) he)

theorem transferAll_epos (hA : LawfulArith A) (s : St α) (cids : List Nat) (rew : α → α)
    (hr : ∀ b ∈ s.ballots, 0 ≤ rew b.w) (he : 0 ≤ s.exhausted) : 0 ≤ (transferAll A s cids rew).exhausted := by
  have := foldl_tstep_epos A hA cids rew s.ballots (s, []) hr he
  simpa [transferAll] using this

/-- every field of the bundle except `cons`, for the state right after `transferAll` -/
structure InvNoCons (s : St α) : Prop where
  meth : s.method = .wigm
  recOK : RecOK A s
  wf   : s.WF
  bwf  : BallotsWF s
  wpos : ∀ b ∈ s.ballots, 0 ≤ b.w
  vpos : ∀ c ∈ s.cands, 0 ≤ c.vote
  epos : 0 ≤ s.exhausted
  qpos : 0 < s.quota
  i1   : ∀ c ∈ s.cands, c.inScope → c.vote = s.tally A c.cid
  pq   : ∀ c ∈ s.cands, c.st = .elected → c.pending = true → s.quota ≤ c.vote

theorem Inv.toNoCons {s : St α} (h : Inv A s) : InvNoCons A s :=
  ⟨h.meth, h.recOK, h.wf, h.bwf, h.wpos, h.vpos, h.epos, h.qpos, h.i1, h.pq⟩

theorem Inv.transferAll_noCons (hA : LawfulArith A) {s : St α} (h : Inv A s) (cids : List Nat) (rew : α → α)
    (hscope : ∀ c ∈ s.cands, c.inScope → c.cid ∉ cids)
    (hr : ∀ b ∈ s.ballots, 0 ≤ rew b.w) :
    InvNoCons A (transferAll A s cids rew) := by
  have hskel := transferAll_skel A s cids rew
  have hLA := lawfulAdd_of hA
  -- each candidate of the new state corresponds to an old one with vote = old + arrivals
  have hcorr : ∀ c' ∈ (transferAll A s cids rew).cands, ∃ c ∈ s.cands, c.skel = c'.skel ∧
      c'.vote = c.vote + (s.ballots.map (contrib A s cids rew c.cid)).sum := by
    intro c' hc'
    obtain ⟨c, hc, hsk⟩ := mem_of_skel_eq hskel hc'
    refine ⟨c, hc, hsk, ?_⟩
    have hwf' : (transferAll A s cids rew).WF := WF_of_skel hskel.symm h.wf
    have h1 := voteOf_of_mem hwf' hc'
    have h2 := voteOf_of_mem h.wf hc
    have h3 := transferAll_voteOf A hLA s h.bwf cids rew c'.cid
    rw [h1, ← skel_cid hsk, h2] at h3
    exact h3
  have hcontrib : ∀ d, 0 ≤ (s.ballots.map (contrib A s cids rew d)).sum := by
    intro d; apply sum_nonneg'
    intro b hb; exact contrib_nonneg A hA s cids rew d b (hr b hb)
  exact
    { meth := by rw [transferAll_method]; exact h.meth
      recOK := by unfold RecOK; rw [transferAll_acts, transferAll_nballots]; exact h.recOK
      wf := WF_of_skel hskel.symm h.wf
      bwf := transferAll_bwf A s cids rew h.bwf
      wpos := transferAll_wpos A s cids rew h.wpos hr
      vpos := by
        intro c' hc'
        obtain ⟨c, hc, _, hv⟩ := hcorr c' hc'
        rw [hv]; exact add_nonneg (h.vpos c hc) (hcontrib c.cid)
      epos := transferAll_epos A hA s cids rew hr h.epos
      qpos := by rw [transferAll_quota]; exact h.qpos
      i1 := by
        intro c' hc' hs
        obtain ⟨c, hc, hsk, _⟩ := hcorr c' hc'
        have hst := skel_st hsk
        have hsc : c.inScope := by
          unfold Cand.inScope at hs ⊢; rw [hst.1, hst.2]; exact hs
        have hnot : cids.contains c.cid = false := by
          have := hscope c hc hsc; simpa using this
        have hwf' : (transferAll A s cids rew).WF := WF_of_skel hskel.symm h.wf
        have hI : s.voteOf c.cid = s.tally A c.cid := by rw [voteOf_of_mem h.wf hc]; exact h.i1 c hc hsc
        have := transferAll_tally A hLA s h.bwf cids rew c.cid hnot hI
        rw [skel_cid hsk, voteOf_of_mem hwf' hc'] at this
        exact this
      pq := by
        intro c' hc' h1 h2
        obtain ⟨c, hc, hsk, hv⟩ := hcorr c' hc'
        have hst := skel_st hsk
        rw [transferAll_quota, hv]
        have := h.pq c hc (hst.1.trans h1) (hst.2.trans h2)
        linarith [hcontrib c.cid] }

theorem sum_votes_set (l : List (Cand α)) (cid : Nat) (v : α) (x : Cand α)
    (hnd : (l.map (·.cid)).Nodup) (hx : x ∈ l) (hxc : x.cid = cid) :
    ((l.map (fun c => if c.cid == cid then { c with vote := v } else c)).map (·.vote)).sum
      = (l.map (·.vote)).sum - x.vote + v := by
  induction l with
  | nil => simp at hx
  | cons y ys ih =>
    simp only [List.map_cons, List.sum_cons]
    simp only [List.map_cons, List.nodup_cons, List.mem_map, not_exists, not_and] at hnd
    rcases List.mem_cons.mp hx with rfl | hx'
    · have hrest : ys.map (fun c => if c.cid == cid then { c with vote := v } else c) = ys := by
        have : ys.map (fun c => if c.cid == cid then { c with vote := v } else c) = ys.map id := by
          apply List.map_congr_left
          intro c hc
          have : c.cid ≠ cid := by rw [← hxc]; exact fun e => hnd.1 c hc e
          simp [this]
        simpa using this
      rw [hrest]; simp [hxc]; ring
    · have hy : y.cid ≠ cid := by
        rw [← hxc]; exact fun e => hnd.1 x hx' e.symm
      rw [ih hnd.2 hx']; simp [hy]; ring

theorem sumVotes_setVote (s : St α) (cid : Nat) (v : α) (x : Cand α) (hwf : s.WF) (hx : x ∈ s.cands) (hxc : x.cid = cid) :
    (s.setVote cid v).sumVotes = s.sumVotes - x.vote + v := by
  unfold St.sumVotes St.setVote St.upd
  exact sum_votes_set s.cands cid v x hwf hx hxc

theorem isHopeful_false_of (s : St α) (hwf : s.WF) (x : Cand α) (hx : x ∈ s.cands) (hst : x.st ≠ .hopeful) :
    s.isHopeful x.cid = false := by
  unfold St.isHopeful
  rw [Bool.eq_false_iff]
  intro h
  rw [List.any_eq_true] at h
  obtain ⟨c, hc, hcc⟩ := h
  simp only [Bool.and_eq_true, beq_iff_eq] at hcc
  have : c = x := nodup_cid_eq hwf hc hx hcc.1
  rw [this] at hcc; exact hst hcc.2

theorem InvNoCons.setVote {s : St α} (h : InvNoCons A s) (cid : Nat) (v : α) (hv : 0 ≤ v)
    (hns : ∀ c ∈ s.cands, c.cid = cid → ¬ c.inScope) : InvNoCons A (s.setVote cid v) := by
  have hskel : (s.setVote cid v).skel = s.skel := setVote_skel s cid v
  exact
    { meth := h.meth
      recOK := h.recOK
      wf := WF_of_skel hskel.symm h.wf
      bwf := by
        intro b hb c hc
        rw [cand?_isSome_of_skel hskel]; exact h.bwf b hb c hc
      wpos := h.wpos
      vpos := by
        intro c' hc'
        obtain ⟨c, hc, rfl⟩ := mem_upd.1 hc'
        split
        · exact hv
        · exact h.vpos c hc
      epos := h.epos
      qpos := h.qpos
      i1 := by
        intro c' hc' hs
        obtain ⟨c, hc, rfl⟩ := mem_upd.1 hc'
        by_cases hcid : (c.cid == cid) = true
        · exfalso
          simp only [hcid, if_true] at hs
          exact hns c hc (by simpa using hcid) hs
        · simp only [hcid] at hs ⊢
          exact h.i1 c hc hs
      pq := by
        intro c' hc' h1 h2
        obtain ⟨c, hc, rfl⟩ := mem_upd.1 hc'
        by_cases hcid : (c.cid == cid) = true
        · exfalso
          simp only [hcid, if_true] at h1 h2
          exact hns c hc (by simpa using hcid) (Or.inr ⟨h1, h2⟩)
        · simp only [hcid] at h1 h2 ⊢
          exact h.pq c hc h1 h2 }

theorem tally_explicit (hA : LawfulArith A) (s : St α) (d : Nat) :
    s.tally A d = (s.ballots.map (fun b => if b.top = some d then b.w * ((b.mult : Int) : α) else 0)).sum := by
  unfold St.tally
  congr 1
  apply List.map_congr_left
  intro b _
  split
  · exact bvote_eq A hA b
  · rfl

/-- the state of a surplus transfer before it is logged: the ballots of the elected candidate `hc` re-weighted by
    `rew w surplus vote` and moved on, its tally set to the quota -/
def surplusCore (s : St α) (hc : Cand α) (rew : α → α → α → α) : St α :=
  (transferAll A s [hc.cid] (fun w => rew w (A.sub hc.vote s.quota) hc.vote)).setVote hc.cid
    (transferAll A s [hc.cid] (fun w => rew w (A.sub hc.vote s.quota) hc.vote)).quota

theorem transferSurplus_eq (s : St α) (hc : Cand α) (rew : α → α → α → α) (verb : String) :
    transferSurplus A s hc rew verb = (surplusCore A s hc rew).logAct A "transfer" verb [hc.cid] := rfl

/-- Σ votes + non-transferable after a surplus transfer = before + what the ballots carry away − the surplus -/
theorem surplusCore_total (hA : LawfulArith A) (rew0 : α → α → α → α) {s : St α} (h : Inv A s) (x : Cand α)
    (hx : x ∈ s.cands) (hnh : x.st ≠ .hopeful) :
    (surplusCore A s x rew0).total = s.total
      + (s.ballots.map (movedVal A s [x.cid] (fun w => rew0 w (x.vote - s.quota) x.vote))).sum - (x.vote - s.quota) := by
  unfold surplusCore
  simp only [hA.sub_eq]
  set rew : α → α := fun w => rew0 w (x.vote - s.quota) x.vote with hrew
  have hskel := transferAll_skel A s [x.cid] rew
  have hwf' : (transferAll A s [x.cid] rew).WF := WF_of_skel hskel.symm h.wf
  have hx'ex : ∃ x' ∈ (transferAll A s [x.cid] rew).cands, x'.skel = x.skel := by
    have : x.skel ∈ s.skel := List.mem_map.2 ⟨x, hx, rfl⟩
    rw [← hskel] at this
    obtain ⟨x', hx', hsk⟩ := List.mem_map.1 this
    exact ⟨x', hx', hsk⟩
  obtain ⟨x', hx'm, hx'sk⟩ := hx'ex
  have hx'cid : x'.cid = x.cid := skel_cid hx'sk
  have hx'vote : x'.vote = x.vote := by
    have h1 := voteOf_of_mem hwf' hx'm
    have h2 := voteOf_of_mem h.wf hx
    have h3 := transferAll_voteOf A (lawfulAdd_of hA) s h.bwf [x.cid] rew x.cid
    have hz : (s.ballots.map (contrib A s [x.cid] rew x.cid)).sum = 0 := by
      have : s.ballots.map (contrib A s [x.cid] rew x.cid) = s.ballots.map (fun _ => (0 : α)) := by
        apply List.map_congr_left
        intro b _
        exact contrib_eq_zero_of_not_hopeful A s [x.cid] rew x.cid b (isHopeful_false_of s h.wf x hx hnh)
      rw [this]; simp
    rw [hz, add_zero, h2] at h3
    rw [← h1, hx'cid]; exact h3
  have hq' : (transferAll A s [x.cid] rew).quota = s.quota := transferAll_quota A s _ _
  have htot := transferAll_total A hA s h.wf h.bwf [x.cid] rew
  have hsv := sumVotes_setVote (transferAll A s [x.cid] rew) x.cid (transferAll A s [x.cid] rew).quota x' hwf' hx'm hx'cid
  have hex : ((transferAll A s [x.cid] rew).setVote x.cid (transferAll A s [x.cid] rew).quota).exhausted
      = (transferAll A s [x.cid] rew).exhausted := rfl
  unfold St.total at htot ⊢
  rw [hex, hsv, hx'vote, hq']
  linarith

theorem Inv.surplusCore (hA : LawfulArith A) (rew0 : α → α → α → α) (hrew0 : RewLaw rew0) {s : St α} (h : Inv A s)
    (x : Cand α)
    (hx : x ∈ s.cands) (hns : ¬ x.inScope) (hnh : x.st ≠ .hopeful)
    (hI : x.vote = s.tally A x.cid) (hq : s.quota ≤ x.vote) :
    Inv A (Droop.surplusCore A s x rew0) := by
  have hv : 0 < x.vote := lt_of_lt_of_le h.qpos hq
  have hsur : 0 ≤ x.vote - s.quota := sub_nonneg.2 hq
  have hmoved := surplus_moved_le A hA rew0 hrew0 s x.cid (x.vote - s.quota) x.vote hsur hv h.wpos
    (by rw [← tally_explicit A hA]; exact hI.symm)
  have htot := surplusCore_total A hA rew0 h x hx hnh
  have hnb : (Droop.surplusCore A s x rew0).nballots = s.nballots := transferAll_nballots A s _ _
  have hfinal : InvNoCons A (Droop.surplusCore A s x rew0) := by
    unfold Droop.surplusCore
    simp only [hA.sub_eq]
    have hr : ∀ b ∈ s.ballots, 0 ≤ rew0 b.w (x.vote - s.quota) x.vote :=
      fun b hb => (hrew0 b.w _ _ (h.wpos b hb) hsur hv).1
    have hscope : ∀ c ∈ s.cands, c.inScope → c.cid ∉ [x.cid] := by
      intro c hc hs hmem
      have : c = x := nodup_cid_eq h.wf hc hx (List.mem_singleton.1 hmem)
      rw [this] at hs; exact hns hs
    have hnc := h.transferAll_noCons A hA [x.cid] (fun w => rew0 w (x.vote - s.quota) x.vote) hscope hr
    refine hnc.setVote A x.cid _ (by rw [transferAll_quota]; exact le_of_lt h.qpos) ?_
    intro c hc hcid
    obtain ⟨c0, hc0, hsk⟩ := mem_of_skel_eq (transferAll_skel A s _ _) hc
    have : c0 = x := nodup_cid_eq h.wf hc0 hx ((skel_cid hsk).trans hcid)
    unfold Cand.inScope; rw [← (skel_st hsk).1, ← (skel_st hsk).2, this]; exact hns
  exact
    { meth := hfinal.meth, recOK := hfinal.recOK,
      wf := hfinal.wf, bwf := hfinal.bwf, wpos := hfinal.wpos, vpos := hfinal.vpos, epos := hfinal.epos,
      qpos := hfinal.qpos, i1 := hfinal.i1, pq := hfinal.pq
      cons := by rw [hnb, htot]; linarith [h.cons] }

theorem Inv.transferSurplus (hA : LawfulArith A) (rew0 : α → α → α → α) (hrew0 : RewLaw rew0) {s : St α} (h : Inv A s)
    (x : Cand α) (verb : String)
    (hx : x ∈ s.cands) (hns : ¬ x.inScope) (hnh : x.st ≠ .hopeful)
    (hI : x.vote = s.tally A x.cid) (hq : s.quota ≤ x.vote) :
    Inv A (Droop.transferSurplus A s x rew0 verb) := by
  rw [transferSurplus_eq]
  exact (h.surplusCore A hA rew0 hrew0 x hx hns hnh hI hq).logAct A _ _ _

/-- value moved when the ballots of all of `cids` move at unchanged weight, split by source candidate -/
theorem movedVal_id (hA : LawfulArith A) (s : St α) (cids : List Nat) (b : Ballot α) :
    movedVal A s cids id b = match b.top with
      | some c => if c ∈ cids then b.w * ((b.mult : Int) : α) else 0
      | none => 0 := by
  unfold movedVal moveBallot
  cases htop : b.top with
  | none => rfl
  | some c =>
    by_cases hc : c ∈ cids
    · simp [hc, bvote_eq A hA, advanceTo_w, advanceTo_mult]
    · simp [hc]

theorem sum_by_source (l : List (Ballot α)) (f : Ballot α → α) (cids : List Nat) (hnd : cids.Nodup) :
    (l.map (fun b => match b.top with
                     | some c => if c ∈ cids then f b else 0
                     | none => 0)).sum
      = (cids.map (fun cid => (l.map (fun b => if b.top = some cid then f b else 0)).sum)).sum := by
  induction cids with
  | nil =>
    simp only [List.not_mem_nil, if_false, List.map_nil, List.sum_nil]
    induction l with
    | nil => simp
    | cons b bs ih => simp only [List.map_cons, List.sum_cons, ih]; split <;> simp
  | cons c cs ih =>
    simp only [List.nodup_cons] at hnd
    simp only [List.map_cons, List.sum_cons]
    rw [← ih hnd.2, ← sum_map_add']
    congr 1
    apply List.map_congr_left
    intro b _
    cases htop : b.top with
    | none => simp
    | some d =>
      by_cases hdc : d = c
      · subst hdc
        simp [hnd.1]
      · have : ¬ (some d = some c) := by simpa using hdc
        simp [hdc, this]

theorem InvNoCons.foldSetZero (hA : LawfulArith A) {s : St α} (h : InvNoCons A s) (cids : List Nat)
    (hns : ∀ cid ∈ cids, ∀ c ∈ s.cands, c.cid = cid → ¬ c.inScope) :
    InvNoCons A (cids.foldl (fun acc c => acc.setVote c A.zero) s) := by
  induction cids generalizing s with
  | nil => exact h
  | cons c cs ih =>
    simp only [List.foldl_cons]
    have h1 := h.setVote A c A.zero (by rw [hA.zero_eq]) (hns c (by simp))
    apply ih h1
    intro cid hcid c' hc' hcc
    obtain ⟨c0, hc0, rfl⟩ := mem_upd.1 hc'
    by_cases he : (c0.cid == c) = true
    · simp only [he, if_true] at hcc ⊢
      have := hns cid (by simp [hcid]) c0 hc0 hcc
      intro hs; exact this hs
    · have hf : (c0.cid == c) = false := by simpa using he
      simp only [hf, Bool.false_eq_true, if_false] at hcc ⊢
      exact hns cid (by simp [hcid]) c0 hc0 hcc

theorem sumVotes_foldSetZero (hA : LawfulArith A) (s : St α) (hwf : s.WF) (cids : List Nat) (hnd : cids.Nodup)
    (hex : ∀ cid ∈ cids, ∃ x ∈ s.cands, x.cid = cid) :
    (cids.foldl (fun acc c => acc.setVote c A.zero) s).sumVotes
      = s.sumVotes - (cids.map (fun cid => s.voteOf cid)).sum := by
  induction cids generalizing s with
  | nil => simp
  | cons c cs ih =>
    simp only [List.foldl_cons, List.map_cons, List.sum_cons]
    simp only [List.nodup_cons] at hnd
    obtain ⟨x, hx, hxc⟩ := hex c (by simp)
    have hsk : (s.setVote c A.zero).skel = s.skel := setVote_skel s c _
    have hwf1 : (s.setVote c A.zero).WF := WF_of_skel hsk.symm hwf
    rw [ih (s.setVote c A.zero) hwf1 hnd.2]
    · have hv : s.voteOf c = x.vote := by rw [← hxc]; exact voteOf_of_mem hwf hx
      have hrest : cs.map (fun cid => (s.setVote c A.zero).voteOf cid) = cs.map (fun cid => s.voteOf cid) := by
        apply List.map_congr_left
        intro cid hcid
        have hne : cid ≠ c := fun e => hnd.1 (e ▸ hcid)
        unfold St.voteOf
        have : (s.setVote c A.zero).cand? cid = (s.cand? cid).map (fun y => if y.cid == c then { y with vote := A.zero } else y) :=
          cand?_upd s c cid (fun y => { y with vote := A.zero }) (fun _ => rfl)
        rw [this]
        cases hf : s.cand? cid with
        | none => rfl
        | some y =>
          have hy : y.cid = cid := by
            unfold St.cand? at hf
            have := List.find?_some hf; simpa using this
          have hne' : ¬ y.cid = c := by rw [hy]; exact hne
          simp [hne']
      rw [sumVotes_setVote s c A.zero x hwf hx hxc, hrest, hv, hA.zero_eq]; ring
    · intro cid hcid
      obtain ⟨y, hy, hyc⟩ := hex cid (by simp [hcid])
      have hne : y.cid ≠ c := by rw [hyc]; exact fun e => hnd.1 (e ▸ hcid)
      exact ⟨y, mem_upd_of_ne hy hne, hyc⟩

/-- the state of an exclusion transfer before it is logged: the ballots of `cids` moved on at unchanged value, their tallies
    zeroed -/
def defeatedCore (s : St α) (cids : List Nat) : St α :=
  cids.foldl (fun acc c => acc.setVote c A.zero) (transferAll A s cids id)

theorem transferDefeated_eq (s : St α) (cids : List Nat) (verb : String) :
    transferDefeated A s cids verb = (defeatedCore A s cids).logAct A "transfer" verb cids := rfl

theorem foldSetZero_frame (cids : List Nat) (s : St α) :
    (cids.foldl (fun acc c => acc.setVote c A.zero) s).ballots = s.ballots
    ∧ (cids.foldl (fun acc c => acc.setVote c A.zero) s).exhausted = s.exhausted
    ∧ (cids.foldl (fun acc c => acc.setVote c A.zero) s).quota = s.quota
    ∧ (cids.foldl (fun acc c => acc.setVote c A.zero) s).nballots = s.nballots
    ∧ (cids.foldl (fun acc c => acc.setVote c A.zero) s).acts = s.acts
    ∧ (cids.foldl (fun acc c => acc.setVote c A.zero) s).method = s.method := by
  induction cids generalizing s with
  | nil => exact ⟨rfl, rfl, rfl, rfl, rfl, rfl⟩
  | cons x xs ih => simp only [List.foldl_cons]; exact ih _

theorem defeatedCore_total (hA : LawfulArith A) {s : St α} (h : Inv A s) (cids : List Nat) (hnd : cids.Nodup)
    (hx : ∀ cid ∈ cids, ∃ x ∈ s.cands, x.cid = cid ∧ ¬ x.inScope ∧ x.st ≠ .hopeful ∧ x.vote = s.tally A cid) :
    (defeatedCore A s cids).total = s.total := by
  unfold defeatedCore
  have hskel := transferAll_skel A s cids id
  have hwf' : (transferAll A s cids id).WF := WF_of_skel hskel.symm h.wf
  have hvote : ∀ cid ∈ cids, (transferAll A s cids id).voteOf cid = s.voteOf cid := by
    intro cid hcid
    obtain ⟨x, hxm, hxc, _, hnh, _⟩ := hx cid hcid
    have h3 := transferAll_voteOf A (lawfulAdd_of hA) s h.bwf cids id cid
    have hz : (s.ballots.map (contrib A s cids id cid)).sum = 0 := by
      have : s.ballots.map (contrib A s cids id cid) = s.ballots.map (fun _ => (0 : α)) := by
        apply List.map_congr_left
        intro b _
        rw [← hxc]
        exact contrib_eq_zero_of_not_hopeful A s cids id x.cid b (isHopeful_false_of s h.wf x hxm hnh)
      rw [this]; simp
    rw [hz, add_zero] at h3; exact h3
  have htot := transferAll_total A hA s h.wf h.bwf cids id
  have hex' : ∀ cid ∈ cids, ∃ x ∈ (transferAll A s cids id).cands, x.cid = cid := by
    intro cid hcid
    obtain ⟨x, hxm, hxc, _⟩ := hx cid hcid
    have : x.skel ∈ s.skel := List.mem_map.2 ⟨x, hxm, rfl⟩
    rw [← hskel] at this
    obtain ⟨x', hx', hsk⟩ := List.mem_map.1 this
    exact ⟨x', hx', (skel_cid hsk).trans hxc⟩
  have hsv := sumVotes_foldSetZero A hA (transferAll A s cids id) hwf' cids hnd hex'
  have hmoved : (s.ballots.map (movedVal A s cids id)).sum = (cids.map (fun cid => s.voteOf cid)).sum := by
    have e1 := List.map_congr_left (l := s.ballots) (fun b _ => movedVal_id A hA s cids b)
    rw [e1, sum_by_source s.ballots (fun b => b.w * ((b.mult : Int) : α)) cids hnd]
    congr 1
    apply List.map_congr_left
    intro cid hcid
    obtain ⟨x, hxm, hxc, _, _, hI⟩ := hx cid hcid
    rw [← tally_explicit A hA, ← hI, ← hxc]
    exact (voteOf_of_mem h.wf hxm).symm
  have hvs : (cids.map (fun cid => (transferAll A s cids id).voteOf cid)).sum = (cids.map (fun cid => s.voteOf cid)).sum := by
    congr 1; exact List.map_congr_left (fun cid hcid => hvote cid hcid)
  unfold St.total at htot ⊢
  rw [(foldSetZero_frame A cids _).2.1, hsv, hvs]
  linarith

theorem Inv.defeatedCore (hA : LawfulArith A) {s : St α} (h : Inv A s) (cids : List Nat)
    (hnd : cids.Nodup)
    (hx : ∀ cid ∈ cids, ∃ x ∈ s.cands, x.cid = cid ∧ ¬ x.inScope ∧ x.st ≠ .hopeful ∧ x.vote = s.tally A cid) :
    Inv A (Droop.defeatedCore A s cids) := by
  have htot := defeatedCore_total A hA h cids hnd hx
  have hnb : (Droop.defeatedCore A s cids).nballots = s.nballots :=
    (foldSetZero_frame A cids _).2.2.2.1.trans (transferAll_nballots A s _ _)
  have hfinal : InvNoCons A (Droop.defeatedCore A s cids) := by
    unfold Droop.defeatedCore
    have hscope : ∀ c ∈ s.cands, c.inScope → c.cid ∉ cids := by
      intro c hc hs hmem
      obtain ⟨x, hxm, hxc, hns, _, _⟩ := hx c.cid hmem
      have : c = x := nodup_cid_eq h.wf hc hxm hxc.symm
      rw [this] at hs; exact hns hs
    have hnc := h.transferAll_noCons A hA cids id hscope (fun b hb => h.wpos b hb)
    refine hnc.foldSetZero A hA cids ?_
    intro cid hcid c hc hcc
    obtain ⟨x, hxm, hxc, hns, _, _⟩ := hx cid hcid
    obtain ⟨c0, hc0, hsk⟩ := mem_of_skel_eq (transferAll_skel A s cids id) hc
    have : c0 = x := nodup_cid_eq h.wf hc0 hxm ((skel_cid hsk).trans (hcc.trans hxc.symm))
    unfold Cand.inScope; rw [← (skel_st hsk).1, ← (skel_st hsk).2, this]; exact hns
  exact
    { meth := hfinal.meth, recOK := hfinal.recOK,
      wf := hfinal.wf, bwf := hfinal.bwf, wpos := hfinal.wpos, vpos := hfinal.vpos, epos := hfinal.epos,
      qpos := hfinal.qpos, i1 := hfinal.i1, pq := hfinal.pq
      cons := by rw [hnb, htot]; exact h.cons }

theorem Inv.transferDefeatedMany (hA : LawfulArith A) {s : St α} (h : Inv A s) (cids : List Nat) (verb : String)
    (hnd : cids.Nodup)
    (hx : ∀ cid ∈ cids, ∃ x ∈ s.cands, x.cid = cid ∧ ¬ x.inScope ∧ x.st ≠ .hopeful ∧ x.vote = s.tally A cid) :
    Inv A (Droop.transferDefeated A s cids verb) := by
  rw [transferDefeated_eq]
  exact (h.defeatedCore A hA cids hnd hx).logAct A _ _ _

/-- the batch lemma at one candidate (what the suffix `1` means here and in `Inv.wigmDefeatStep1`) -/
theorem Inv.transferDefeated1 (hA : LawfulArith A) {s : St α} (h : Inv A s) (x : Cand α) (verb : String)
    (hx : x ∈ s.cands) (hns : ¬ x.inScope) (hnh : x.st ≠ .hopeful) (hI : x.vote = s.tally A x.cid) :
    Inv A (Droop.transferDefeated A s [x.cid] verb) :=
  h.transferDefeatedMany A hA [x.cid] verb (List.nodup_singleton _)
    (fun cid hcid => by rw [List.mem_singleton] at hcid; subst hcid; exact ⟨x, hx, rfl, hns, hnh, hI⟩)


theorem defeat_ballots (s : St α) (cid : Nat) (verb : String) : (s.defeat A cid verb).ballots = s.ballots := by
  unfold St.defeat; rw [logAct_ballots]; rfl

theorem foldDefeatV_ballots (ws : List (Cand α)) (verb : Cand α → String) (s : St α) :
    (ws.foldl (fun acc c => acc.defeat A c.cid (verb c)) s).ballots = s.ballots := by
  induction ws generalizing s with
  | nil => rfl
  | cons w ws ih => simp only [List.foldl_cons]; rw [ih, defeat_ballots]

theorem foldDefeatV_keeps (ws : List (Cand α)) (verb : Cand α → String) (s : St α) (c : Cand α) (hc : c ∈ s.cands)
    (hne : ∀ w ∈ ws, c.cid ≠ w.cid) : c ∈ (ws.foldl (fun acc c => acc.defeat A c.cid (verb c)) s).cands := by
  induction ws generalizing s with
  | nil => exact hc
  | cons w ws ih =>
    simp only [List.foldl_cons]
    apply ih
    · unfold St.defeat; rw [logAct_cands]; exact mem_upd_of_ne hc (hne w (by simp))
    · intro w' hw'; exact hne w' (by simp [hw'])

theorem foldDefeatV_mem (ws : List (Cand α)) (verb : Cand α → String) (s : St α)
    (hnd : (ws.map (·.cid)).Nodup) (hw : ∀ w ∈ ws, w ∈ s.cands) :
    ∀ w ∈ ws, ({ w with st := .defeated } : Cand α) ∈ (ws.foldl (fun acc c => acc.defeat A c.cid (verb c)) s).cands := by
  induction ws generalizing s with
  | nil => intro w hw; cases hw
  | cons x xs ih =>
    simp only [List.map_cons, List.nodup_cons, List.mem_map, not_exists, not_and] at hnd
    intro w hwm
    simp only [List.foldl_cons]
    rcases List.mem_cons.1 hwm with rfl | hwx
    · apply foldDefeatV_keeps
      · unfold St.defeat; rw [logAct_cands]
        exact mem_upd_of_eq (f := fun c => { c with st := .defeated }) (hw w (by simp)) rfl
      · intro w' hw' e
        exact hnd.1 w' hw' e.symm
    · apply ih _ hnd.2 _ w hwx
      intro w' hw'
      unfold St.defeat; rw [logAct_cands]
      exact mem_upd_of_ne (hw w' (by simp [hw'])) (fun e => hnd.1 w' hw' e)

theorem Inv.foldDefeatV {s : St α} (h : Inv A s) (ws : List (Cand α)) (verb : Cand α → String) :
    Inv A (ws.foldl (fun acc c => acc.defeat A c.cid (verb c)) s) := by
  induction ws generalizing s with
  | nil => exact h
  | cons w ws ih => simp only [List.foldl_cons]; exact ih (h.defeat A w.cid _)

theorem Inv.foldDefeat {s : St α} (h : Inv A s) (ws : List (Cand α)) (verb : String) :
    Inv A (ws.foldl (fun acc c => acc.defeat A c.cid verb) s) :=
  h.foldDefeatV A ws (fun _ => verb)

theorem foldDefeat_mem (ws : List (Cand α)) (verb : String) (s : St α)
    (hnd : (ws.map (·.cid)).Nodup) (hw : ∀ w ∈ ws, w ∈ s.cands) :
    ∀ w ∈ ws, ({ w with st := .defeated } : Cand α) ∈ (ws.foldl (fun acc c => acc.defeat A c.cid verb) s).cands :=
  foldDefeatV_mem A ws (fun _ => verb) s hnd hw

/-- what an exclusion step hands to the transfer that follows it: candidates already marked defeated whose tallies are still
    the value of their ballots -/
def JustDefeated (s : St α) (cids : List Nat) : Prop :=
  cids.Nodup ∧ ∀ cid ∈ cids, ∃ x ∈ s.cands, x.cid = cid ∧ ¬ x.inScope ∧ x.st ≠ .hopeful ∧ x.vote = s.tally A cid

theorem justDefeated_foldDefeatVP {s : St α} (h : Inv A s) (ws ws' : List (Cand α)) (verb : Cand α → String)
    (hperm : ws'.Perm ws) (hnd : (ws.map (·.cid)).Nodup) (hw : ∀ w ∈ ws, w ∈ s.hopeful) :
    JustDefeated A (ws'.foldl (fun acc c => acc.defeat A c.cid (verb c)) s) (ws.map (·.cid)) := by
  refine ⟨hnd, ?_⟩
  intro cid hcid
  obtain ⟨w, hwm, rfl⟩ := List.mem_map.1 hcid
  have hwc := mem_hopeful.1 (hw w hwm)
  have hnd' : (ws'.map (·.cid)).Nodup := (hperm.map _).nodup_iff.2 hnd
  have hmem := foldDefeatV_mem A ws' verb s hnd' (fun w' hw' => (mem_hopeful.1 (hw w' (hperm.subset hw'))).1) w (hperm.symm.subset hwm)
  refine ⟨_, hmem, rfl, ?_, ?_, ?_⟩
  · intro hs; rcases hs with hs | ⟨hs, _⟩ <;> simp at hs
  · simp
  · have e1 : (ws'.foldl (fun acc c => acc.defeat A c.cid (verb c)) s).tally A w.cid = s.tally A w.cid := by
      unfold St.tally; rw [foldDefeatV_ballots]
    show w.vote = _
    rw [e1]
    exact h.i1 w hwc.1 (Or.inl hwc.2)

theorem justDefeated_foldDefeat {s : St α} (h : Inv A s) (ws ws' : List (Cand α)) (verbD : String)
    (hperm : ws'.Perm ws) (hnd : (ws.map (·.cid)).Nodup) (hw : ∀ w ∈ ws, w ∈ s.hopeful) :
    JustDefeated A (ws'.foldl (fun acc c => acc.defeat A c.cid verbD) s) (ws.map (·.cid)) :=
  justDefeated_foldDefeatVP A h ws ws' (fun _ => verbD) hperm hnd hw

theorem justDefeated_defeat {s : St α} (h : Inv A s) {lc : Cand α} (hl : lc ∈ s.hopeful) (verb : String) :
    JustDefeated A (s.defeat A lc.cid verb) [lc.cid] :=
  justDefeated_foldDefeat A h [lc] [lc] verb (List.Perm.refl _) (List.nodup_singleton _)
    (fun w hw => by rw [List.mem_singleton.1 hw]; exact hl)

theorem justDefeated_foldDefeatV {s : St α} (h : Inv A s) (ws : List (Cand α)) (verb : Cand α → String)
    (hnd : (ws.map (·.cid)).Nodup) (hw : ∀ w ∈ ws, w ∈ s.hopeful) :
    JustDefeated A (ws.foldl (fun acc c => acc.defeat A c.cid (verb c)) s) (ws.map (·.cid)) :=
  justDefeated_foldDefeatVP A h ws ws verb (List.Perm.refl _) hnd hw

theorem Inv.defeatManyThenTransfer (hA : LawfulArith A) {s : St α} (h : Inv A s) (ws ws' : List (Cand α))
    (verbD verbT : String) (hperm : ws'.Perm ws) (hnd : (ws.map (·.cid)).Nodup) (hw : ∀ w ∈ ws, w ∈ s.hopeful) :
    Inv A (transferDefeated A (ws'.foldl (fun acc c => acc.defeat A c.cid verbD) s) (ws.map (·.cid)) verbT) := by
  obtain ⟨h1, h2⟩ := justDefeated_foldDefeat A h ws ws' verbD hperm hnd hw
  have ht := h.foldDefeat A ws' verbD
  apply ht.transferDefeatedMany A hA (ws.map (·.cid)) verbT h1
  exact h2

end Droop
