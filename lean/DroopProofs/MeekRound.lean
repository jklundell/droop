import DroopProofs.InvInit
import DroopProofs.MeekRun

/-! # What a round of a Meek / Warren count is made of

After the iteration (`MeekIter.lean`) a round logs its outcome and then makes one of a few moves: nothing more, the exclusion of a
safe batch, or a tie-break among the lowest hopefuls followed by one exclusion (`meekDefeatOne`: mark, zero, redistribute); the
closing stage elects or excludes the hopefuls that are left.  Every id an exclusion or a late election addresses is the id of a
hopeful candidate — it comes from the hopeful list, from the tie-break among hopefuls, or from the safe batch.  `MeekStable` lists
what a predicate on states has to survive to be kept by the round, the closing stage and the fuelled loop. -/
namespace Droop
variable {α : Type} [CommRing α] [LinearOrder α] [IsStrictOrderedRing α] (A : Arith α)

/-- the batch the iteration hands over consists of ids of hopeful candidates of the state it returns -/
theorem meekIterate_batch (o : MeekOpts) (omega : α) :
    ∀ (fuel : Nat) (last : α) (s : St α) (cids : List Nat),
      (Droop.meekIterate A o omega fuel last s).2 = .batch cids →
      ∀ i ∈ cids, ∃ w ∈ (Droop.meekIterate A o omega fuel last s).1.hopeful, w.cid = i := by
  intro fuel last s
  refine meekIterate_induct A o omega (P := fun _ => True)
    (Q := fun r => ∀ cids, r.2 = .batch cids → ∀ i ∈ cids, ∃ w ∈ r.1.hopeful, w.cid = i)
    ?_ ?_ (fun _ _ _ _ => trivial) fuel last s trivial
  · intro s _ cids h
    cases h
  · intro last s r _ he cids h i hi
    rcases meekIterExit_some A he with ⟨rfl, _⟩ | ⟨rfl, _⟩ | ⟨rfl, _⟩ | ⟨rfl, _⟩ | rfl
    · cases h
    · cases h
    · cases h
    · injection h with h
      rw [← h] at hi
      obtain ⟨w, hw, rfl⟩ := List.mem_map.1 hi
      refine ⟨w, ?_, rfl⟩
      split at hw
      · exact batchDefeatGroups_hopeful A _ _ w hw
      · cases hw
    · cases h

/-- a step that rewrites only the candidate `cid`, tallies and keep factors aside, leaves the status of every other id alone -/
theorem status_other {s t : St α} {cid i : Nat} {f : Cand α → Cand α} (hf : ∀ c, (f c).cid = c.cid)
    (hsk : t.skel = (s.upd cid f).skel) (hne : i ≠ cid) (hh : ∀ c ∈ s.cands, c.cid = i → c.st = .hopeful) :
    ∀ c ∈ t.cands, c.cid = i → c.st = .hopeful := by
  intro c' hc' hci
  obtain ⟨c1, hc1, hs1⟩ := mem_of_skel_eq hsk hc'
  obtain ⟨c0, hc0, rfl⟩ := mem_upd.1 hc1
  by_cases he : (c0.cid == cid) = true
  · rw [if_pos he] at hs1
    exact absurd (((hci.symm.trans (skel_cid hs1).symm).trans (hf c0)).trans (by simpa using he)) hne
  · rw [if_neg he] at hs1
    rw [← (skel_st hs1).1]
    exact hh c0 hc0 ((skel_cid hs1).trans hci)

theorem meekDefeatOne_other (hA : LawfulArith A) (hz : A.isZero A.zero = true) (o : MeekOpts) {s : St α} (hI : MInv A s)
    (cid : Nat) (verb : String) (i : Nat) (hne : i ≠ cid) (hh : ∀ c ∈ s.cands, c.cid = i → c.st = .hopeful) :
    ∀ c ∈ (meekDefeatOne A o s cid verb).cands, c.cid = i → c.st = .hopeful := by
  have hpre := hI.defeatZero A hA hz cid verb
  refine status_other (f := fun c => { c with st := .defeated, kf := some A.zero, vote := A.zero }) (fun _ => rfl) ?_ hne hh
  unfold meekDefeatOne
  rw [distributeVotes_skel A o.warren _ hpre.wf hpre.noEq hA]
  unfold St.skel
  rw [defeatZero_cands]
  rfl

theorem electDist_other (hA : LawfulArith A) (o : MeekOpts) {s : St α} (hI : MInv A s) (cid : Nat) (verb : String)
    (i : Nat) (hne : i ≠ cid) (hh : ∀ c ∈ s.cands, c.cid = i → c.st = .hopeful) :
    ∀ c ∈ (distributeVotes A o.warren (s.elect A cid verb false)).cands, c.cid = i → c.st = .hopeful := by
  have hIe := hI.elect A cid verb false
  refine status_other (f := fun c => { c with st := .elected, pending := false }) (fun _ => rfl) ?_ hne hh
  rw [distributeVotes_skel A o.warren _ hIe.wf hIe.noEq hA]
  unfold St.skel St.elect
  rw [logAct_cands]

/-- a predicate on states that every move of a Meek / Warren count keeps; it carries `MInv`, and exclusions and late elections
    need only be survived when they address a hopeful candidate -/
structure MeekStable (o : MeekOpts) (P : St α → Prop) : Prop where
  inv : ∀ {s}, P s → MInv A s
  logAct : ∀ {s}, P s → ∀ tag verb subj, P (s.logAct A tag verb subj)
  logMsg : ∀ {s}, P s → ∀ v, P (s.logMsg "Stable state detected" [] v)
  setCrash : ∀ {s}, P s → ∀ k, P (s.setCrash k)
  nextRound : ∀ {s : St α}, P s → P { s with round := s.round + 1 }
  core : ∀ {s}, P s → P (meekIterCore A o s)
  kf : ∀ {s}, P s → P (kfUpdate A true s)
  defeatOne : ∀ {s}, P s → ∀ cid verb, (∀ c ∈ s.cands, c.cid = cid → c.st = .hopeful) → P (meekDefeatOne A o s cid verb)
  electDist : ∀ {s}, P s → ∀ cid verb, (∀ c ∈ s.cands, c.cid = cid → c.st = .hopeful) →
    P (distributeVotes A o.warren (s.elect A cid verb false))

namespace MeekStable
variable {A} {o : MeekOpts} {P : St α → Prop} (hP : MeekStable A o P) (hA : LawfulArith A) (hz : A.isZero A.zero = true)
include hP

theorem iterate (omega : α) (fuel : Nat) (last : α) {s : St α} (h : P s) : P (meekIterate A o omega fuel last s).1 :=
  meekIterate_preserves A o omega (fun _ h => hP.core h) (fun _ h => hP.kf h) (fun _ v h => hP.logMsg h v) fuel last s h

theorem breakTie {s : St α} (h : P s) (tied : List (Cand α)) (verb : String) : P (Droop.breakTie A s tied verb).1 := by
  unfold Droop.breakTie
  split
  · exact hP.setCrash h _
  · exact h
  · exact hP.logAct h _ _ _

theorem newRound {s : St α} (h : P s) : P (s.newRound A) := hP.logAct (hP.nextRound h) _ _ _

/-- the members of the hopeful list have distinct ids, and each is the hopeful candidate with its id -/
theorem hopeful_ids {s : St α} (h : P s) :
    (s.hopeful.map (·.cid)).Nodup ∧ ∀ w ∈ s.hopeful, ∀ c ∈ s.cands, c.cid = w.cid → c.st = .hopeful := by
  refine ⟨List.Nodup.sublist (List.Sublist.map _ List.filter_sublist) (hP.inv h).wf, ?_⟩
  intro w hw c hc hcc
  obtain ⟨hws, hwh⟩ := mem_hopeful.1 hw
  rw [nodup_cid_eq (hP.inv h).wf hc hws hcc]
  exact hwh

include hA hz

/-- a sequence of exclusions of distinct hopeful candidates -/
theorem foldDefeatOne (verb : String) (l : List (Cand α)) (hnd : (l.map (·.cid)).Nodup) {s : St α} (h : P s)
    (hh : ∀ w ∈ l, ∀ c ∈ s.cands, c.cid = w.cid → c.st = .hopeful) :
    P (l.foldl (fun acc c => meekDefeatOne A o acc c.cid verb) s) := by
  induction l generalizing s with
  | nil => exact h
  | cons w ws ih =>
    simp only [List.foldl_cons]
    simp only [List.map_cons, List.nodup_cons] at hnd
    apply ih hnd.2 (hP.defeatOne h w.cid verb (hh w (by simp)))
    intro w' hw'
    exact meekDefeatOne_other A hA hz o (hP.inv h) w.cid verb w'.cid
      (fun e => hnd.1 (e ▸ List.mem_map.2 ⟨w', hw', rfl⟩)) (hh w' (by simp [hw']))

theorem defeatBatch {s : St α} (h : P s) (cids : List Nat) (hc : ∀ i ∈ cids, ∃ w ∈ s.hopeful, w.cid = i) :
    P (meekDefeatBatch A o s cids) := by
  unfold meekDefeatBatch
  have hperm := pySorted_perm (fun a b : Cand α => a.order < b.order) false (s.cands.filter (fun c => cids.contains c.cid))
  apply hP.foldDefeatOne hA hz _ _ _ h
  · intro w hw c hcm hcc
    obtain ⟨hws, hwc⟩ := List.mem_filter.1 ((mem_pySorted _ _ _ _).1 hw)
    obtain ⟨v, hv, hvc⟩ := hc w.cid (by simpa using hwc)
    exact (hP.hopeful_ids h).2 v hv c hcm (hcc.trans hvc.symm)
  · exact (List.Perm.nodup_iff (hperm.map _)).2
      (List.Nodup.sublist (List.Sublist.map _ List.filter_sublist) (hP.inv h).wf)

theorem defeatLow {s : St α} (h : P s) (b : Bool) : P (meekDefeatLow A o s b).1 := by
  unfold meekDefeatLow
  split
  · exact h
  · rename_i hd hs _
    have hbt := hP.breakTie h (s.hopeful.filter (fun c => A.ge (A.add (A.vMin hd.vote (hs.map (·.vote))) s.surplus) c.vote)) "Break tie (defeat)"
    have hfr := (breakTie_frame A s (s.hopeful.filter (fun c => A.ge (A.add (A.vMin hd.vote (hs.map (·.vote))) s.surplus) c.vote)) "Break tie (defeat)").1
    have hmem := breakTie_mem A s (s.hopeful.filter (fun c => A.ge (A.add (A.vMin hd.vote (hs.map (·.vote))) s.surplus) c.vote)) "Break tie (defeat)"
    cases hb : Droop.breakTie A s (s.hopeful.filter (fun c => A.ge (A.add (A.vMin hd.vote (hs.map (·.vote))) s.surplus) c.vote)) "Break tie (defeat)" with
    | mk s3 oc =>
      rw [hb] at hbt hfr hmem
      cases oc with
      | none => exact hbt
      | some lc =>
        apply hP.defeatOne hbt lc.cid _
        intro c hc hcc
        simp only at hfr
        rw [hfr] at hc
        exact (hP.hopeful_ids h).2 lc (List.mem_filter.1 (hmem lc rfl)).1 c hc hcc

theorem body (omega : α) (fuel : Nat) {s : St α} (h : P s) : P (meekBody A o omega fuel s).1 := by
  unfold meekBody
  have hr := hP.iterate omega fuel (A.ofInt (s.newRound A).nballots) (hP.newRound h)
  have hbatch := meekIterate_batch A o omega fuel (A.ofInt (s.newRound A).nballots) (s.newRound A)
  generalize meekIterate A o omega fuel (A.ofInt (s.newRound A).nballots) (s.newRound A) = r at hr hbatch
  obtain ⟨t, st⟩ := r
  unfold meekAfterIterate
  cases st with
  | fuel => exact hP.setCrash hr _
  | crash => exact hr
  | elected => exact hP.logAct hr _ _ _
  | batch cids =>
    apply hP.defeatBatch hA hz (hP.logAct hr _ _ _)
    intro i hi
    obtain ⟨w, hw, hwc⟩ := hbatch cids rfl i hi
    refine ⟨w, ?_, hwc⟩
    unfold St.hopeful at hw ⊢
    rw [logAct_cands]; exact hw
  | omega => exact hP.defeatLow hA hz (hP.logAct hr _ _ _) true
  | stable => exact hP.defeatLow hA hz (hP.logAct hr _ _ _) false

theorem foldRemaining (l : List (Cand α)) (hnd : (l.map (·.cid)).Nodup) {s : St α} (h : P s)
    (hh : ∀ w ∈ l, ∀ c ∈ s.cands, c.cid = w.cid → c.st = .hopeful) : P (l.foldl (meekRemainingStep A o) s) := by
  induction l generalizing s with
  | nil => exact h
  | cons w ws ih =>
    simp only [List.foldl_cons]
    simp only [List.map_cons, List.nodup_cons] at hnd
    have hne : ∀ w' ∈ ws, w'.cid ≠ w.cid := fun w' hw' e => hnd.1 (e ▸ List.mem_map.2 ⟨w', hw', rfl⟩)
    unfold meekRemainingStep
    split
    · apply ih hnd.2 (hP.electDist h w.cid _ (hh w (by simp)))
      intro w' hw'
      exact electDist_other A hA o (hP.inv h) w.cid _ w'.cid (hne w' hw') (hh w' (by simp [hw']))
    · apply ih hnd.2 (hP.defeatOne h w.cid _ (hh w (by simp)))
      intro w' hw'
      exact meekDefeatOne_other A hA hz o (hP.inv h) w.cid _ w'.cid (hne w' hw') (hh w' (by simp [hw']))

/-- the closing stage before the final figures: the hopefuls left are elected or excluded one by one -/
theorem remaining {s : St α} (h : P s) : P (s.hopeful.foldl (meekRemainingStep A o) s) :=
  hP.foldRemaining hA hz _ (hP.hopeful_ids h).1 h (hP.hopeful_ids h).2

theorem loop (omega : α) (iterFuel fuel : Nat) {s t : St α} (h : P s)
    (hl : loopN (fun s => !meekCountComplete s) (meekBody A o omega iterFuel) fuel s = some t) : P t :=
  loopN_preserves_guard P _ (meekBody A o omega iterFuel) (fun _ hs _ => hP.body hA hz omega iterFuel hs) _ _ _ h hl

end MeekStable

theorem meekStable_MInv (hA : LawfulArith A) (hz : A.isZero A.zero = true) (o : MeekOpts) : MeekStable A o (MInv A) :=
  { inv := id
    logAct := fun h => h.logAct A
    logMsg := fun h v => h.logMsg A _ _ v
    setCrash := fun h => h.setCrash A
    nextRound := fun h => h.of_same A rfl rfl rfl rfl rfl rfl rfl
    core := fun h => h.meekIterCore A hA o
    kf := fun h => h.kfUpdate A true
    defeatOne := fun h cid verb _ => h.meekDefeatOne A hA hz o cid verb
    electDist := fun h cid verb _ => (h.elect A cid verb false).toMPre.distribute A hA o.warren }

theorem MInv.meekBody (hA : LawfulArith A) (hz : A.isZero A.zero = true) (o : MeekOpts) (omega : α) (fuel : Nat) {s : St α}
    (h : MInv A s) : MInv A (Droop.meekBody A o omega fuel s).1 :=
  (meekStable_MInv A hA hz o).body hA hz omega fuel h

theorem MInv.meekRemainingStep (hA : LawfulArith A) (hz : A.isZero A.zero = true) (o : MeekOpts) {s : St α} (h : MInv A s)
    (c : Cand α) : MInv A (Droop.meekRemainingStep A o s c) := by
  unfold Droop.meekRemainingStep
  split
  · exact (h.elect A c.cid _ false).toMPre.distribute A hA o.warren
  · exact h.meekDefeatOne A hA hz o c.cid _

/-- **Meek / Warren (strict ballots), run level**: if the identity holds when the main loop is entered it holds when the
    loop exits and after the remaining candidates have been elected or defeated — and, through `recM`, every snapshot
    logged on the way (begin, every round, every iterate, elect, tie, defeat) shows votes + residual = ballots exactly.
    No hypothesis on keep factors, precision or omega. -/
theorem meek_loop_identity (hA : LawfulArith A) (hz : A.isZero A.zero = true) (o : MeekOpts) (omega : α) (iterFuel fuel : Nat)
    (s t : St α) (h : MInv A s)
    (hl : loopN (fun s => !meekCountComplete s) (meekBody A o omega iterFuel) fuel s = some t) :
    MInv A t ∧ MInv A (t.hopeful.foldl (meekRemainingStep A o) t) :=
  have ht := (meekStable_MInv A hA hz o).loop hA hz omega iterFuel fuel h hl
  ⟨ht, (meekStable_MInv A hA hz o).remaining hA hz ht⟩

/-- **C08 / C02 for meek and warren on strict ballots, from the start of the count**: every snapshot of the record up to
    the last exclusion or election has votes + residual = ballots, for every input, every keep-factor history, every
    precision and omega -/
theorem meek_identity (hA : LawfulArith A) (hz : A.isZero A.zero = true) (o : MeekOpts) (omega : α) (iterFuel fuel : Nat)
    (s0 t : St α) (h0 : MInit A s0)
    (hl : loopN (fun s => !meekCountComplete s) (meekBody A o omega iterFuel) fuel (meekInit A s0) = some t) :
    RecM A (t.hopeful.foldl (meekRemainingStep A o) t) :=
  (meek_loop_identity A hA hz o omega iterFuel fuel _ t (MInv.meekInit A hA h0) hl).2.recM

end Droop
