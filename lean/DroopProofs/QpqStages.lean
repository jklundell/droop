import DroopModel.Driver
import DroopProofs.SeatsLoop

/-! # QPQ in named stages

A round (`qpqBody`) is cut into the stages `qR1` … `qR5`, `qQ1`, `qDecide`; the count into `qpqStart`, the loop and `qpqFinish`.
Both branches of the decision are one `qTie` (the tie-break among the hopefuls at the largest resp. smallest quotient, then
`qElectK` resp. `qDefeatK`): `qDecide_cons`.  `qDecide_cases` lists the four ways a decision can go; `qpqLoop_inv` and
`qpqLoop_comm` are the loop's invariant rule and its commutation rule. -/
namespace Droop
variable {α : Type} [CommRing α] [LinearOrder α] [IsStrictOrderedRing α] (A : Arith α)

def qR1 (q : QSt α) : St α := q.s.newRound A

def unElect (s1 : St α) : St α :=
  { s1 with cands := s1.cands.map (fun (c : Cand α) => if c.st == .elected then { c with st := .hopeful } else c) }

def mapBallots (s : St α) (g : Ballot α → Ballot α) : St α := { s with ballots := s.ballots.map g }

def qRestart (s1 : St α) : St α :=
  mapBallots (unElect s1) (fun (b : Ballot α) => qAdvance (unElect s1) { b with idx := 0, w := A.zero, residual := A.zero })

def qR2 (q : QSt α) : St α := if q.restart then qRestart A (qR1 A q) else qR1 A q

def qR3 (q : QSt α) : St α :=
  { qR2 A q with cands := (qR2 A q).cands.map (fun (c : Cand α) => if c.st == .hopeful then { c with vote := A.zero, tc := A.zero } else c) }

def qQ1 (q : QSt α) : QSt α := (qR3 A q).ballots.foldl (qTally A) { s := qR3 A q, va := A.zero, tx := A.zero, restart := false }

def qR4 (q : QSt α) : St α :=
  { (qQ1 A q).s with cands := (qQ1 A q).s.cands.map (fun (c : Cand α) =>
      if c.st == .hopeful then { c with quotient := some (A.divV c.vote (A.add A.one c.tc)) } else c) }

def qR5 (q : QSt α) : St α :=
  if (qpqQuota A { qQ1 A q with s := qR4 A q }).2 then
    ({ qR4 A q with quota := (qpqQuota A { qQ1 A q with s := qR4 A q }).1 } : St α).setCrash "ZeroDivisionError"
  else { qR4 A q with quota := (qpqQuota A { qQ1 A q with s := qR4 A q }).1 }

def qQuot (c : Cand α) : α := c.quotient.getD A.zero

/-- the state after the election of `hc` (a zero quotient is the implementation's ZeroDivisionError) -/
def qElected (s6 : St α) (hc : Cand α) : St α :=
  if A.isZero (qQuot A hc) then (s6.elect A hc.cid "Elect high quotient" false).setCrash "ZeroDivisionError"
  else s6.elect A hc.cid "Elect high quotient" false

def qDecide (q1 : QSt α) (s5 : St α) : QSt α × Flow :=
  match s5.hopeful with
  | [] => ({ q1 with s := s5.setCrash "ValueError" }, .brk)
  | h :: hs =>
    if A.gt (A.pyMax (qQuot A h) (hs.map (qQuot A))) s5.quota then
      match breakTie A s5 (s5.hopeful.filter (fun c => A.eq (qQuot A c) (A.pyMax (qQuot A h) (hs.map (qQuot A)))))
          "Break tie by lot (largest quotient)" with
      | (s6, some hc) =>
        ({ q1 with s := (mapBallots (qElected A s6 hc) (fun (b : Ballot α) =>
                if b.top == some hc.cid then qAdvance (qElected A s6 hc) { b with w := A.divV A.one (qQuot A hc) } else b)).logAct A "transfer" "Transfer elected" [hc.cid] }, .cont)
      | (s6, none) => ({ q1 with s := s6 }, .brk)
    else
      match breakTie A s5 (s5.hopeful.filter (fun c => A.eq (qQuot A c) (A.pyMin (qQuot A h) (hs.map (qQuot A)))))
          "Break tie by lot (smallest quotient)" with
      | (s6, some lc) =>
        ({ q1 with s := (mapBallots (s6.defeat A lc.cid "Defeat low quotient") (fun (b : Ballot α) =>
                if b.top == some lc.cid then qAdvance (s6.defeat A lc.cid "Defeat low quotient") b else b)).logAct A "transfer" "Transfer defeated" [lc.cid], restart := true }, .cont)
      | (s6, none) => ({ q1 with s := s6 }, .brk)

theorem qpqBody_eq (q : QSt α) : qpqBody A q = qDecide A (qQ1 A q) (qR5 A q) := by
  unfold qpqBody
  rfl

theorem breakTie_fst {s s6 : St α} {tied : List (Cand α)} {verb : String} {oc : Option (Cand α)}
    (h : breakTie A s tied verb = (s6, oc)) : s6.cands = s.cands ∧ s6.ballots = s.ballots ∧ s6.seats = s.seats := by
  have hf := breakTie_frame A s tied verb
  have hs := ((stepRel_frame A).breakTie s tied verb).2.1
  rw [h] at hf hs
  exact ⟨hf.1, hf.2.1, hs⟩

theorem breakTie_snd {s s6 : St α} {tied : List (Cand α)} {verb : String} {c : Cand α}
    (h : breakTie A s tied verb = (s6, some c)) : c ∈ tied :=
  breakTie_mem A s tied verb c (by rw [h])

/-- what an election does to the decision state `s6` (after the tie-break) -/
def qElectK (q1 : QSt α) (s6 : St α) (hc : Cand α) : QSt α × Flow :=
  ({ q1 with s := (mapBallots (qElected A s6 hc) (fun (b : Ballot α) =>
      if b.top == some hc.cid then qAdvance (qElected A s6 hc) { b with w := A.divV A.one (qQuot A hc) } else b)).logAct A "transfer" "Transfer elected" [hc.cid] }, .cont)

def qDefeatK (q1 : QSt α) (s6 : St α) (lc : Cand α) : QSt α × Flow :=
  ({ q1 with s := (mapBallots (s6.defeat A lc.cid "Defeat low quotient") (fun (b : Ballot α) =>
      if b.top == some lc.cid then qAdvance (s6.defeat A lc.cid "Defeat low quotient") b else b)).logAct A "transfer" "Transfer defeated" [lc.cid], restart := true }, .cont)

/-- the tie-break among the hopefuls whose quotient is `v`, then `k` for the candidate picked; no pick: the round breaks off -/
def qTie (q1 : QSt α) (s5 : St α) (v : α) (verb : String) (k : St α → Cand α → QSt α × Flow) : QSt α × Flow :=
  match breakTie A s5 (s5.hopeful.filter (fun c => A.eq (qQuot A c) v)) verb with
  | (s6, some c) => k s6 c
  | (s6, none) => ({ q1 with s := s6 }, .brk)

theorem qDecide_nil (q1 : QSt α) {s5 : St α} (h : s5.hopeful = []) :
    qDecide A q1 s5 = ({ q1 with s := s5.setCrash "ValueError" }, .brk) := by
  unfold qDecide; rw [h]

/-- both branches of the decision are a `qTie`: on the largest quotient with an election, on the smallest with an exclusion -/
theorem qDecide_cons (q1 : QSt α) {s5 : St α} {hd : Cand α} {hs : List (Cand α)} (h : s5.hopeful = hd :: hs) :
    qDecide A q1 s5 = if A.gt (A.pyMax (qQuot A hd) (hs.map (qQuot A))) s5.quota
      then qTie A q1 s5 (A.pyMax (qQuot A hd) (hs.map (qQuot A))) "Break tie by lot (largest quotient)" (qElectK A q1)
      else qTie A q1 s5 (A.pyMin (qQuot A hd) (hs.map (qQuot A))) "Break tie by lot (smallest quotient)" (qDefeatK A q1) := by
  unfold qDecide qTie
  generalize hf : s5.hopeful.filter = f
  rw [h]
  simp only [hf]
  rfl

theorem qTie_cases (q1 : QSt α) (s5 : St α) (v : α) (verb : String) (k : St α → Cand α → QSt α × Flow) :
    (∃ s6, breakTie A s5 (s5.hopeful.filter (fun c => A.eq (qQuot A c) v)) verb = (s6, none)
        ∧ qTie A q1 s5 v verb k = ({ q1 with s := s6 }, .brk))
    ∨ (∃ s6 c, breakTie A s5 (s5.hopeful.filter (fun c => A.eq (qQuot A c) v)) verb = (s6, some c)
        ∧ s6.cands = s5.cands ∧ c ∈ s5.hopeful ∧ qTie A q1 s5 v verb k = k s6 c) := by
  unfold qTie
  cases hb : breakTie A s5 (s5.hopeful.filter (fun c => A.eq (qQuot A c) v)) verb with
  | mk s6 oc =>
    cases oc with
    | none => exact Or.inl ⟨s6, rfl, rfl⟩
    | some c => exact Or.inr ⟨s6, c, rfl, (breakTie_fst A hb).1, (List.mem_filter.1 (breakTie_snd A hb)).1, rfl⟩

/-- The four ways the decision of a round can go: nobody is hopeful (crash); a tie-break fails (crash); the largest quotient is above
the quota and its candidate is elected; it is not, and the candidate with the smallest quotient is excluded. -/
theorem qDecide_cases (q1 : QSt α) (s5 : St α) :
    (s5.hopeful = [] ∧ qDecide A q1 s5 = ({ q1 with s := s5.setCrash "ValueError" }, .brk))
    ∨ (∃ (hd : Cand α) (hs : List (Cand α)) (v : α) (verb : String) (s6 : St α), s5.hopeful = hd :: hs
        ∧ (v = A.pyMax (qQuot A hd) (hs.map (qQuot A)) ∨ v = A.pyMin (qQuot A hd) (hs.map (qQuot A)))
        ∧ breakTie A s5 ((hd :: hs).filter (fun c => A.eq (qQuot A c) v)) verb = (s6, none)
        ∧ qDecide A q1 s5 = ({ q1 with s := s6 }, .brk))
    ∨ (∃ (hd : Cand α) (hs : List (Cand α)) (s6 : St α) (hc : Cand α), s5.hopeful = hd :: hs
        ∧ A.gt (A.pyMax (qQuot A hd) (hs.map (qQuot A))) s5.quota = true
        ∧ breakTie A s5 ((hd :: hs).filter (fun c => A.eq (qQuot A c) (A.pyMax (qQuot A hd) (hs.map (qQuot A)))))
            "Break tie by lot (largest quotient)" = (s6, some hc)
        ∧ s6.cands = s5.cands ∧ hc ∈ s5.hopeful
        ∧ qDecide A q1 s5 = qElectK A q1 s6 hc)
    ∨ (∃ (hd : Cand α) (hs : List (Cand α)) (s6 : St α) (lc : Cand α), s5.hopeful = hd :: hs
        ∧ ¬ A.gt (A.pyMax (qQuot A hd) (hs.map (qQuot A))) s5.quota = true
        ∧ breakTie A s5 ((hd :: hs).filter (fun c => A.eq (qQuot A c) (A.pyMin (qQuot A hd) (hs.map (qQuot A)))))
            "Break tie by lot (smallest quotient)" = (s6, some lc)
        ∧ s6.cands = s5.cands ∧ lc ∈ s5.hopeful
        ∧ qDecide A q1 s5 = qDefeatK A q1 s6 lc) := by
  cases hh : s5.hopeful with
  | nil => exact Or.inl ⟨rfl, qDecide_nil A q1 hh⟩
  | cons hd hs =>
    rw [qDecide_cons A q1 hh]
    have key := fun v verb k => hh ▸ qTie_cases A q1 s5 v verb k
    by_cases hg : A.gt (A.pyMax (qQuot A hd) (hs.map (qQuot A))) s5.quota = true
    · rw [if_pos hg]
      rcases key _ "Break tie by lot (largest quotient)" (qElectK A q1) with ⟨s6, hb, e⟩ | ⟨s6, c, hb, hfr, hm, e⟩
      · exact Or.inr (Or.inl ⟨hd, hs, _, _, s6, rfl, Or.inl rfl, hb, e⟩)
      · exact Or.inr (Or.inr (Or.inl ⟨hd, hs, s6, c, rfl, hg, hb, hfr, hm, e⟩))
    · rw [if_neg hg]
      rcases key _ "Break tie by lot (smallest quotient)" (qDefeatK A q1) with ⟨s6, hb, e⟩ | ⟨s6, c, hb, hfr, hm, e⟩
      · exact Or.inr (Or.inl ⟨hd, hs, _, _, s6, rfl, Or.inr rfl, hb, e⟩)
      · exact Or.inr (Or.inr (Or.inr ⟨hd, hs, s6, c, rfl, hg, hb, hfr, hm, e⟩))

theorem qpqLoop_stop (fuel : Nat) (q : QSt α) (h : q.s.crash.isSome = true ∨ qpqCountComplete q.s = true) :
    qpqLoop A (fuel + 1) q = some q := by
  unfold qpqLoop
  by_cases hc : q.s.crash.isSome = true
  · rw [if_pos hc]
  · rw [if_neg hc, h.resolve_left hc]
    rfl

theorem qpqLoop_round (fuel : Nat) (q : QSt α) (hc : q.s.crash.isSome = false) (hg : qpqCountComplete q.s = false) :
    qpqLoop A (fuel + 1) q = match qpqBody A q with
      | (q', .cont) => qpqLoop A fuel q'
      | (q', .brk) => some q' := by
  rw [qpqLoop, hc, hg]
  rfl

/-- What holds where the loop starts, and is kept by every round run from a state that is neither crashed nor complete, holds
where the loop stops; and it stops crashed, complete, or on a round that broke off. -/
theorem qpqLoop_inv (P : QSt α → Prop)
    (hstep : ∀ q, P q → q.s.crash.isSome = false → qpqCountComplete q.s = false → P (qpqBody A q).1) :
    ∀ (fuel : Nat) (q r : QSt α), P q → qpqLoop A fuel q = some r →
      P r ∧ (r.s.crash.isSome = true ∨ qpqCountComplete r.s = true ∨ ∃ q', qpqBody A q' = (r, .brk)) := by
  intro fuel
  induction fuel with
  | zero => intro q r _ h; cases h
  | succ n ih =>
    intro q r hP h
    by_cases hc : q.s.crash.isSome = true
    · rw [qpqLoop_stop A n q (Or.inl hc)] at h
      cases h
      exact ⟨hP, Or.inl hc⟩
    · by_cases hg : qpqCountComplete q.s = true
      · rw [qpqLoop_stop A n q (Or.inr hg)] at h
        cases h
        exact ⟨hP, Or.inr (Or.inl hg)⟩
      · rw [qpqLoop_round A n q (eq_false_of_ne_true hc) (eq_false_of_ne_true hg)] at h
        have hP' := hstep q hP (eq_false_of_ne_true hc) (eq_false_of_ne_true hg)
        cases hq : qpqBody A q with
        | mk q' fl =>
          rw [hq] at h hP'
          cases fl with
          | cont => exact ih q' r hP' h
          | brk => cases h; exact ⟨hP', Or.inr (Or.inr ⟨q, hq⟩)⟩

/-- A transformation of states that commutes with the crash test, with the guard, and — on states satisfying `I`, which rounds
keep — with a round, commutes with the loop. -/
theorem qpqLoop_comm (T : QSt α → QSt α) (I : QSt α → Prop)
    (hcr : ∀ q, (T q).s.crash.isSome = q.s.crash.isSome) (hcc : ∀ q, qpqCountComplete (T q).s = qpqCountComplete q.s)
    (hbody : ∀ q, I q → qpqBody A (T q) = (T (qpqBody A q).1, (qpqBody A q).2) ∧ I (qpqBody A q).1) :
    ∀ (fuel : Nat) (q : QSt α), I q → qpqLoop A fuel (T q) = (qpqLoop A fuel q).map T := by
  intro fuel
  induction fuel with
  | zero => intro q _; rfl
  | succ n ih =>
    intro q hI
    by_cases hs : q.s.crash.isSome = true ∨ qpqCountComplete q.s = true
    · rw [qpqLoop_stop A n q hs, qpqLoop_stop A n (T q) (by rw [hcr, hcc]; exact hs)]
      rfl
    · have hc : q.s.crash.isSome = false := eq_false_of_ne_true (fun h => hs (Or.inl h))
      have hg : qpqCountComplete q.s = false := eq_false_of_ne_true (fun h => hs (Or.inr h))
      obtain ⟨hb, hI'⟩ := hbody q hI
      rw [qpqLoop_round A n q hc hg, qpqLoop_round A n (T q) (by rw [hcr]; exact hc) (by rw [hcc]; exact hg), hb]
      cases hq : qpqBody A q with
      | mk q' fl =>
        rw [hq] at hI'
        cases fl with
        | cont => exact ih q' hI'
        | brk => rfl

def qS1 (s0 : St α) : St α :=
  { s0 with cands := s0.cands.map (fun (c : Cand α) =>
      if c.st == .hopeful then { c with tc := A.zero, quotient := some A.zero } else c) }

def qVA (s0 : St α) : α := A.sum (((qS1 A s0).ballots.filter (fun b => !b.exhaustedB)).map (fun b => A.ofInt b.mult))

def qpqStart (s0 : St α) : QSt α :=
  { s := (mapBallots { qS1 A s0 with quota := (qpqQuota A { s := qS1 A s0, va := qVA A s0, tx := A.zero, restart := true }).1 }
            (fun (b : Ballot α) => { b with w := A.zero })).logAct A "begin" "Begin Count" []
    va := qVA A s0, tx := A.zero, restart := true }

def qpqFinish (q : QSt α) : St α :=
  if q.s.crash.isSome then q.s else
  let s4 := if decide ((q.s.hopeful.length : Int) ≤ q.s.seatsLeft) then
              q.s.hopeful.foldl (fun acc c => acc.elect A c.cid "Elect remaining candidates" false) q.s
            else q.s
  s4.hopeful.foldl (fun acc c => acc.defeat A c.cid "Defeat remaining candidates") s4

theorem qpqCount_eq (s0 : St α) :
    qpqCount A s0 = (qpqLoop A (s0.cands.length * (s0.cands.length + 2) + 3) (qpqStart A s0)).map (qpqFinish A) := by
  have h : qpqCount A s0 = match qpqLoop A (s0.cands.length * (s0.cands.length + 2) + 3) (qpqStart A s0) with
      | none => none
      | some q => some (qpqFinish A q) := by
    unfold qpqCount
    show (match qpqLoop A (s0.cands.length * (s0.cands.length + 2) + 3) (qpqStart A s0) with
      | none => none
      | some q => _) = _
    cases qpqLoop A (s0.cands.length * (s0.cands.length + 2) + 3) (qpqStart A s0) with
    | none => rfl
    | some q =>
      simp only
      unfold qpqFinish
      split <;> rfl
  rw [h]
  cases qpqLoop A (s0.cands.length * (s0.cands.length + 2) + 3) (qpqStart A s0) <;> rfl

theorem qpqCount_some {s0 t : St α} (h : qpqCount A s0 = some t) :
    ∃ r, qpqLoop A (s0.cands.length * (s0.cands.length + 2) + 3) (qpqStart A s0) = some r ∧ qpqFinish A r = t :=
  Option.map_eq_some_iff.1 ((qpqCount_eq A s0).symm.trans h)

/-- the closing stage's two steps: elect every hopeful candidate if they fit the open seats; exclude whoever is still hopeful -/
def fitElect (s : St α) : St α :=
  if decide ((s.hopeful.length : Int) ≤ s.seatsLeft) then
    s.hopeful.foldl (fun acc c => acc.elect A c.cid "Elect remaining candidates" false) s
  else s

def defeatRest (s : St α) : St α := s.hopeful.foldl (fun acc c => acc.defeat A c.cid "Defeat remaining candidates") s

theorem qpqFinish_eq (q : QSt α) : qpqFinish A q = if q.s.crash.isSome then q.s else defeatRest A (fitElect A q.s) := rfl

theorem runRuleSt'_qpq (c : Case) (hr : c.rule = "qpq") (s0 : St α) : runRuleSt' A c s0 = qpqCount A s0 := by
  simp only [runRuleSt', hr]

theorem runRuleSt_qpq (c : Case) (hr : c.rule = "qpq") : runRuleSt A c = qpqCount A (initState A c) :=
  runRuleSt'_qpq A c hr _

end Droop
