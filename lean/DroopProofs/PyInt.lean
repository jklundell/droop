import DroopModel.Values
import Mathlib.Data.Rat.Floor
import Mathlib.Tactic.Linarith
import Mathlib.Tactic.Ring
import Mathlib.Tactic.FieldSimp
import Mathlib.Tactic.Positivity

/-! # Python `//` and `%` on integers: `a // b` is the floor of the exact quotient for every sign of `b`; `a % b = 0` iff the quotient is exact -/
namespace Droop

theorem pow10_pos (n : Nat) : 0 < pow10 n := by unfold pow10; positivity

theorem fmod_bounds_pos (a : Int) {b : Int} (hb : 0 < b) : 0 ≤ a.fmod b ∧ a.fmod b < b :=
  ⟨Int.fmod_nonneg_of_pos a hb, Int.fmod_lt_of_pos a hb⟩

theorem pdiv_eq_floor (a b : Int) (hb : b ≠ 0) : pdiv a b = ⌊(a : ℚ) / (b : ℚ)⌋ := by
  have pos : ∀ a b : Int, 0 < b → a.fdiv b = ⌊(a : ℚ) / (b : ℚ)⌋ := by
    intro a b hb
    obtain ⟨n, rfl⟩ := Int.eq_ofNat_of_zero_le hb.le
    rw [Int.fdiv_eq_ediv_of_nonneg a hb.le]
    exact (Rat.floor_intCast_div_natCast a n).symm
  unfold pdiv
  rcases lt_or_gt_of_ne hb with h | h
  -- a negative divisor: negate both
  · rw [← Int.neg_fdiv_neg, pos (-a) (-b) (by omega)]
    push_cast
    rw [neg_div_neg_eq]
  · exact pos a b h

theorem pmod_eq_zero_iff (a b : Int) (hb : b ≠ 0) : pmod a b = 0 ↔ ((pdiv a b : ℤ) : ℚ) = (a : ℚ) / (b : ℚ) := by
  unfold pmod pdiv
  have hdef := Int.mul_fdiv_add_fmod a b
  have hq : (b : ℚ) ≠ 0 := by exact_mod_cast hb
  constructor
  · intro h
    rw [h] at hdef
    field_simp
    have : a.fdiv b * b = a := by linarith [mul_comm b (a.fdiv b)]
    exact_mod_cast this
  · intro h
    field_simp at h
    have h' : a.fdiv b * b = a := by exact_mod_cast h
    linarith [mul_comm b (a.fdiv b)]

theorem pdiv_mul_le (a b : Int) (hb : 0 < b) : pdiv a b * b ≤ a := by
  unfold pdiv
  rw [Int.fdiv_eq_ediv_of_nonneg a (le_of_lt hb)]
  exact Int.ediv_mul_le a (ne_of_gt hb)

theorem pdiv_nonneg (a b : Int) (ha : 0 ≤ a) (hb : 0 < b) : 0 ≤ pdiv a b := by
  unfold pdiv
  rw [Int.fdiv_eq_ediv_of_nonneg a (le_of_lt hb)]
  exact Int.ediv_nonneg ha (le_of_lt hb)

theorem pdiv_mul_cancel (a b : Int) (hb : 0 < b) : pdiv (a * b) b = a := by
  unfold pdiv
  rw [Int.fdiv_eq_ediv_of_nonneg _ (le_of_lt hb)]
  exact Int.mul_ediv_cancel a (ne_of_gt hb)

end Droop
