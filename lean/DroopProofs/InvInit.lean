import DroopProofs.InvWigmRun

/-! # The bundle holds when the main loop is entered

`Init` is what `Election.__init__` and `Election.count()` hand to a Gregory rule.  After the quota is set and the first
preferences are counted every tally is the value of the ballots standing to its credit and the tallies are worth all the
ballots, so with the `begin` line the state satisfies `Inv`. -/
namespace Droop
variable {α : Type} [CommRing α] [LinearOrder α] [IsStrictOrderedRing α] (A : Arith α)

/-- what `Election.__init__` + `Election.count()` hand to a Gregory rule -/
structure Init (s : St α) : Prop where
  meth : s.method = .wigm
  noActs : s.acts = []
  wf : s.WF
  bwf : BallotsWF s
  votes0 : ∀ c ∈ s.cands, c.vote = 0
  noPending : ∀ c ∈ s.cands, c.pending = false
  ballots0 : ∀ b ∈ s.ballots, b.idx = 0 ∧ b.w = A.one ∧ b.rank ≠ []
  nb : ((s.nballots : Int) : α) = (s.ballots.map (fun b => ((b.mult : Int) : α))).sum

def fcStep (s : St α) (b : Ballot α) : St α :=
  match b.top with
  | some c => s.addVote A c (bvote A b)
  | none => s

theorem firstCount_eq (s : St α) : firstCount A s = s.ballots.foldl (fcStep A) s := rfl

theorem fcStep_skel (s : St α) (b : Ballot α) : (fcStep A s b).skel = s.skel :=
  TransferBlind.skel.foldl_firstStep [b] s

theorem foldl_fcStep_skel (bs : List (Ballot α)) (s : St α) : (bs.foldl (fcStep A) s).skel = s.skel :=
  TransferBlind.skel.foldl_firstStep bs s

theorem foldl_fcStep_frame (bs : List (Ballot α)) (s : St α) :
    (bs.foldl (fcStep A) s).ballots = s.ballots ∧ (bs.foldl (fcStep A) s).exhausted = s.exhausted
    ∧ (bs.foldl (fcStep A) s).quota = s.quota ∧ (bs.foldl (fcStep A) s).nballots = s.nballots
    ∧ (bs.foldl (fcStep A) s).method = s.method ∧ (bs.foldl (fcStep A) s).acts = s.acts :=
  ⟨TallyBlind.ballots.foldl_firstStep bs s, TallyBlind.exhausted.foldl_firstStep bs s,
   TransferBlind.quota.foldl_firstStep bs s, TransferBlind.nballots.foldl_firstStep bs s,
   TransferBlind.method.foldl_firstStep bs s, TransferBlind.acts.foldl_firstStep bs s⟩

theorem foldl_fcStep_voteOf (hA : LawfulArith A) (s0 : St α) (d : Nat) (bs : List (Ballot α)) (s : St α)
    (hsk : s.skel = s0.skel) (hb : ∀ b ∈ bs, ∀ cid ∈ b.rank, (s0.cand? cid).isSome) :
    (bs.foldl (fcStep A) s).voteOf d = s.voteOf d + (bs.map (fun b => if b.top = some d then bvote A b else 0)).sum := by
  induction bs generalizing s with
  | nil => simp
  | cons b bs ih =>
    simp only [List.foldl_cons, List.map_cons, List.sum_cons]
    rw [ih _ (by rw [fcStep_skel]; exact hsk) (fun b' hb' => hb b' (by simp [hb']))]
    have : (fcStep A s b).voteOf d = s.voteOf d + (if b.top = some d then bvote A b else 0) := by
      unfold fcStep
      cases htop : b.top with
      | none => simp
      | some c =>
        have hsome : (s.cand? c).isSome := by
          rw [cand?_isSome_of_skel hsk]; exact hb b (by simp) c (top_mem_rank b c htop)
        simp only
        rw [voteOf_addVote A (lawfulAdd_of hA) s c d _ hsome]
        by_cases hcd : c = d <;> simp [hcd]
    rw [this]; ring

theorem foldl_fcStep_sumVotes (hA : LawfulArith A) (s0 : St α) (hwf : s0.WF) (bs : List (Ballot α)) (s : St α)
    (hsk : s.skel = s0.skel) (hb : ∀ b ∈ bs, (∀ cid ∈ b.rank, (s0.cand? cid).isSome) ∧ b.top ≠ none) :
    (bs.foldl (fcStep A) s).sumVotes = s.sumVotes + (bs.map (bvote A)).sum := by
  induction bs generalizing s with
  | nil => simp
  | cons b bs ih =>
    simp only [List.foldl_cons, List.map_cons, List.sum_cons]
    rw [ih _ (by rw [fcStep_skel]; exact hsk) (fun b' hb' => hb b' (by simp [hb']))]
    have : (fcStep A s b).sumVotes = s.sumVotes + bvote A b := by
      unfold fcStep
      obtain ⟨hr, hne⟩ := hb b (by simp)
      cases htop : b.top with
      | none => exact absurd htop hne
      | some c =>
        have hsome : (s.cand? c).isSome := by
          rw [cand?_isSome_of_skel hsk]; exact hr c (top_mem_rank b c htop)
        exact sumVotes_addVote A hA s c _ (WF_of_skel hsk.symm hwf) hsome
    rw [this]; ring

/-- the state `t` after the quota is set and the first preferences are counted: candidates as at the start but for the tallies,
    every tally the value of the ballots standing to its credit, and the tallies together worth all the ballots -/
theorem firstCount_facts (hA : LawfulArith A) (q : α) {s0 : St α} (h0 : Init A s0) {t : St α}
    (ht : t = (firstCount A (s0.setQuota q)).setExhausted A.zero) :
    t.skel = s0.skel ∧ t.WF ∧ t.ballots = s0.ballots ∧ t.quota = q ∧ t.nballots = s0.nballots ∧ t.method = s0.method
    ∧ t.acts = s0.acts ∧ t.exhausted = A.zero ∧ (∀ d, t.voteOf d = s0.tally A d)
    ∧ t.sumVotes = ((s0.nballots : Int) : α) * A.one := by
  subst ht
  set s1 : St α := s0.setQuota q with hs1
  have hsk1 : s1.skel = s0.skel := rfl
  rw [firstCount_eq]
  obtain ⟨f1, f2, f3, f4, f5, f6⟩ := foldl_fcStep_frame A s1.ballots s1
  have hskel : (s1.ballots.foldl (fcStep A) s1).skel = s0.skel := (foldl_fcStep_skel A _ _).trans hsk1
  have hbw : ∀ b ∈ s1.ballots, ∀ cid ∈ b.rank, (s0.cand? cid).isSome := h0.bwf
  have htop : ∀ b ∈ s0.ballots, b.top ≠ none := by
    intro b hb
    obtain ⟨hi, _, hne⟩ := h0.ballots0 b hb
    unfold Ballot.top; rw [hi]
    cases hr : b.rank with
    | nil => exact absurd hr hne
    | cons x xs => simp
  have hvote : ∀ d, (s1.ballots.foldl (fcStep A) s1).voteOf d = s0.tally A d := by
    intro d
    rw [foldl_fcStep_voteOf A hA s0 d s1.ballots s1 hsk1 hbw]
    have h0v : s1.voteOf d = 0 := by
      unfold St.voteOf
      cases hc : s1.cand? d with
      | none => rfl
      | some c => exact h0.votes0 c (List.mem_of_find?_eq_some hc)
    rw [h0v, zero_add]; rfl
  have hsum : (s1.ballots.foldl (fcStep A) s1).sumVotes = ((s0.nballots : Int) : α) * A.one := by
    rw [foldl_fcStep_sumVotes A hA s0 h0.wf s1.ballots s1 hsk1 (fun b hb => ⟨hbw b hb, htop b hb⟩)]
    have hz : s1.sumVotes = 0 := by
      unfold St.sumVotes
      have : s1.cands.map (·.vote) = s1.cands.map (fun _ => (0 : α)) :=
        List.map_congr_left (fun c hc => h0.votes0 c hc)
      rw [this]; simp
    rw [hz, zero_add, h0.nb]
    have : s1.ballots.map (bvote A) = s0.ballots.map (fun b => ((b.mult : Int) : α) * A.one) :=
      List.map_congr_left (fun b hb => by rw [bvote_eq A hA, (h0.ballots0 b hb).2.1]; ring)
    rw [this]
    clear this
    induction s0.ballots with
    | nil => simp
    | cons b bs ih => simp only [List.map_cons, List.sum_cons, ih]; ring
  exact ⟨hskel, WF_of_skel hskel.symm h0.wf, f1, f3, f4, f5, f6, rfl, hvote, hsum⟩

theorem Inv.initCore (hA : LawfulArith A) (q : α) {s0 : St α} (h0 : Init A s0) (hq : 0 < q) :
    Inv A ((firstCount A (s0.setQuota q)).setExhausted A.zero) := by
  obtain ⟨hskel, hwf, hb, hqe, hn, hm, ha, he, hvote, hsum⟩ := firstCount_facts A hA q h0 rfl
  generalize (firstCount A (s0.setQuota q)).setExhausted A.zero = t at *
  have hbpos : ∀ b ∈ s0.ballots, 0 ≤ bvote A b := by
    intro b hb'
    rw [bvote_eq A hA, (h0.ballots0 b hb').2.1]
    exact mul_nonneg (le_of_lt hA.one_pos) (by exact_mod_cast Nat.zero_le _)
  exact
    { meth := hm.trans h0.meth
      recOK := by intro a ha'; rw [ha, h0.noActs] at ha'; cases ha'
      wf := hwf
      bwf := by
        intro b hb' cid hcid
        rw [hb] at hb'
        rw [cand?_isSome_of_skel hskel]; exact h0.bwf b hb' cid hcid
      wpos := by
        intro b hb'; rw [hb] at hb'
        rw [(h0.ballots0 b hb').2.1]; exact le_of_lt hA.one_pos
      vpos := by
        intro c' hc'
        rw [← voteOf_of_mem hwf hc', hvote]
        unfold St.tally
        apply sum_nonneg'
        intro b hb'; split
        · exact hbpos b hb'
        · exact le_refl 0
      epos := by rw [he, hA.zero_eq]
      qpos := by rw [hqe]; exact hq
      i1 := by
        intro c' hc' _
        rw [← voteOf_of_mem hwf hc', hvote]
        unfold St.tally; rw [hb]
      pq := by
        intro c' hc' _ hp
        obtain ⟨c, hc, hsk⟩ := mem_of_skel_eq hskel hc'
        have := (skel_st hsk).2
        rw [h0.noPending c hc] at this
        rw [← this] at hp; cases hp
      cons := by unfold St.total; rw [hn, hsum, he, hA.zero_eq, add_zero] }

theorem Inv.init (hA : LawfulArith A) (q : α) {s0 : St α} (h0 : Init A s0) (hq : 0 < q) :
    Inv A (((firstCount A (s0.setQuota q)).setExhausted A.zero).logAct A "begin" "Begin Count" []) :=
  (Inv.initCore A hA q h0 hq).logAct A _ _ _

theorem Inv.wigmInit (hA : LawfulArith A) (o : WigmOpts) {s0 : St α} (h0 : Init A s0)
    (hq : 0 < wigmQuota A o s0) : Inv A (Droop.wigmInit A o s0) := by
  unfold Droop.wigmInit; exact Inv.init A hA _ h0 hq

theorem Inv.scotInit (hA : LawfulArith A) {s0 : St α} (h0 : Init A s0)
    (hq : 0 < A.ofInt (pdiv s0.nballots (s0.seats + 1) + 1)) : Inv A (Droop.scotInit A s0) := by
  unfold Droop.scotInit; exact Inv.init A hA _ h0 hq

/-- C02 (upper half) and C06 (I1) for wigm, wigm-prf and wigm-prf-batch (every configuration except `defeat_batch=zero`), for
    every input and lawful arithmetic: in the final state — and, through `recOK`, in every snapshot logged on the way — the
    tallies of non-withdrawn candidates plus the non-transferable total never exceed the ballots, nothing is negative, and every
    continuing candidate's tally is the value of the ballots standing to their credit -/
theorem wigm_conservation' (hA : LawfulArith A) (o : WigmOpts) (hz : o.batchZero = false) (hex : o.prf = true → A.exact = false)
    (s0 t : St α) (h0 : Init A s0) (hq : 0 < wigmQuota A o s0) (h : wigmCount A o s0 = some t) :
    Inv A (t.logAct A "end" "Count Complete" []) :=
  (wigmCount_inv' A hA o hz hex s0 t (Inv.wigmInit A hA o h0 hq) h).logAct A _ _ _

/-- the same for the configurations without batch exclusions -/
theorem wigm_conservation (hA : LawfulArith A) (o : WigmOpts) (ho : o.plain) (hex : o.prf = true → A.exact = false)
    (s0 t : St α) (h0 : Init A s0) (hq : 0 < wigmQuota A o s0) (h : wigmCount A o s0 = some t) :
    Inv A (t.logAct A "end" "Count Complete" []) :=
  wigm_conservation' A hA o ho.1 hex s0 t h0 hq h

end Droop
