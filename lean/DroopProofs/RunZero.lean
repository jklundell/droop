import DroopProofs.LowerRun
import DroopProofs.RunMpls
import DroopProofs.RunWigm

/-! # wigm, wigm-prf, wigm-prf-batch at run level, every configuration (`defeat_batch=zero` included)

The zero batch marks every zero-vote hopeful defeated (when that leaves enough candidates) and then transfers their ballots one
candidate at a time. The invariant of the sequence: the candidates still to be transferred are "just defeated" — out of scope,
their tallies still equal to the value of the ballots standing with them. -/
namespace Droop
variable {α : Type} [CommRing α] [LinearOrder α] [IsStrictOrderedRing α] (A : Arith α)

theorem voteOf_setVote_ne (s : St α) (cid d : Nat) (v : α) (hne : d ≠ cid) : (s.setVote cid v).voteOf d = s.voteOf d := by
  unfold St.voteOf St.setVote
  rw [cand?_upd s cid d (fun y => { y with vote := v }) (fun _ => rfl)]
  cases hf : s.cand? d with
  | none => rfl
  | some y =>
    have hy : y.cid = d := by
      have := List.find?_some hf; simpa using this
    have hne' : ¬ y.cid = cid := by rw [hy]; exact hne
    simp [hne']

/-- one exclusion transfer keeps the other just-defeated candidates just defeated -/
theorem justDefeated_after_transfer (hA : LawfulArith A) {s : St α} (h : Inv A s) (c : Nat) (rest : List Nat) (verb : String)
    (hj : JustDefeated A s (c :: rest)) : JustDefeated A (transferDefeated A s [c] verb) rest := by
  obtain ⟨hnd, hx⟩ := hj
  have hnd' := (List.nodup_cons.1 hnd)
  refine ⟨hnd'.2, ?_⟩
  intro cid hcid
  obtain ⟨x, hxm, hxc, hns, hnh, hv⟩ := hx cid (by simp [hcid])
  have hne : cid ≠ c := fun e => hnd'.1 (e ▸ hcid)
  rw [transferDefeated_eq]
  have hskT := transferAll_skel A s [c] id
  have hwfT : (transferAll A s [c] id).WF := WF_of_skel hskT.symm h.wf
  have hsk : (defeatedCore A s [c]).skel = s.skel := by
    unfold defeatedCore; simp only [List.foldl_cons, List.foldl_nil]; rw [setVote_skel, hskT]
  have hcands : ((defeatedCore A s [c]).logAct A "transfer" verb [c]).cands = (defeatedCore A s [c]).cands := logAct_cands A _ _ _ _
  have hxex : ∃ x' ∈ (defeatedCore A s [c]).cands, x'.skel = x.skel := by
    have : x.skel ∈ s.skel := List.mem_map.2 ⟨x, hxm, rfl⟩
    rw [← hsk] at this
    obtain ⟨x', hx', hsk'⟩ := List.mem_map.1 this
    exact ⟨x', hx', hsk'⟩
  obtain ⟨x', hx'm, hx'sk⟩ := hxex
  have hwfC : (defeatedCore A s [c]).WF := WF_of_skel hsk.symm h.wf
  refine ⟨x', by rw [hcands]; exact hx'm, (skel_cid hx'sk).trans hxc, ?_, ?_, ?_⟩
  · have hst := skel_st hx'sk
    unfold Cand.inScope; rw [hst.1, hst.2]; exact hns
  · rw [(skel_st hx'sk).1]; exact hnh
  · -- vote = tally, through transferAll_tally
    have hI0 : s.voteOf cid = s.tally A cid := by rw [← hxc, voteOf_of_mem h.wf hxm, hxc]; exact hv
    have hT := transferAll_tally A (lawfulAdd_of hA) s h.bwf [c] id cid (by simpa using hne) hI0
    have hv1 : (defeatedCore A s [c]).voteOf cid = (transferAll A s [c] id).voteOf cid := by
      unfold defeatedCore; simp only [List.foldl_cons, List.foldl_nil]
      exact voteOf_setVote_ne _ c cid _ hne
    have ht1 : ((defeatedCore A s [c]).logAct A "transfer" verb [c]).tally A cid = (transferAll A s [c] id).tally A cid := by
      unfold St.tally; rw [logAct_ballots]
      unfold defeatedCore; simp only [List.foldl_cons, List.foldl_nil]; rfl
    have hx'v : x'.vote = (defeatedCore A s [c]).voteOf cid := by
      rw [← hxc, ← skel_cid hx'sk]; exact (voteOf_of_mem hwfC hx'm).symm
    rw [ht1, hx'v, hv1]; exact hT

theorem nonElected_after_transfer (s : St α) (c : Nat) (verb : String) {cid : Nat}
    (h : ∀ x ∈ s.cands, x.cid = cid → x.st ≠ .elected) :
    ∀ x ∈ (transferDefeated A s [c] verb).cands, x.cid = cid → x.st ≠ .elected := by
  rw [transferDefeated_eq]
  have hsk : (defeatedCore A s [c]).skel = s.skel := by
    unfold defeatedCore; simp only [List.foldl_cons, List.foldl_nil]; rw [setVote_skel, transferAll_skel]
  intro x hx hxc
  rw [logAct_cands] at hx
  exact nonElected_of_skel hsk h x hx hxc

/-- transferring the ballots of just-defeated candidates one candidate at a time -/
theorem seqTransfer_spec (hA : LawfulArith A) (u : α) (rem : List (Cand α)) {s : St α} (hE : InvE A s) (hM : Mon s)
    (hj : JustDefeated A s (rem.map (·.cid)))
    (hne : ∀ cid ∈ rem.map (·.cid), ∀ x ∈ s.cands, x.cid = cid → x.st ≠ .elected) :
    let t := rem.foldl (fun acc c => transferDefeated A acc [c.cid] "Transfer defeated") s
    InvE A t ∧ Mon t ∧ Step s t ∧ (LInv A u s → LInv A u t) := by
  induction rem generalizing s with
  | nil =>
    exact ⟨hE, hM, ⟨id, id, Frame.refl s, Ext.refl s, rfl, rfl, id⟩, id⟩
  | cons c cs ih =>
    simp only [List.foldl_cons, List.map_cons] at hj hne ⊢
    have hx1 : ∀ cid ∈ [c.cid], ∃ x ∈ s.cands, x.cid = cid ∧ ¬ x.inScope ∧ x.st ≠ .hopeful ∧ x.vote = s.tally A cid := by
      intro cid hcid; simp at hcid; subst hcid; exact hj.2 c.cid (by simp)
    have hI1 := hE.1.transferDefeatedMany A hA [c.cid] "Transfer defeated" (by simp) hx1
    have hne1 : ∀ cid ∈ [c.cid], ∀ x ∈ s.cands, x.cid = cid → x.st ≠ .elected := by
      intro cid hcid; simp at hcid; subst hcid; exact hne c.cid (by simp)
    have hE1 := EHQ.transferDefeated A hA hE.1 hE.2 [c.cid] "Transfer defeated" hne1
    have hM1 := Mon.transferDefeated A hM [c.cid] "Transfer defeated"
    have hst1 : Step s (transferDefeated A s [c.cid] "Transfer defeated") := by
      rw [transferDefeated_eq]
      exact (step_defeatedCore A hA hE.1 [c.cid] hne1).trans (step_logAct A _ _ _ _)
    have hj1 := justDefeated_after_transfer A hA hE.1 c.cid (cs.map (·.cid)) "Transfer defeated" hj
    have hne' : ∀ cid ∈ cs.map (·.cid), ∀ x ∈ (transferDefeated A s [c.cid] "Transfer defeated").cands, x.cid = cid → x.st ≠ .elected := by
      intro cid hcid
      exact nonElected_after_transfer A s c.cid _ (hne cid (by simp [hcid]))
    obtain ⟨a1, a2, a3, a4⟩ := ih ⟨hI1, hE1⟩ hM1 hj1 hne'
    refine ⟨a1, a2, hst1.trans a3, fun hl => a4 ?_⟩
    exact LInv.transferDefeatedMany A hA u hE.1 hl [c.cid] "Transfer defeated" (by decide) (by simp) hx1

theorem pyMin_mem (x : α) (l : List α) : A.pyMin x l ∈ x :: l := by
  unfold Arith.pyMin
  induction l generalizing x with
  | nil => simp
  | cons y ys ih =>
    simp only [List.foldl_cons]
    by_cases hlt : A.lt y x = true
    · simp only [hlt, if_true]
      have := ih y
      simp only [List.mem_cons] at this ⊢
      rcases this with h | h
      · right; left; exact h
      · right; right; exact h
    · simp only [hlt, Bool.false_eq_true, if_false]
      have := ih x
      simp only [List.mem_cons] at this ⊢
      rcases this with h | h
      · left; exact h
      · right; right; exact h

theorem minVoteOf_mem (l : List (Cand α)) (lv : α) (h : minVoteOf A l = some lv) : ∃ c ∈ l, c.vote = lv := by
  cases l with
  | nil => simp [minVoteOf] at h
  | cons c cs =>
    simp only [minVoteOf, Option.some.injEq] at h
    have := pyMin_mem A c.vote (cs.map (·.vote))
    rw [h] at this
    rcases List.mem_cons.1 this with h1 | h1
    · exact ⟨c, by simp, h1.symm⟩
    · obtain ⟨c', hc', hv⟩ := List.mem_map.1 h1
      exact ⟨c', by simp [hc'], hv⟩

/-- `==` of the arithmetic is reflexive (it is for every arithmetic class: a value compares equal to itself) -/
def EqRefl : Prop := ∀ x : α, A.eq x x = true

theorem fixed_eqRefl (p : Nat) : EqRefl (fixedArith p) := by
  intro x; simp [Arith.eq, fixedArith, intCmp]

theorem wigmDefeatStep_all (hA : LawfulArith A) (u : α) (o : WigmOpts) (hr : o.batchZero = true → EqRefl A) {s : St α} (hE : InvE A s) (hM : Mon s)
    (hh : s.hopeful ≠ []) (hgt : s.seats < sumHE s) (hel : nEl s ≤ s.seats) :
    InvE A (wigmDefeatStep A o s) ∧ Mon (wigmDefeatStep A o s) ∧ Frame s (wigmDefeatStep A o s)
    ∧ Ext s (wigmDefeatStep A o s) ∧ s.seats ≤ sumHE (wigmDefeatStep A o s)
    ∧ (mu (wigmDefeatStep A o s) < mu s ∨ (wigmDefeatStep A o s).crash.isSome = true)
    ∧ (LInv A u s → LInv A u (wigmDefeatStep A o s)) := by
  obtain ⟨lv, hm⟩ := minVoteOf_isSome A s.hopeful hh
  by_cases hzc : (A.eq lv A.zero && o.batchZero && decide (((s.hopeful.filter (fun c => A.eq c.vote lv)).length : Int)
      ≤ (s.hopeful.length : Int) - s.seatsLeft)) = true
  · -- the zero batch
    have hstep : wigmDefeatStep A o s =
        (s.hopeful.filter (fun c => A.eq c.vote lv)).foldl (fun acc c => transferDefeated A acc [c.cid] "Transfer defeated")
          ((s.hopeful.filter (fun c => A.eq c.vote lv)).foldl (fun acc c => acc.defeat A c.cid "Defeat batch(zero)") s) := by
      unfold wigmDefeatStep; rw [hm]; dsimp only; rw [if_pos hzc]
    rw [hstep]
    simp only [Bool.and_eq_true, decide_eq_true_eq] at hzc
    have hb := hzc.2
    generalize hlows : s.hopeful.filter (fun c => A.eq c.vote lv) = lows at *
    have hsub : ∀ w ∈ lows, w ∈ s.hopeful := by intro w hw; rw [← hlows] at hw; exact (List.mem_filter.1 hw).1
    have hnd : (lows.map (·.cid)).Nodup := by
      rw [← hlows]
      exact List.Nodup.sublist (List.Sublist.map _ List.filter_sublist) (hopeful_cids_nodup hE.1.wf)
    have hne : lows ≠ [] := by
      obtain ⟨c, hc, hv⟩ := minVoteOf_mem A s.hopeful lv hm
      intro e
      have : c ∈ lows := by rw [← hlows]; exact List.mem_filter.2 ⟨hc, by rw [hv]; exact hr hzc.1.2 lv⟩
      rw [e] at this; cases this
    have hpos : 0 < lows.length := List.length_pos_of_ne_nil hne
    obtain ⟨a1, a2, a3, a4, a5, a6, a7, a8, _, a10⟩ := defeatMany_spec A hE hM lows lows "Defeat batch(zero)"
      (List.Perm.refl _) hnd hsub
    have hL1 : LInv A u s → LInv A u (lows.foldl (fun acc c => acc.defeat A c.cid "Defeat batch(zero)") s) :=
      fun hl => (hl.foldDefeat A u hE.1.meth lows _).1
    generalize lows.foldl (fun acc c => acc.defeat A c.cid "Defeat batch(zero)") s = s1 at *
    obtain ⟨b1, b2, b3, b4⟩ := seqTransfer_spec A hA u lows a1 a2 a3 a4
    refine ⟨b1, b2, a7.trans b3.frame, a8.trans b3.ext, ?_, Or.inl ?_, fun hl => b4 (hL1 hl)⟩
    · rw [b3.sumHE]; unfold sumHE St.seatsLeft nHop nEl at *; omega
    · rw [b3.mu]; omega
  · -- a single exclusion
    have hzc' : (A.eq lv A.zero && o.batchZero && decide (((s.hopeful.filter (fun c => A.eq c.vote lv)).length : Int)
        ≤ (s.hopeful.length : Int) - s.seatsLeft)) = false := by simpa using hzc
    have hstep : wigmDefeatStep A o s = wigmDefeatStep A { o with batchZero := false } s := by
      unfold wigmDefeatStep; rw [hm]; dsimp only; rw [hzc']; simp
    rw [hstep]
    have hI := hE.1
    refine ⟨InvE.wigmDefeatStep1 A hA _ rfl hE, (InvM.wigmDefeatStep1 A hA _ rfl ⟨hE.1, hM⟩).2, (stepRel_frame A).wigmDefeatStep _ s,
      (stepRel_ext A).wigmDefeatStep _ s, ?_, wigmDefeatStep_progress A _ rfl hE.1 hh, ?_⟩
    · have := sumHE_wigmDefeatStep A { o with batchZero := false } rfl hE.1; omega
    · intro hl; exact (InvL.wigmDefeatStep1 A hA u _ rfl ⟨hE.1, hl⟩).2

/-- one round of wigm / wigm-prf / wigm-prf-batch in any configuration: the round invariant, progress, what a round that
    breaks leaves, and the lower bound of C02 for any `u` the re-weighting admits -/
theorem wigmBody_spec_gen (hA : LawfulArith A) (o : WigmOpts) (hr : o.batchZero = true → EqRefl A)
    (hex : o.prf = true → A.exact = false) {s : St α} (h : GInv A s) (hg : stdGuard s = true) :
    GInv A (wigmBody A o s).1
    ∧ ((wigmBody A o s).2 = .cont → mu (wigmBody A o s).1 < mu s ∨ (wigmBody A o s).1.crash.isSome = true)
    ∧ ((wigmBody A o s).2 = .brk → ((wigmBody A o s).1.hopeful.length : Int) ≤ (wigmBody A o s).1.seatsLeft)
    ∧ ∀ u, 0 ≤ u → RewLower A u (rewMulDiv A) → LInv A u s → LInv A u (wigmBody A o s).1 := by
  have hgt := guard_strict s hg
  have h1 := h.newRound A
  have hsound : ∀ c, (if o.prf then hasQuotaGE A else hasQuotaX A) (s.newRound A) c = true → (s.newRound A).quota ≤ c.vote := by
    intro c hc
    by_cases hp : o.prf = true
    · simp only [hp, if_true] at hc; exact hasQuotaGE_sound A hA (hex hp) _ c hc
    · simp only [hp] at hc; exact hasQuotaX_sound A hA _ c hc
  obtain ⟨h2, hmu2, hS2⟩ := GInv.electWinners A h1 _ (fun _ _ => true) (fun _ _ => "Elect, transfer pending") hsound
  rw [mu_newRound] at hmu2
  rw [sumHE_newRound] at hS2
  have hL2 : ∀ u, LInv A u s → LInv A u (wigmElect A o (s.newRound A)) := fun u hL =>
    (hL.newRound A u h.1.1.meth).electWinners A u h1.1.1.meth _ _ _
  have hgt2 : (wigmElect A o (s.newRound A)).seats < sumHE (wigmElect A o (s.newRound A)) := by
    unfold wigmElect
    rw [((stepRel_frame A).electWinners _ _ _ _).2.1, (frame_newRound A s).2.1]
    exact lt_of_lt_of_eq hgt hS2.symm
  change GInv A (wigmElect A o (s.newRound A)) at h2
  change mu (wigmElect A o (s.newRound A)) ≤ mu s at hmu2
  unfold wigmBody
  generalize wigmElect A o (s.newRound A) = s2 at h2 hmu2 hL2 hgt2 ⊢
  unfold wigmAfterElect
  by_cases hsure : (wigmSure A o s2).isEmpty = false
  · simp only [hsure, Bool.not_false, if_true]
    have hne : wigmSure A o s2 ≠ [] := by intro e; rw [e] at hsure; simp at hsure
    have hsub : ∀ w ∈ wigmSure A o s2, w ∈ s2.hopeful := by
      intro w hw; unfold wigmSure at hw; split at hw
      · exact batchDefeatGroups_hopeful A s2 _ w hw
      · cases hw
    have hnd : ((wigmSure A o s2).map (·.cid)).Nodup := by
      unfold wigmSure; split
      · exact batchDefeatGroups_nodup A s2 h2.1.1.wf _
      · simp
    have hb : ((wigmSure A o s2).length : Int) ≤ (s2.hopeful.length : Int) - s2.seatsLeft := by
      unfold wigmSure at hne ⊢
      by_cases hpb : o.prfBatch = true
      · simp only [hpb, if_true] at hne ⊢
        rcases batchDefeatGroups_bound A s2 (A.sum (s2.pendingL.map (fun c => A.sub c.vote s2.quota))) with h | h
        · exact h
        · exact absurd h hne
      · simp only [hpb, Bool.false_eq_true, if_false] at hne
        exact absurd rfl hne
    obtain ⟨b1, b2, b3, _, b5, b6, b7⟩ := wigmBatchStep_spec A hA h2.1 h2.2.1 _ hsub hnd hne hb (h2.elected_le A)
    exact ⟨⟨b1, b2, h2.2.2.1.of_frame A b3, b5⟩, fun _ => Or.inl (by omega), b7,
      fun u _ _ hL => (InvL.wigmBatchStep A hA u ⟨h2.1.1, hL2 u hL⟩ _ hsub hnd).2⟩
  · have hsure' : (wigmSure A o s2).isEmpty = true := by simpa using hsure
    simp only [hsure', Bool.not_true, Bool.false_eq_true, if_false]
    by_cases hp : s2.pendingL.isEmpty = false
    · simp only [hp, Bool.not_false, if_true]
      have hp' : s2.pendingL ≠ [] := by intro e; rw [e] at hp; simp at hp
      refine ⟨h2.of_gstep A (gstep_wigmSurplusStep A hA h2.1.1) (by rw [sumHE_wigmSurplusStep]; exact h2.2.2.2), fun _ => ?_,
        fun hc => (by cases hc), fun u hu hlow hL => (InvL.wigmSurplusStep A hA u hu hlow ⟨h2.1.1, hL2 u hL⟩).2⟩
      rcases wigmSurplusStep_progress A h2.1.1 hp' with hlt | hcr
      · left; omega
      · right; exact hcr
    · have hp' : s2.pendingL.isEmpty = true := by simpa using hp
      have hhne : s2.hopeful ≠ [] := by
        intro e
        have h0 : nHop s2 = 0 := by unfold nHop; rw [e]; rfl
        have := h2.elected_le A
        unfold sumHE at hgt2; omega
      have hh : s2.hopeful.isEmpty = false := by
        cases hl : s2.hopeful with
        | nil => exact absurd hl hhne
        | cons x xs => rfl
      simp only [hp', hh, Bool.not_true, Bool.not_false, Bool.false_eq_true, if_false, if_true]
      refine ⟨?_, fun _ => ?_, fun hc => (by cases hc), fun u _ _ hL =>
        (wigmDefeatStep_all A hA u o hr h2.1 h2.2.1 hhne hgt2 (h2.elected_le A)).2.2.2.2.2.2 (hL2 u hL)⟩
      · obtain ⟨c1, c2, c3, _, c5, _⟩ := wigmDefeatStep_all A hA 0 o hr h2.1 h2.2.1 hhne hgt2 (h2.elected_le A)
        exact ⟨c1, c2, h2.2.2.1.of_frame A c3, by rw [c3.2.1]; exact c5⟩
      · rcases (wigmDefeatStep_all A hA 0 o hr h2.1 h2.2.1 hhne hgt2 (h2.elected_le A)).2.2.2.2.2.1 with hlt | hcr
        · left; omega
        · right; exact hcr

theorem wigmBody_spec (hA : LawfulArith A) (o : WigmOpts) (hz : o.batchZero = false) (hex : o.prf = true → A.exact = false)
    {s : St α} (h : GInv A s) (hg : stdGuard s = true) :
    GInv A (wigmBody A o s).1
    ∧ ((wigmBody A o s).2 = .cont → mu (wigmBody A o s).1 < mu s ∨ (wigmBody A o s).1.crash.isSome = true)
    ∧ ((wigmBody A o s).2 = .brk → ((wigmBody A o s).1.hopeful.length : Int) ≤ (wigmBody A o s).1.seatsLeft) :=
  have g := wigmBody_spec_gen A hA o (fun hb => by rw [hz] at hb; cases hb) hex h hg
  ⟨g.1, g.2.1, g.2.2.1⟩

def WigmAll (u : α) (s : St α) : Prop := GInv A s ∧ LInv A u s

theorem wigmBody_spec_all (hA : LawfulArith A) (hr : EqRefl A) (u : α) (hu : 0 ≤ u) (hlow : RewLower A u (rewMulDiv A))
    (o : WigmOpts) (hex : o.prf = true → A.exact = false) {s : St α} (h : WigmAll A u s) (hg : stdGuard s = true) :
    WigmAll A u (wigmBody A o s).1
    ∧ ((wigmBody A o s).2 = .cont → mu (wigmBody A o s).1 < mu s ∨ (wigmBody A o s).1.crash.isSome = true)
    ∧ ((wigmBody A o s).2 = .brk → ((wigmBody A o s).1.hopeful.length : Int) ≤ (wigmBody A o s).1.seatsLeft) :=
  have g := wigmBody_spec_gen A hA o (fun _ => hr) hex h.1 hg
  ⟨⟨g.1, g.2.2.2 u hu hlow h.2⟩, g.2.1, g.2.2.1⟩

theorem WigmAll.init (hA : LawfulArith A) (u : α) (o : WigmOpts) {s0 : St α} (h : GStart A (wigmQuota A o s0) s0)
    (hl : LStart A (wigmQuota A o s0) s0) : WigmAll A u (wigmInit A o s0) :=
  ⟨GInv.wigmInit A hA o h, by rw [wigmInit_eq]; exact LInv.gInit A hA u hl⟩

/-- the whole count of wigm / wigm-prf / wigm-prf-batch in any configuration: it returns; the record is forward-only and
    append-only; unless the crash flag is up exactly `seats` candidates are elected and nobody is left hopeful; and for a
    start that meets `LStart`, the closing snapshot satisfies the conservation bundle and the lower bound -/
theorem wigm_count_spec (hA : LawfulArith A) (o : WigmOpts) (hr : o.batchZero = true → EqRefl A)
    (hex : o.prf = true → A.exact = false) (s0 : St α) (h0 : GStart A (wigmQuota A o s0) s0) :
    ∃ t, wigmCount A o s0 = some t ∧ Mon t ∧ Ext s0 t ∧ (t.crash = none → nEl t = t.seats ∧ nHop t = 0)
      ∧ ∀ u, 0 ≤ u → RewLower A u (rewMulDiv A) → LStart A (wigmQuota A o s0) s0 →
          Inv A (t.logAct A "end" "Count Complete" []) ∧ LInv A u (t.logAct A "end" "Count Complete" []) := by
  obtain ⟨hinit, _, hfuel, _, hX0⟩ := h0.facts A hA
  rw [← wigmInit_eq] at hinit hfuel hX0
  -- the loop: the round invariant, and the lower bound for every admissible `u`
  obtain ⟨s4, hl, hres⟩ := loopN_run mu
    (fun s => GInv A s ∧ ∀ u, 0 ≤ u → RewLower A u (rewMulDiv A) → LStart A (wigmQuota A o s0) s0 → LInv A u s)
    (fun t => (GInv A t ∧ ∀ u, 0 ≤ u → RewLower A u (rewMulDiv A) → LStart A (wigmQuota A o s0) s0 → LInv A u t)
      ∧ ((t.hopeful.length : Int) ≤ t.seatsLeft))
    stdGuard (wigmBody A o)
    (fun s hs hg =>
      have g := wigmBody_spec_gen A hA o hr hex hs.1 hg
      have hk := fun u hu hlow hL => g.2.2.2 u hu hlow (hs.2 u hu hlow hL)
      ⟨fun hc => ⟨⟨g.1, hk⟩, g.2.1 hc⟩, fun hc => ⟨⟨g.1, hk⟩, g.2.2.1 hc⟩⟩)
    _ _ ⟨hinit, fun u _ _ hL => by rw [wigmInit_eq]; exact LInv.gInit A hA u hL⟩ hfuel
  have hP : GInv A s4 ∧ ∀ u, 0 ≤ u → RewLower A u (rewMulDiv A) → LStart A (wigmQuota A o s0) s0 → LInv A u s4 := by
    rcases hres with ⟨hP, _⟩ | ⟨hP, _⟩ <;> exact hP
  obtain ⟨hG, hL⟩ := hP
  have hX : Ext s0 s4 := hX0.trans ((stepRel_ext A).loopN _ _ ((stepRel_ext A).wigmBody o) _ _ _ hl)
  refine ⟨epilogueElectOrDefeat A s4, by unfold wigmCount; rw [hl], (epilogue_good A ⟨hG.1.1, hG.2.1⟩).2,
    hX.trans ((stepRel_ext A).epilogue s4), ?_, fun u hu hlow hL0 => ?_⟩
  · intro hcr
    rw [epilogue_crash] at hcr
    have hel := hG.elected_le A
    have hJ := hG.2.2.2
    have hfill : nEl s4 = s4.seats ∨ nHop s4 + nEl s4 = s4.seats := by
      rcases hres with ⟨_, hc | hgf⟩ | ⟨_, hfin⟩
      · rw [hcr] at hc; simp at hc
      · unfold stdGuard St.seatsLeft at hgf
        simp only [Bool.and_eq_false_iff, decide_eq_false_iff_not, not_lt] at hgf
        unfold sumHE at hJ
        unfold nHop nEl at *
        rcases hgf with h | h
        · right; omega
        · left; omega
      · unfold St.seatsLeft at hfin
        unfold sumHE at hJ
        unfold nHop nEl at *
        right; omega
    unfold epilogueElectOrDefeat
    obtain ⟨u1, u2, u3⟩ := counts_foldUnpend s4.pendingL s4
    have hIu := hG.1.1.foldUnpend A s4.pendingL
    have := foldRemaining_counts A hIu (s4.pendingL.foldl (fun acc c => acc.unpendSilent c.cid) s4).hopeful
      (hopeful_cids_nodup hIu.wf) (fun w hw => mem_hopeful.1 hw) rfl (by rw [u1, u2, u3]; exact hfill)
    exact ⟨this.2, this.1⟩
  · have hep := InvL.epilogue A hA u ⟨hG.1.1, hL u hu hlow hL0⟩
    exact ⟨hep.1.logAct A _ _ _, hep.2.logAct A u hep.1.meth _ _ _ (by decide)⟩

theorem wigmCount_terminates' (hA : LawfulArith A) (o : WigmOpts) (hz : o.batchZero = false)
    (hex : o.prf = true → A.exact = false) (s0 : St α) (h0 : GStart A (wigmQuota A o s0) s0) :
    ∃ t, wigmCount A o s0 = some t := by
  obtain ⟨t, ht, _⟩ := wigm_count_spec A hA o (fun hb => by rw [hz] at hb; cases hb) hex s0 h0
  exact ⟨t, ht⟩

theorem wigm_result (hA : LawfulArith A) (o : WigmOpts) (hz : o.batchZero = false) (hex : o.prf = true → A.exact = false)
    (s0 t : St α) (h0 : GStart A (wigmQuota A o s0) s0) (h : wigmCount A o s0 = some t) :
    Mon t ∧ Ext s0 t ∧ (t.crash = none → nEl t = t.seats ∧ nHop t = 0) := by
  obtain ⟨t', ht', a, b, c, _⟩ := wigm_count_spec A hA o (fun hb => by rw [hz] at hb; cases hb) hex s0 h0
  cases Option.some.inj (ht'.symm.trans h)
  exact ⟨a, b, c⟩

theorem wigmCount_terminates_all (hA : LawfulArith A) (hr : EqRefl A) (u : α) (hu : 0 ≤ u) (hlow : RewLower A u (rewMulDiv A))
    (o : WigmOpts) (hex : o.prf = true → A.exact = false) (s0 : St α) (h0 : GStart A (wigmQuota A o s0) s0)
    (hl0 : LStart A (wigmQuota A o s0) s0) : ∃ t, wigmCount A o s0 = some t := by
  obtain ⟨t, ht, _⟩ := wigm_count_spec A hA o (fun _ => hr) hex s0 h0
  exact ⟨t, ht⟩

/-- C01 / C02 / C06 / C09 for every configuration of wigm: the final state satisfies the conservation bundle and the lower
    bound (hence every snapshot of the record does), the record is forward-only and append-only, and unless the crash flag is
    up exactly `seats` candidates are elected and nobody is left hopeful -/
theorem wigm_result_all (hA : LawfulArith A) (hr : EqRefl A) (u : α) (hu : 0 ≤ u) (hlow : RewLower A u (rewMulDiv A))
    (o : WigmOpts) (hex : o.prf = true → A.exact = false) (s0 t : St α) (h0 : GStart A (wigmQuota A o s0) s0)
    (hl0 : LStart A (wigmQuota A o s0) s0) (h : wigmCount A o s0 = some t) :
    Inv A (t.logAct A "end" "Count Complete" []) ∧ LInv A u (t.logAct A "end" "Count Complete" [])
    ∧ Mon t ∧ Ext s0 t ∧ (t.crash = none → nEl t = t.seats ∧ nHop t = 0) := by
  obtain ⟨t', ht', a, b, c, d⟩ := wigm_count_spec A hA o (fun _ => hr) hex s0 h0
  cases Option.some.inj (ht'.symm.trans h)
  exact ⟨(d u hu hlow hl0).1, (d u hu hlow hl0).2, a, b, c⟩

end Droop
