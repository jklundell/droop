import DroopProofs.QpqMon

/-! # C01 / C09 for QPQ: the elected never exceed the seats, exclusions never leave too few, and a count that returns without
the crash flag has filled every seat and left nobody hopeful

`qpqLoop` runs a round only while a seat is open and more candidates are hopeful than seats are open.  A round elects at most one
candidate (after possibly un-electing everybody), so the elected stay within the seats; it excludes a candidate only in such a
state, so hopeful + elected stay at or above the seats.  When the loop stops on its guard either every seat is filled, or the
hopefuls fit the open seats and `qpqFinish` elects them all.  A round that breaks off raises the crash flag. -/
namespace Droop
variable {α : Type} [CommRing α] [LinearOrder α] [IsStrictOrderedRing α] (A : Arith α)

theorem qR2_seats (q : QSt α) : (qR2 A q).seats = q.s.seats := (qR2_fields A q).2.2.1

theorem qR5_seats (q : QSt α) : (qR5 A q).seats = q.s.seats := by
  obtain ⟨_, ⟨_, _, h⟩, _⟩ := qR5_frame A q
  rw [h]
  exact qR2_seats A q

theorem qpqBody_seats (q : QSt α) : (qpqBody A q).1.s.seats = q.s.seats := by
  rw [qpqBody_eq, (qDecide_out A _ _).1, qR5_seats]

/-- a round that breaks off has raised the crash flag, and changed no status since the decision state -/
theorem qDecide_brk (q1 : QSt α) (s5 : St α) (h : (qDecide A q1 s5).2 = .brk) :
    (qDecide A q1 s5).1.s.crash.isSome = true ∧ stsig (qDecide A q1 s5).1.s = stsig s5 := by
  rcases (qDecide_out A q1 s5).2.2 with ⟨_, hc, hcs⟩ | ⟨_, _, _, hf, _⟩ | ⟨_, _, _, hf, _⟩
  · exact ⟨hc, stsig_of_cands hcs⟩
  · rw [hf] at h; cases h
  · rw [hf] at h; cases h

theorem qpqBody_brk (q : QSt α) (h : (qpqBody A q).2 = .brk) : (qpqBody A q).1.s.crash.isSome = true := by
  rw [qpqBody_eq] at h ⊢
  exact (qDecide_brk A _ _ h).1

theorem qpqLoop_stops (fuel : Nat) (q r : QSt α) (h : qpqLoop A fuel q = some r) :
    r.s.crash.isSome = true ∨ qpqCountComplete r.s = true := by
  rcases (qpqLoop_inv A (fun _ => True) (fun _ _ _ _ => trivial) fuel q r trivial h).2 with hc | hg | ⟨q', hq'⟩
  · exact Or.inl hc
  · exact Or.inr hg
  · have := qpqBody_brk A q' (by rw [hq'])
    rw [hq'] at this
    exact Or.inl this

/-- distinct ids; the elected fit the seats; hopeful + elected can still fill them -/
def QSeats (n : Nat) (s : St α) : Prop := s.WF ∧ s.seats = n ∧ nEl s ≤ n ∧ n ≤ nHop s + nEl s

theorem not_complete {s : St α} (h : qpqCountComplete s = false) : nEl s < s.seats ∧ s.seats < nHop s + nEl s := by
  unfold qpqCountComplete St.seatsLeft at h
  simp only [Bool.or_eq_false_iff, decide_eq_false_iff_not, not_le] at h
  unfold nEl nHop
  omega

theorem complete_cases {s : St α} (h : qpqCountComplete s = true) : s.seats ≤ nEl s ∨ nHop s + nEl s ≤ s.seats := by
  unfold qpqCountComplete St.seatsLeft at h
  simp only [Bool.or_eq_true, decide_eq_true_eq] at h
  unfold nEl nHop
  omega

theorem qpqBody_QSeats (n : Nat) (q : QSt α) (hP : QSeats n q.s) (hg : qpqCountComplete q.s = false) :
    QSeats n (qpqBody A q).1.s := by
  obtain ⟨hwf, hs, hle, hge⟩ := hP
  obtain ⟨g1, g2⟩ := not_complete hg
  refine ⟨(qpqBody_fwd A q hwf).WF hwf, by rw [qpqBody_seats, hs], ?_⟩
  obtain ⟨c1, c2, _⟩ := qR5_counts A q
  have h5 : nHop (qR5 A q) + nEl (qR5 A q) = nHop q.s + nEl q.s ∧ nEl (qR5 A q) ≤ nEl q.s := by
    cases hr : q.restart with
    | true => obtain ⟨a, b⟩ := c1 hr; omega
    | false => obtain ⟨a, b⟩ := c2 hr; omega
  cases hfl : (qpqBody A q).2 with
  | cont =>
    rcases (qpqBody_cont A q hwf hfl).2 with ⟨_, a, b⟩ | ⟨_, a, b⟩
    · exact ⟨by omega, by omega⟩
    · exact ⟨by omega, by omega⟩
  | brk =>
    rw [qpqBody_eq] at hfl ⊢
    have hsig := (qDecide_brk A (qQ1 A q) (qR5 A q) hfl).2
    have a := nHop_of_stsig hsig
    have b := nEl_of_stsig hsig
    exact ⟨by omega, by omega⟩

theorem qpqLoop_exit (n : Nat) : ∀ (fuel : Nat) (q r : QSt α), QSeats n q.s → qpqLoop A fuel q = some r →
    QSeats n r.s ∧ (r.s.crash.isSome = true ∨ qpqCountComplete r.s = true) := fun fuel q r hP h =>
  ⟨(qpqLoop_inv A (fun q' => QSeats n q'.s) (fun q' hq' _ hg => qpqBody_QSeats A n q' hq' hg) fuel q r hP h).1,
    qpqLoop_stops A fuel q r h⟩

/-- `op` applied to every hopeful candidate in turn, where one application takes its candidate out of the hopefuls, adds `d` to
the elected and touches nobody else: nobody is left hopeful, and `d` per former hopeful have been added to the elected -/
theorem foldl_allHopeful (op : St α → Cand α → St α) (d : Nat)
    (hop : ∀ (t : St α) (w : Cand α), t.WF → w ∈ t.cands → w.st = .hopeful →
      (op t w).WF ∧ nHop (op t w) + 1 = nHop t ∧ nEl (op t w) = nEl t + d ∧ (op t w).seats = t.seats
      ∧ (op t w).crash = t.crash ∧ ∀ c ∈ t.cands, c.cid ≠ w.cid → c ∈ (op t w).cands)
    {s : St α} (hwf : s.WF) :
    (s.hopeful.foldl op s).WF ∧ nHop (s.hopeful.foldl op s) = 0 ∧ nEl (s.hopeful.foldl op s) = nEl s + d * nHop s
    ∧ (s.hopeful.foldl op s).seats = s.seats ∧ (s.hopeful.foldl op s).crash = s.crash := by
  have := foldl_hopefuls
    (fun n t => t.WF ∧ nHop t = n ∧ nEl t + d * n = nEl s + d * nHop s ∧ t.seats = s.seats ∧ t.crash = s.crash) op
    (by
      intro n t w hP hwm hwh
      obtain ⟨hg, a, b, hf, hcr⟩ := hP
      obtain ⟨hg', a', b', hf', hcr', hmem⟩ := hop t w hg hwm hwh
      rw [Nat.mul_succ] at b
      exact ⟨⟨hg', by omega, by omega, hf'.trans hf, hcr'.trans hcr⟩, hmem⟩)
    s.hopeful (hopeful_cids_nodup hwf) (fun _ => mem_hopeful.1) ⟨hwf, rfl, rfl, rfl, rfl⟩
  obtain ⟨hg, a, b, hf, hcr⟩ := this
  exact ⟨hg, a, by omega, hf, hcr⟩

theorem electAll_counts {s : St α} (hwf : s.WF) (verb : String) {t : St α}
    (ht : t = s.hopeful.foldl (fun acc c => acc.elect A c.cid verb false) s) :
    t.WF ∧ nHop t = 0 ∧ nEl t = nEl s + nHop s ∧ t.seats = s.seats ∧ t.crash = s.crash := by
  have := foldl_allHopeful (fun acc c => acc.elect A c.cid verb false) 1
    (fun t w hg hm hh => ⟨WF_elect A hg _ _ _, (counts_elect A t w verb false hg hm hh).1, (counts_elect A t w verb false hg hm hh).2,
      (frame_elect A t w.cid verb false).2.1, crash_elect A t w.cid verb false, fun c hc hne => mem_elect_of_ne A hc _ _ _ hne⟩) hwf
  rw [Nat.one_mul, ← ht] at this
  exact this

theorem defeatAll_counts {s : St α} (hwf : s.WF) (verb : String) {t : St α}
    (ht : t = s.hopeful.foldl (fun acc c => acc.defeat A c.cid verb) s) :
    t.WF ∧ nHop t = 0 ∧ nEl t = nEl s ∧ t.seats = s.seats ∧ t.crash = s.crash := by
  have := foldl_allHopeful (fun acc c => acc.defeat A c.cid verb) 0
    (fun t w hg hm hh => ⟨WF_defeat A hg _ _, (counts_defeat A t w verb hg hm hh).1, (counts_defeat A t w verb hg hm hh).2,
      (frame_defeat A t w.cid verb).2.1, crash_defeat A t w.cid verb, fun c hc hne => mem_defeat_of_ne A hc _ _ hne⟩) hwf
  rw [Nat.zero_mul, Nat.add_zero, ← ht] at this
  exact this

theorem qpqFinish_counts (n : Nat) (q : QSt α) (hP : QSeats n q.s) (hex : q.s.crash.isSome = true ∨ qpqCountComplete q.s = true) :
    nEl (qpqFinish A q) ≤ n ∧ (qpqFinish A q).seats = n
    ∧ ((qpqFinish A q).crash = none → nEl (qpqFinish A q) = n ∧ nHop (qpqFinish A q) = 0) := by
  obtain ⟨hwf, hs, hle, hge⟩ := hP
  unfold qpqFinish
  by_cases hc : q.s.crash.isSome = true
  · rw [if_pos hc]
    refine ⟨hle, hs, fun h => ?_⟩
    rw [h] at hc; cases hc
  · rw [if_neg hc]
    dsimp only
    have hcomp := complete_cases (hex.resolve_left hc)
    by_cases hfit : decide ((q.s.hopeful.length : Int) ≤ q.s.seatsLeft) = true
    · -- the hopefuls fit the open seats: all are elected, and then nobody is left to exclude
      rw [if_pos hfit]
      have hfit' : nHop q.s + nEl q.s ≤ q.s.seats := by
        unfold St.seatsLeft at hfit; unfold nHop nEl; simp only [decide_eq_true_eq] at hfit; omega
      generalize h4 : q.s.hopeful.foldl (fun acc c => acc.elect A c.cid "Elect remaining candidates" false) q.s = s4
      obtain ⟨w1, a1, b1, f1, c1⟩ := electAll_counts A hwf "Elect remaining candidates" h4.symm
      generalize ht : s4.hopeful.foldl (fun acc c => acc.defeat A c.cid "Defeat remaining candidates") s4 = t
      obtain ⟨w2, a2, b2, f2, c2⟩ := defeatAll_counts A w1 "Defeat remaining candidates" ht.symm
      exact ⟨by omega, by rw [f2, f1, hs], fun _ => ⟨by omega, a2⟩⟩
    · -- they do not fit, so the guard stopped the loop because every seat is filled
      rw [if_neg hfit]
      have hfull : q.s.seats ≤ nEl q.s := by
        rcases hcomp with h | h
        · exact h
        · exfalso; apply hfit; unfold St.seatsLeft; unfold nHop nEl at h; simp only [decide_eq_true_eq]; omega
      generalize ht : q.s.hopeful.foldl (fun acc c => acc.defeat A c.cid "Defeat remaining candidates") q.s = t
      obtain ⟨w2, a2, b2, f2, c2⟩ := defeatAll_counts A hwf "Defeat remaining candidates" ht.symm
      exact ⟨by omega, by rw [f2, hs], fun _ => ⟨by omega, a2⟩⟩

/-- C01 / C09 for QPQ.  From a start state with distinct ids, nobody elected and at least as many hopeful candidates as
    seats: the state the count returns has at most `seats` elected; if the crash flag is not up, exactly `seats` are elected and
    no candidate is left hopeful. -/
theorem qpqCount_seats (s0 t : St α) (hwf : s0.WF) (h0 : nEl s0 = 0) (hen : s0.seats ≤ nHop s0) (h : qpqCount A s0 = some t) :
    nEl t ≤ s0.seats ∧ t.seats = s0.seats ∧ (t.crash = none → nEl t = s0.seats ∧ nHop t = 0) := by
  obtain ⟨r, hl, rfl⟩ := qpqCount_some A h
  have hs := qpqStart_stsig A s0
  have hP0 : QSeats s0.seats (qpqStart A s0).s :=
    ⟨WF_of_stsig hs hwf, qpqStart_seats A s0, by rw [nEl_of_stsig hs]; omega, by rw [nHop_of_stsig hs, nEl_of_stsig hs]; omega⟩
  obtain ⟨hP, hex⟩ := qpqLoop_exit A s0.seats _ _ _ hP0 hl
  exact qpqFinish_counts A s0.seats r hP hex

theorem qpqLoop_round_seats (n : Nat) (q : QSt α) (hP : QSeats n q.s) (hg : qpqCountComplete q.s = false) :
    nEl (qpqBody A q).1.s ≤ n ∧ n ≤ nHop (qpqBody A q).1.s + nEl (qpqBody A q).1.s :=
  let h := qpqBody_QSeats A n q hP hg
  ⟨h.2.2.1, h.2.2.2⟩

end Droop
