import DroopProofs.PermB

/-! # C10, wigm / wigm-prf / wigm-prf-batch (every configuration): reordering the ballot lines reorders the ballot list of the
returned state and the ballot views in its log, and changes nothing else -/
namespace Droop
variable {α : Type} [CommRing α] [LinearOrder α] [IsStrictOrderedRing α] (A : Arith α)
variable {fb : List (Ballot α) → List (Ballot α)} {fw : List (Nat × α) → List (Nat × α)}

section
variable (hA : LawfulArith A) (hx : XF A fb fw)
include hA hx

omit hA hx in
theorem wigmSure_xB (o : WigmOpts) (s : St α) : wigmSure A o (xB fb fw s) = wigmSure A o s := rfl

omit hA hx in
theorem stdGuard_xB (s : St α) : stdGuard (xB fb fw s) = stdGuard s := rfl

theorem wigm_xB (o : WigmOpts) (s0 : St α) :
    wigmCount A o (xB fb fw s0) = (wigmCount A o s0).map (xB fb fw) := by
  have C := stepComm_xB A hA hx
  rw [wigmCount_eq, wigmCount_eq, ← C.wigmInit]
  exact count_xB stdGuard (wigmBody A o) (epilogueElectOrDefeat A) stdGuard_xB (fun s => C.wigmBody o (fun g => g.elim))
    (fun s => C.epilogue (fun g => g.elim)) _ _

end


theorem wigm_permB {α : Type} [CommRing α] [LinearOrder α] [IsStrictOrderedRing α] (A : Arith α) (hA : LawfulArith A)
    {π : ∀ {β : Type}, List β → List β} (hπ : NatPerm π) (o : WigmOpts) (s0 : St α) :
    wigmCount A o (permB π s0) = (wigmCount A o s0).map (permB π) :=
  wigm_xB A hA (XF_of_natPerm A hA hπ) o s0

end Droop
