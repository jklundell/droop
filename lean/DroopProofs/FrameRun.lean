import DroopModel.Driver
import DroopProofs.InvMpls
import DroopProofs.RunScot

/-! # The seats are the same in the state a Gregory count returns as in the state it was handed

`Frame` is respected by every step (`stepRel_frame`), hence by the whole count from the state its loop starts in; the
start keeps the seats as well. -/
namespace Droop
variable {α : Type} [CommRing α] [LinearOrder α] [IsStrictOrderedRing α] (A : Arith α)

theorem scot_seats (s0 t : St α) (h : scotCount A s0 = some t) : t.seats = s0.seats :=
  ((stepRel_frame A).scotCount s0 t h).2.1.trans (scotInit_frame A s0).2.1

theorem wigm_seats (o : WigmOpts) (s0 t : St α) (h : wigmCount A o s0 = some t) : t.seats = s0.seats :=
  ((stepRel_frame A).wigmCount o s0 t h).2.1.trans (gInit_facts A _ s0).2.2.1

theorem cfer_seats (batch : Bool) (s0 t : St α) (h : cferCount A batch s0 = some t) : t.seats = s0.seats :=
  ((stepRel_frame A).cferCount batch s0 t h).2.1.trans (gInit_facts A _ s0).2.2.1

theorem mplsInit_seats (s0 : St α) : (mplsInit A s0).seats = s0.seats := by
  unfold mplsInit
  rw [(frame_newRound A _).2.1]
  show (firstCount A _).seats = _
  rw [firstCount_eq, foldl_fcStep_seats]; rfl

theorem mpls_seats (s0 t : St α) (h : mplsCount A s0 = some t) : t.seats = s0.seats :=
  ((stepRel_frame A).mplsCount s0 t h).2.1.trans (mplsInit_seats A s0)

end Droop
