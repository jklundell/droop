import DroopProofs.Transfer
import Mathlib.Algebra.Group.Basic
import Mathlib.Algebra.BigOperators.Group.List.Basic
import Mathlib.Tactic.Abel

/-! # Tallies across `transferAll`

A candidate's vote after a transfer is the old vote plus the value of the ballots that arrived (`transferAll_voteOf`), so a
candidate nothing is taken from keeps "vote = value of the ballots standing to its credit" (`transferAll_tally`).  Only the
additive laws of the arithmetic are needed here. -/
namespace Droop
variable {α : Type} [AddCommGroup α] (A : Arith α)

/-- the arithmetic's `add`/`sub`/`zero` are the group operations (true of all three instances) -/
structure LawfulAdd (A : Arith α) : Prop where
  add_eq : ∀ a b, A.add a b = a + b
  sub_eq : ∀ a b, A.sub a b = a - b
  zero_eq : A.zero = 0

def St.voteOf (s : St α) (d : Nat) : α :=
  match s.cand? d with
  | some c => c.vote
  | none => 0

theorem find_map_upd (l : List (Cand α)) (cid d : Nat) (f : Cand α → Cand α) (hf : ∀ c, (f c).cid = c.cid) :
    (l.map (fun c => if c.cid == cid then f c else c)).find? (fun c => c.cid == d)
      = (l.find? (fun c => c.cid == d)).map (fun c => if c.cid == cid then f c else c) := by
  induction l with
  | nil => rfl
  | cons x xs ih =>
    simp only [List.map_cons, List.find?_cons]
    have hx : ((if x.cid == cid then f x else x).cid == d) = (x.cid == d) := by
      split <;> simp [hf]
    rw [hx]
    split
    · simp
    · exact ih

theorem cand?_upd (s : St α) (cid d : Nat) (f : Cand α → Cand α) (hf : ∀ c, (f c).cid = c.cid) :
    (s.upd cid f).cand? d = (s.cand? d).map (fun c => if c.cid == cid then f c else c) :=
  find_map_upd s.cands cid d f hf

theorem voteOf_addVote (hA : LawfulAdd A) (s : St α) (c d : Nat) (v : α) (hc : (s.cand? c).isSome) :
    (s.addVote A c v).voteOf d = s.voteOf d + (if c = d then v else 0) := by
  have hupd : (s.addVote A c v).cand? d
      = (s.cand? d).map (fun x => if x.cid == c then { x with vote := A.add x.vote v } else x) :=
    cand?_upd s c d (fun x => { x with vote := A.add x.vote v }) (fun _ => rfl)
  unfold St.voteOf
  rw [hupd]
  by_cases hcd : c = d
  · subst hcd
    cases hfind : s.cand? c with
    | none => simp [hfind] at hc
    | some x =>
      have hx : (x.cid == c) = true := by
        unfold St.cand? at hfind
        have := List.find?_some hfind; simpa using this
      have hx' : x.cid = c := by simpa using hx
      simp [hx', hA.add_eq]
  · cases hfind : s.cand? d with
    | none => simp [hcd]
    | some x =>
      have hx : x.cid = d := by
        unfold St.cand? at hfind
        have := List.find?_some hfind; simpa using this
      have hne : ¬ x.cid = c := by rw [hx]; exact fun h => hcd h.symm
      simp [hne, hcd]

theorem voteOf_exhausted (s : St α) (e : α) (d : Nat) : ({ s with exhausted := e } : St α).voteOf d = s.voteOf d := rfl

/-- what ballot `b` contributes to candidate `d` during `transferAll s cids rew` -/
def contrib (s : St α) (cids : List Nat) (rew : α → α) (d : Nat) (b : Ballot α) : α :=
  match b.top with
  | some c => if cids.contains c then
                (if (moveBallot s cids rew b).top = some d then bvote A (moveBallot s cids rew b) else 0)
              else 0
  | none => 0

/-- every candidate id on a ballot exists -/
def BallotsWF (s : St α) : Prop := ∀ b ∈ s.ballots, ∀ cid ∈ b.rank, (s.cand? cid).isSome

theorem cand?_isSome_of_skel {s t : St α} (h : s.skel = t.skel) (cid : Nat) :
    (s.cand? cid).isSome = (t.cand? cid).isSome := by
  unfold St.cand?
  have : ∀ (l : List (Cand α)), (l.find? (fun c => c.cid == cid)).isSome
      = (l.map Cand.skel).any (fun k => k.1 == cid) := by
    intro l; induction l with
    | nil => rfl
    | cons c cs ih =>
      simp only [List.find?_cons, List.map_cons, List.any_cons]
      by_cases hc : (c.cid == cid) = true
      · simp [hc, Cand.skel]
      · simp only [Bool.not_eq_true] at hc
        simp [hc, ih, Cand.skel]
  rw [this, this]; unfold St.skel at h; rw [h]

theorem top_mem_rank (b : Ballot α) (c : Nat) (h : b.top = some c) : c ∈ b.rank := by
  unfold Ballot.top at h
  exact List.mem_of_getElem? h

theorem advanceTo_rank (cont : Nat → Bool) (b : Ballot α) : (advanceTo cont b).rank = b.rank := by
  unfold advanceTo; split <;> rfl

theorem tstep_voteOf (hA : LawfulAdd A) (cids : List Nat) (rew : α → α) (s : St α)
    (acc : St α × List (Ballot α)) (b : Ballot α) (d : Nat)
    (h : acc.1.skel = s.skel) (hb : ∀ cid ∈ b.rank, (s.cand? cid).isSome) :
    (tstep A cids rew acc b).1.voteOf d = acc.1.voteOf d + contrib A s cids rew d b := by
  have hfun : (fun cid => acc.1.isHopeful cid) = (fun cid => s.isHopeful cid) := by
    funext cid; exact isHopeful_of_skel h cid
  unfold tstep contrib moveBallot
  cases htop : b.top with
  | none => simp
  | some c =>
    by_cases hc : cids.contains c = true
    · simp only [hc, if_true]
      unfold transferBallot
      rw [hfun]
      cases hnew : (advanceTo (fun cid => s.isHopeful cid) { b with w := rew b.w }).top with
      | none => simp [voteOf_exhausted]
      | some c' =>
        have hmem : c' ∈ b.rank := by
          have := top_mem_rank _ _ hnew
          rwa [advanceTo_rank] at this
        have hsome : (acc.1.cand? c').isSome := by
          rw [cand?_isSome_of_skel h]; exact hb c' hmem
        simp only
        rw [voteOf_addVote A hA _ _ _ _ hsome]
        by_cases hcd : c' = d
        · simp [hcd]
        · have : ¬ (some c' = some d) := by simpa using hcd
          simp [hcd]
    · have hc' : ¬ c ∈ cids := by simpa using hc
      simp [hc']

theorem foldl_tstep_voteOf (hA : LawfulAdd A) (cids : List Nat) (rew : α → α) (s : St α) (d : Nat)
    (bs : List (Ballot α)) (acc : St α × List (Ballot α))
    (h : acc.1.skel = s.skel) (hb : ∀ b ∈ bs, ∀ cid ∈ b.rank, (s.cand? cid).isSome) :
    (bs.foldl (tstep A cids rew) acc).1.voteOf d = acc.1.voteOf d + (bs.map (contrib A s cids rew d)).sum := by
  induction bs generalizing acc with
  | nil => simp
  | cons b bs ih =>
    simp only [List.foldl_cons, List.map_cons, List.sum_cons]
    rw [ih _ (by rw [tstep_skel]; exact h) (fun b' hb' => hb b' (by simp [hb'])),
        tstep_voteOf A hA cids rew s acc b d h (hb b (by simp))]
    abel

theorem transferAll_voteOf (hA : LawfulAdd A) (s : St α) (hwf : BallotsWF s) (cids : List Nat) (rew : α → α) (d : Nat) :
    (transferAll A s cids rew).voteOf d = s.voteOf d + (s.ballots.map (contrib A s cids rew d)).sum := by
  have := foldl_tstep_voteOf A hA cids rew s d s.ballots (s, []) rfl hwf
  simpa [transferAll, St.voteOf, St.cand?] using this

/-- value of the ballots standing to the credit of candidate `d` -/
def St.tally (s : St α) (d : Nat) : α :=
  (s.ballots.map (fun b => if b.top = some d then bvote A b else 0)).sum

theorem sum_map_add' {β : Type} (l : List β) (f g : β → α) :
    (l.map (fun x => f x + g x)).sum = (l.map f).sum + (l.map g).sum := by
  induction l with
  | nil => simp
  | cons x xs ih => simp only [List.map_cons, List.sum_cons, ih]; abel

theorem moved_credit (s : St α) (cids : List Nat) (rew : α → α) (d : Nat) (hd : cids.contains d = false) (b : Ballot α) :
    (if (moveBallot s cids rew b).top = some d then bvote A (moveBallot s cids rew b) else 0)
      = contrib A s cids rew d b + (if b.top = some d then bvote A b else 0) := by
  unfold contrib
  cases htop : b.top with
  | none =>
    have : moveBallot s cids rew b = b := by unfold moveBallot; rw [htop]
    simp [this, htop]
  | some c =>
    have hdm : d ∉ cids := by simpa using hd
    by_cases hc : c ∈ cids
    · have hcd : c ≠ d := by
        intro e; subst e; exact hdm hc
      simp [hc, hcd]
    · have hmv : moveBallot s cids rew b = b := by
        unfold moveBallot; rw [htop]; simp [hc]
      simp [hmv, htop, hc]

theorem transferAll_tally (hA : LawfulAdd A) (s : St α) (hwf : BallotsWF s) (cids : List Nat) (rew : α → α)
    (d : Nat) (hd : cids.contains d = false) (hI : s.voteOf d = s.tally A d) :
    (transferAll A s cids rew).voteOf d = (transferAll A s cids rew).tally A d := by
  rw [transferAll_voteOf A hA s hwf cids rew d]
  unfold St.tally
  rw [transferAll_ballots, List.map_map]
  have : ((fun b => if b.top = some d then bvote A b else 0) ∘ moveBallot s cids rew)
       = (fun b => contrib A s cids rew d b + (if b.top = some d then bvote A b else 0)) := by
    funext b; exact moved_credit A s cids rew d hd b
  rw [this, sum_map_add']
  unfold St.tally at hI
  rw [hI]; abel

end Droop
