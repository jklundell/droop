import DroopProofs.CaseInit
import DroopProofs.MeekRun

/-! # The state the driver builds from a parsed case meets `MInit` (the start predicate of the Meek / Warren theorems) -/
namespace Droop
variable {α : Type} [CommRing α] [LinearOrder α] [IsStrictOrderedRing α] (A : Arith α)

theorem sum_ofInt_mults (hA : LawfulArith A) (l : List (Nat × List Nat)) :
    ((l.map (fun (k : Nat × List Nat) => ({ mult := k.1, rank := k.2, idx := 0, w := A.one, residual := A.zero } : Ballot α))).map
        (fun b => A.ofInt b.mult)).sum = A.ofInt (((l.map (·.1)).sum : Nat) : Int) := by
  induction l with
  | nil => simp [hA.ofInt_eq]
  | cons k ks ih =>
    simp only [List.map_cons, List.sum_cons, ih]
    rw [hA.ofInt_eq, hA.ofInt_eq, hA.ofInt_eq]
    push_cast
    ring

theorem initState_minit (hA : LawfulArith A) (c : Case) (hm : methodOf c.rule = .meek) (hok : CaseOK c) :
    MInit A (initState A c) := by
  refine ⟨hm, rfl, ?_, ?_, ?_, ?_, ?_, ?_⟩
  · unfold St.WF; rw [initState_cids]; exact hok.nodup
  · show (c.ballotsEq.map _) = []
    rw [hok.noEq]; rfl
  · intro b hb
    obtain ⟨k, hk, _, hr, hi, _⟩ := mem_initState_ballots A hb
    obtain ⟨hne, hall⟩ := hok.ballots k hk
    cases hk2 : k.2 with
    | nil => exact absurd hk2 hne
    | cons c0 rest =>
      have htop : b.top = some c0 := by
        unfold Ballot.top; rw [hr, hi, hk2]; rfl
      obtain ⟨kc, hkc, hkcid, hkw⟩ := hall c0 (by rw [hk2]; simp)
      obtain ⟨x, hx, hxc, hxs⟩ := initState_cand_of A hkc
      refine ⟨c0, htop, x, hx, hxc.trans hkcid, ?_⟩
      rw [hxs, hkw]; rfl
  · intro x hx
    obtain ⟨k, _, _, hs, hv, _, _, hkf⟩ := mem_initState_cands A hx
    refine ⟨by rw [hv, hA.zero_eq], hkf, ?_⟩
    rw [hs]; split
    · right; rfl
    · left; rfl
  · show A.zero = 0
    exact hA.zero_eq
  · show ((c.ballots.map _).map (fun b : Ballot α => A.ofInt b.mult)).sum = A.ofInt ((c.nballots : Nat) : Int)
    rw [hok.nb]
    exact sum_ofInt_mults A hA c.ballots

/-- the options the driver hands to `meekCount` for the rule names `meek` and `warren` -/
def meekOptsOf (c : Case) : MeekOpts := { warren := c.rule == "warren", omega10 := c.omega, batchSafe := c.batch == "safe" }

theorem runRuleSt'_meek (c : Case) (hr : c.rule = "meek" ∨ c.rule = "warren") (s0 : St α) :
    runRuleSt' A c s0 = meekCount A (meekOptsOf c) 100000 s0 := by
  rcases hr with hr | hr <;> simp only [runRuleSt', meekOptsOf, hr] <;> rfl

theorem runRuleSt_meek (c : Case) (hr : c.rule = "meek" ∨ c.rule = "warren") :
    ∃ o : MeekOpts, runRuleSt A c = meekCount A o 100000 (initState A c) := ⟨_, runRuleSt'_meek A c hr _⟩

theorem runRuleSt'_prf (c : Case) (hr : c.rule = "meek-prf") (s0 : St α) : runRuleSt' A c s0 = prfCount A 100000 s0 := by
  simp only [runRuleSt', hr]

theorem runRuleSt_prf (c : Case) (hr : c.rule = "meek-prf") : runRuleSt A c = prfCount A 100000 (initState A c) :=
  runRuleSt'_prf A c hr _

end Droop
