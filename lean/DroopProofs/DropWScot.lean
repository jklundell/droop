import DroopProofs.DropWWigm

/-! # C11, Scottish rule: the count of the profile with the withdrawn candidates deleted is the count of the full profile with
the withdrawn candidates deleted from its record

The Scottish tie-break looks back through the saved stages (droop's E.rounds).  Deleting the withdrawn candidates deletes them from the
saved stages too, and the look-back is unchanged because it only ever reads the entries of tied — hence not withdrawn —
candidates.  That needs an invariant of its own: every saved stage lists the same candidate ids as the current
candidate list, and marks the same ones withdrawn (`RndW`). -/
namespace Droop
variable {α : Type} [CommRing α] [LinearOrder α] [IsStrictOrderedRing α] (A : Arith α)

/-- the ids of a candidate list and which of them are withdrawn -/
def wsig (l : List (Cand α)) : List (Nat × Bool) := l.map (fun c => (c.cid, c.st == CState.withdrawn))

/-- every saved stage lists the candidates the state lists, with the same ones withdrawn -/
def RndW (s : St α) : Prop := ∀ l ∈ s.rounds, wsig l = wsig s.cands

/-- a step that keeps ids and withdrawn marks, and saves only stages of that shape -/
def RStep (s t : St α) : Prop := wsig t.cands = wsig s.cands ∧ ∀ l ∈ t.rounds, l ∈ s.rounds ∨ wsig l = wsig s.cands

theorem RStep.refl (s : St α) : RStep s s := ⟨rfl, fun _ h => Or.inl h⟩

theorem RStep.trans {s t u : St α} (h1 : RStep s t) (h2 : RStep t u) : RStep s u := by
  refine ⟨h2.1.trans h1.1, fun l hl => ?_⟩
  rcases h2.2 l hl with h | h
  · exact h1.2 l h
  · exact Or.inr (h.trans h1.1)

theorem RndW.step {s t : St α} (h : RndW s) (hst : RStep s t) : RndW t := by
  intro l hl
  rw [hst.1]
  rcases hst.2 l hl with h' | h'
  · exact h l h'
  · exact h'

theorem wsig_of_skel {s t : St α} (h : t.skel = s.skel) : wsig t.cands = wsig s.cands := by
  have e : ∀ u : St α, wsig u.cands = u.skel.map (fun k => (k.1, k.2.2.2.2.1 == CState.withdrawn)) := by
    intro u; unfold wsig St.skel; rw [List.map_map]; rfl
  rw [e, e, h]

theorem rstep_of_eq {s t : St α} (hc : t.cands = s.cands) (hr : t.rounds = s.rounds) : RStep s t :=
  ⟨by rw [hc], fun l hl => Or.inl (hr ▸ hl)⟩

theorem rstep_skel {s t : St α} (hs : t.skel = s.skel) (hr : t.rounds = s.rounds) : RStep s t :=
  ⟨wsig_of_skel hs, fun _ hl => Or.inl (hr ▸ hl)⟩

theorem rstep_logAct (s : St α) (tag verb : String) (subj : List Nat) : RStep s (s.logAct A tag verb subj) := by
  unfold St.logAct
  by_cases ht : (tag == "round") = true
  · simp only [ht, if_true]
    refine ⟨rfl, fun l hl => ?_⟩
    rcases List.mem_append.1 hl with h | h
    · exact Or.inl h
    · rw [List.mem_singleton.1 h]; exact Or.inr rfl
  · simp only [ht, Bool.false_eq_true, if_false]
    exact ⟨rfl, fun l hl => Or.inl hl⟩

theorem rstep_upd (s : St α) (cid : Nat) (f : Cand α → Cand α) (hcid : ∀ x, (f x).cid = x.cid)
    (hw : ∀ x ∈ s.cands, (x.cid == cid) = true → ((f x).st == CState.withdrawn) = (x.st == CState.withdrawn)) :
    RStep s (s.upd cid f) := by
  refine ⟨?_, fun l hl => Or.inl hl⟩
  unfold wsig St.upd
  simp only [List.map_map]
  apply List.map_congr_left
  intro x hx
  simp only [Function.comp]
  by_cases h : (x.cid == cid) = true
  · simp only [h, if_true, hcid, hw x hx h]
  · simp only [h, Bool.false_eq_true, if_false]

theorem rstep_mark {s : St α} (hwf : s.WF) {cid : Nat} (h : NonWId s cid) (f : Cand α → Cand α)
    (hcid : ∀ x, (f x).cid = x.cid) (hf : ∀ x, ((f x).st == CState.withdrawn) = false) : RStep s (s.upd cid f) := by
  refine rstep_upd s cid f hcid ?_
  intro x hx hxc
  have hne := noW_of_nonWId hwf h x hx (by simpa using hxc)
  have : (x.st == CState.withdrawn) = false := by simpa using hne
  rw [this, hf]

theorem rstep_elect {s : St α} (hwf : s.WF) {cid : Nat} (h : NonWId s cid) (verb : String) (p : Bool) :
    RStep s (s.elect A cid verb p) :=
  (rstep_mark hwf h (fun c => { c with st := .elected, pending := p }) (fun _ => rfl) (fun _ => rfl)).trans
    (rstep_logAct A _ _ _ _)

theorem rstep_defeat {s : St α} (hwf : s.WF) {cid : Nat} (h : NonWId s cid) (verb : String) :
    RStep s (s.defeat A cid verb) :=
  (rstep_mark hwf h (fun c => { c with st := .defeated }) (fun _ => rfl) (fun _ => rfl)).trans (rstep_logAct A _ _ _ _)

theorem rstep_transferAll (s : St α) (cids : List Nat) (rew : α → α) : RStep s (transferAll A s cids rew) :=
  rstep_skel (transferAll_skel A s cids rew) (TransferBlind.rounds.transferAll s cids rew)

theorem rstep_setVote (s : St α) (cid : Nat) (v : α) : RStep s (s.setVote cid v) := by
  unfold St.setVote
  exact rstep_upd s cid _ (fun _ => rfl) (fun _ _ _ => rfl)

theorem rstep_transferSurplus (s : St α) (hc : Cand α) (rew : α → α → α → α) (verb : String) :
    RStep s (transferSurplus A s hc rew verb) := by
  unfold transferSurplus
  dsimp only
  exact (rstep_transferAll A s _ _).trans ((rstep_setVote _ _ _).trans (rstep_logAct A _ _ _ _))

theorem rstep_foldSetZero (cids : List Nat) (s : St α) : RStep s (cids.foldl (fun acc c => acc.setVote c A.zero) s) := by
  induction cids generalizing s with
  | nil => exact RStep.refl s
  | cons c cs ih => simp only [List.foldl_cons]; exact (rstep_setVote s c _).trans (ih _)

theorem rstep_transferDefeated (s : St α) (cids : List Nat) (verb : String) : RStep s (transferDefeated A s cids verb) := by
  unfold transferDefeated
  dsimp only
  exact (rstep_transferAll A s _ _).trans ((rstep_foldSetZero A _ _).trans (rstep_logAct A _ _ _ _))

theorem rstep_unpendLog (s : St α) (cid : Nat) (verb : String) : RStep s (s.unpendLog A cid verb) := by
  unfold St.unpendLog
  have h1 : RStep s (s.upd cid (fun c => { c with pending := false })) := rstep_upd s cid _ (fun _ => rfl) (fun _ _ _ => rfl)
  exact h1.trans (rstep_logAct A _ _ _ _)

theorem rstep_unpendSilent (s : St α) (cid : Nat) : RStep s (s.unpendSilent cid) := by
  unfold St.unpendSilent
  exact rstep_upd s cid _ (fun _ => rfl) (fun _ _ _ => rfl)

theorem rstep_setCrash (s : St α) (k : String) : RStep s (s.setCrash k) := by
  unfold St.setCrash
  cases s.crash <;> exact rstep_of_eq rfl rfl

theorem rstep_scotBreakTie (s : St α) (tied : List (Cand α)) (lowest : Bool) (reason : String) :
    RStep s (scotBreakTie A s tied lowest reason).1 := by
  unfold scotBreakTie
  split
  · exact rstep_setCrash s _
  · exact RStep.refl s
  · dsimp only
    split
    · exact rstep_logAct A _ _ _ _
    · exact rstep_logAct A _ _ _ _

theorem rstep_foldElect (ws : List (Cand α)) (verb : Cand α → String) (pend : Cand α → Bool) {s : St α} (hwf : s.WF)
    (h : ∀ w ∈ ws, NonWId s w.cid) : RStep s (ws.foldl (fun acc c => acc.elect A c.cid (verb c) (pend c)) s) := by
  induction ws generalizing s with
  | nil => exact RStep.refl s
  | cons w ws ih =>
    simp only [List.foldl_cons]
    exact (rstep_elect A hwf (h w (by simp)) _ _).trans
      (ih (WF_elect A hwf _ _ _) (fun w' hw' => nonWId_elect A (h w' (by simp [hw'])) _ _ _))

theorem rstep_foldDefeat (ws : List (Cand α)) (verb : Cand α → String) {s : St α} (hwf : s.WF)
    (h : ∀ w ∈ ws, NonWId s w.cid) : RStep s (ws.foldl (fun acc c => acc.defeat A c.cid (verb c)) s) := by
  induction ws generalizing s with
  | nil => exact RStep.refl s
  | cons w ws ih =>
    simp only [List.foldl_cons]
    exact (rstep_defeat A hwf (h w (by simp)) _).trans
      (ih (WF_defeat A hwf _ _) (fun w' hw' => nonWId_defeat A (h w' (by simp [hw'])) _ _))

theorem rstep_newRound (s : St α) : RStep s (s.newRound A) := by
  unfold St.newRound
  exact (rstep_of_eq (t := { s with round := s.round + 1 }) rfl rfl).trans (rstep_logAct A _ _ _ _)

theorem nonW_of_rw {s : St α} (hwf : s.WF) (hrw : RndW s) {cn : List (Cand α)} (hcn : cn ∈ s.rounds) {c : Cand α}
    (hc : c ∈ cn) (hk : NonWId s c.cid) : nonW c = true := by
  have hm : (c.cid, c.st == CState.withdrawn) ∈ wsig cn := List.mem_map.2 ⟨c, hc, rfl⟩
  rw [hrw cn hcn] at hm
  obtain ⟨x, hx, hxe⟩ := List.mem_map.1 hm
  have h1 : x.cid = c.cid := congrArg Prod.fst hxe
  have h2 : (x.st == CState.withdrawn) = (c.st == CState.withdrawn) := congrArg Prod.snd hxe
  have hne := noW_of_nonWId hwf hk x hx h1
  have : (x.st == CState.withdrawn) = false := by simpa using hne
  unfold nonW
  rw [this] at h2
  simp only [bne, ← h2, Bool.not_false]

theorem findSome?_congr_mem {β γ : Type} (l : List β) (f g : β → Option γ) (h : ∀ x ∈ l, f x = g x) :
    l.findSome? f = l.findSome? g := by
  induction l with
  | nil => rfl
  | cons x xs ih =>
    simp only [List.findSome?_cons]
    rw [h x (by simp)]
    cases g x with
    | some _ => rfl
    | none => exact ih (fun y hy => h y (by simp [hy]))

theorem scotPrior_filter_nonW (cids : List Nat) (lowest : Bool) (cn : List (Cand α))
    (h : ∀ c ∈ cn, cids.contains c.cid = true → nonW c = true) :
    scotPrior A cids lowest (cn.filter nonW) = scotPrior A cids lowest cn := by
  unfold scotPrior
  have : (cn.filter nonW).filter (fun c => cids.contains c.cid) = cn.filter (fun c => cids.contains c.cid) := by
    rw [List.filter_filter]
    apply List.filter_congr
    intro x hx
    by_cases hc : cids.contains x.cid = true
    · simp only [hc, h x hx hc, Bool.and_self]
    · simp only [hc, Bool.false_and]
  rw [this]

theorem dropW_scotBreakTie {s : St α} (hwf : s.WF) (hrw : RndW s) (tied : List (Cand α))
    (ht : ∀ w ∈ tied, NonWId s w.cid) (lowest : Bool) (reason : String) :
    scotBreakTie A (dropW s) tied lowest reason
      = (dropW (scotBreakTie A s tied lowest reason).1, (scotBreakTie A s tied lowest reason).2) := by
  unfold scotBreakTie
  match tied, ht with
  | [], _ => simp only; rw [dropW_setCrash]
  | [c], _ => rfl
  | c :: d :: r, ht =>
    simp only [round_dropW]
    have hr : (dropW s).rounds = s.rounds.map (fun l => l.filter nonW) := rfl
    have key : (((dropW s).rounds.take s.round).reverse).findSome? (scotPrior A ((c :: d :: r).map (·.cid)) lowest)
        = ((s.rounds.take s.round).reverse).findSome? (scotPrior A ((c :: d :: r).map (·.cid)) lowest) := by
      rw [hr, ← List.map_take, ← List.map_reverse, List.findSome?_map]
      apply findSome?_congr_mem
      intro cn hcn
      have hcn' : cn ∈ s.rounds := List.mem_of_mem_take (List.mem_reverse.1 hcn)
      simp only [Function.comp]
      apply scotPrior_filter_nonW
      intro x hx hxc
      have hxc' : x.cid ∈ (c :: d :: r).map (·.cid) := by simpa using hxc
      obtain ⟨w, hw, hwe⟩ := List.mem_map.1 hxc'
      exact nonW_of_rw hwf hrw hcn' hx (hwe ▸ ht w hw)
    rw [key]
    cases ((s.rounds.take s.round).reverse).findSome? (scotPrior A ((c :: d :: r).map (·.cid)) lowest) with
    | some cn0 => simp only; rw [dropW_logAct]
    | none => simp only; rw [dropW_logAct]

theorem rstep_electWinners {s : St α} (hwf : s.WF) (hasQ : St α → Cand α → Bool) (pend : St α → Cand α → Bool)
    (verb : St α → Cand α → String) : RStep s (electWinners A hasQ pend verb s) := by
  unfold electWinners
  apply rstep_foldElect A _ _ _ hwf
  intro w hw
  rw [List.mem_filter] at hw
  exact nonWId_of_hopeful ((mem_pySorted _ _ _ _).1 hw.1)

theorem rstep_scotRound (s : St α) : RStep s (scotRound A s) := by
  unfold scotRound
  exact (rstep_newRound A s).trans (rstep_of_eq rfl rfl)

theorem dropW_scotBody {s : St α} (hwf : s.WF) (hrw : RndW s) :
    scotBody A (dropW s) = (dropW (scotBody A s).1, (scotBody A s).2) := by
  have hwf1 : (scotElect A s).WF := WF_electWinners A hwf _ _ _
  have hrw1 : RndW (scotElect A s) := hrw.step (by unfold scotElect; exact rstep_electWinners A hwf _ _ _)
  exact (stepComm_dropW A).scotBody (fun _ => hwf) (fun tied lowest reason ht =>
    dropW_scotBreakTie A (WF_scotRound A hwf1) (hrw1.step (rstep_scotRound A _)) tied (fun w hw => ht w hw trivial) lowest reason)

theorem rstep_scotSurplusStep (s : St α) : RStep s (scotSurplusStep A s) := by
  rcases scotSurplusStep_cases A s with ⟨_, e⟩ | ⟨tied, _, ⟨_, e⟩ | ⟨hc, _, e⟩⟩
  · rw [e]; exact RStep.refl s
  · rw [e]; exact rstep_scotBreakTie A _ _ _ _
  · rw [e]
    exact (rstep_scotBreakTie A _ _ _ _).trans ((rstep_unpendLog A _ _ _).trans (rstep_transferSurplus A _ _ _ _))

theorem rstep_scotDefeatStep {s : St α} (hwf : s.WF) : RStep s (scotDefeatStep A s) := by
  rcases scotDefeatStep_cases A s with ⟨_, e⟩ | ⟨tied, htied, ⟨_, e⟩ | ⟨lc, hlc, e⟩⟩
  · rw [e]; exact RStep.refl s
  · rw [e]; exact rstep_scotBreakTie A _ _ _ _
  · rw [e]
    have hwf1 := WF_of_reach ((stepRel_reach A).scotBreakTie s tied true "defeat low candidate") hwf
    have hcs := (scotBreakTie_frame A s tied true "defeat low candidate").1
    have hl : lc ∈ s.hopeful := htied lc (scotBreakTie_mem A s tied true "defeat low candidate" lc hlc)
    have hn : NonWId (scotBreakTie A s tied true "defeat low candidate").1 lc.cid :=
      nonWId_of_cands (nonWId_of_hopeful hl) hcs
    exact (rstep_scotBreakTie A _ _ _ _).trans ((rstep_defeat A hwf1 hn _).trans (rstep_transferDefeated A _ _ _))

theorem rstep_scotBody {s : St α} (hwf : s.WF) : RStep s (scotBody A s).1 := by
  have hwf1 : (scotElect A s).WF := WF_electWinners A hwf _ _ _
  have hX1 : RStep s (scotElect A s) := by unfold scotElect; exact rstep_electWinners A hwf _ _ _
  unfold scotBody
  split
  · exact hX1
  · have hX2 : RStep s (scotRound A (scotElect A s)) := hX1.trans (rstep_scotRound A _)
    unfold scotStage
    split
    · exact hX2.trans (rstep_scotSurplusStep A _)
    · split
      · rw [scotFinish_fst]; exact hX2.trans (rstep_scotDefeatStep A (WF_scotRound A hwf1))
      · rw [scotFinish_fst]; exact hX2

theorem scotInit_rounds (s0 : St α) : (scotInit A s0).rounds = s0.rounds := by
  unfold scotInit St.logAct
  simp only [show ("begin" == "round") = false from by decide, Bool.false_eq_true, if_false]
  exact TransferBlind.rounds.firstCount (s0.setQuota _)

/-- **C11, second clause, Scottish rule**: counting the profile with the withdrawn candidates deleted gives exactly the state
    (record included) obtained by deleting them from the count of the full profile -/
theorem scot_dropW (hA : LawfulArith A) (hex : A.exact = false) (s0 t t' : St α) (h0 : ScotStart A s0)
    (hr0 : s0.rounds = []) (h : scotCount A s0 = some t) (h' : scotCount A (dropW s0) = some t') :
    t' = dropW t := by
  have hinit : GInv A (scotInit A s0) ∧ RndW (scotInit A s0) := by
    refine ⟨h0.inv A hA, ?_⟩
    intro l hl
    rw [scotInit_rounds, hr0] at hl
    cases hl
  have hwfP : ∀ s, GInv A s ∧ RndW s → s.WF := fun s hs => hs.1.wf
  have hstep : ∀ s, GInv A s ∧ RndW s → GInv A (scotBody A s).1 ∧ RndW (scotBody A s).1 := fun s hs =>
    ⟨(scotBody_spec A hA hex hs.1).1, hs.2.step (rstep_scotBody A (hwfP s hs))⟩
  rw [scotCount_eq] at h h'
  rw [← (stepComm_dropW A).scotInit] at h'
  exact count_dropW (fun s => GInv A s ∧ RndW s) (fun _ => true) (scotBody A) (scotEpilogue A)
    (fun s hs _ => hstep s hs) (fun _ => rfl) (fun s hs => dropW_scotBody A (hwfP s hs) hs.2)
    (fun s hs => (stepComm_dropW A).scotEpilogue (fun _ => hwfP s hs)) (dropW_fuel_le s0 3) hinit h h'

end Droop
