import DroopProofs.QpqTerm

/-! # C09 for QPQ: status only moves forward, except for the restart that follows an exclusion

Between the state a round starts in and the state it ends in, a candidate's status is unchanged, or goes from hopeful to elected or
defeated; only when a restart is due (`restart = true`: the count has just begun, or the previous round excluded someone) may an
elected candidate become hopeful again (and then be excluded).  Withdrawn and defeated candidates never change.  Over the whole
count: the same, with un-election allowed. -/
namespace Droop
variable {α : Type} [CommRing α] [LinearOrder α] [IsStrictOrderedRing α] (A : Arith α)

/-- permitted status changes; `un`: a restart may un-elect -/
def okT (un : Bool) (a b : CState) : Prop :=
  b = a ∨ (a = .hopeful ∧ (b = .elected ∨ b = .defeated)) ∨ (un = true ∧ a = .elected ∧ (b = .hopeful ∨ b = .defeated))

/-- candidate by candidate (same ids, same order), the status has moved only in a permitted way -/
def StFwd (un : Bool) (a b : List (Nat × CState)) : Prop :=
  List.Forall₂ (fun p p' => p'.1 = p.1 ∧ okT un p.2 p'.2) a b

theorem okT_refl (un : Bool) (a : CState) : okT un a a := Or.inl rfl

theorem okT_mono {a b : CState} (h : okT false a b) (un : Bool) : okT un a b := by
  rcases h with h | h | h
  · exact Or.inl h
  · exact Or.inr (Or.inl h)
  · exact absurd h.1 (by simp)

theorem okT_trans {un : Bool} {a b c : CState} (h1 : okT un a b) (h2 : okT un b c) : okT un a c := by
  -- by what the first move was; a second move out of `elected` needs `un`, which the first (out of `elected`) then provides
  rcases h1 with rfl | ⟨rfl, rfl | rfl⟩ | ⟨hu, rfl, rfl | rfl⟩
  · exact h2
  · rcases h2 with rfl | ⟨h, _⟩ | ⟨_, _, h | h⟩
    · exact Or.inr (Or.inl ⟨rfl, Or.inl rfl⟩)
    · cases h
    · exact Or.inl h
    · exact Or.inr (Or.inl ⟨rfl, Or.inr h⟩)
  · rcases h2 with rfl | ⟨h, _⟩ | ⟨_, h, _⟩
    · exact Or.inr (Or.inl ⟨rfl, Or.inr rfl⟩)
    · cases h
    · cases h
  · rcases h2 with rfl | ⟨_, h | h⟩ | ⟨_, h, _⟩
    · exact Or.inr (Or.inr ⟨hu, rfl, Or.inl rfl⟩)
    · exact Or.inl h
    · exact Or.inr (Or.inr ⟨hu, rfl, Or.inr h⟩)
    · cases h
  · rcases h2 with rfl | ⟨h, _⟩ | ⟨_, h, _⟩
    · exact Or.inr (Or.inr ⟨hu, rfl, Or.inr rfl⟩)
    · cases h
    · cases h

theorem StFwd.refl (un : Bool) (l : List (Nat × CState)) : StFwd un l l := by
  unfold StFwd
  induction l with
  | nil => exact List.Forall₂.nil
  | cons p ps ih => exact List.Forall₂.cons ⟨rfl, okT_refl un p.2⟩ ih

theorem StFwd.of_eq (un : Bool) {l l' : List (Nat × CState)} (h : l' = l) : StFwd un l l' := by
  rw [h]; exact StFwd.refl un l

theorem StFwd.mono {l l' : List (Nat × CState)} (h : StFwd false l l') (un : Bool) : StFwd un l l' := by
  unfold StFwd at *
  exact List.Forall₂.imp (fun _ _ hp => ⟨hp.1, okT_mono hp.2 un⟩) h

theorem StFwd.trans {un : Bool} {l1 l2 l3 : List (Nat × CState)} (h1 : StFwd un l1 l2) (h2 : StFwd un l2 l3) : StFwd un l1 l3 := by
  unfold StFwd at *
  induction h1 generalizing l3 with
  | nil => cases h2; exact List.Forall₂.nil
  | cons hp _ ih =>
    cases h2 with
    | cons hq hr => exact List.Forall₂.cons ⟨hq.1.trans hp.1, okT_trans hp.2 hq.2⟩ (ih hr)

theorem StFwd.ids {un : Bool} {l l' : List (Nat × CState)} (h : StFwd un l l') : l'.map (·.1) = l.map (·.1) := by
  unfold StFwd at h
  induction h with
  | nil => rfl
  | cons hp _ ih => simp only [List.map_cons, hp.1, ih]

theorem stsig_ids (s : St α) : (stsig s).map (·.1) = s.cands.map (·.cid) := by
  unfold stsig; rw [List.map_map]; rfl

theorem StFwd.WF {un : Bool} {s t : St α} (h : StFwd un (stsig s) (stsig t)) (hwf : s.WF) : t.WF := by
  unfold St.WF at *
  rw [← stsig_ids, h.ids, stsig_ids]; exact hwf

theorem StFwd_map (un : Bool) (s : St α) (f : Cand α → Cand α)
    (hf : ∀ c ∈ s.cands, (f c).cid = c.cid ∧ okT un c.st (f c).st) :
    StFwd un (stsig s) (stsig ({ s with cands := s.cands.map f } : St α)) := by
  unfold StFwd stsig
  simp only
  generalize s.cands = l at hf
  induction l with
  | nil => exact List.Forall₂.nil
  | cons c cs ih =>
    simp only [List.map_cons]
    exact List.Forall₂.cons (hf c (List.mem_cons_self ..)) (ih (fun c' hc' => hf c' (List.mem_cons_of_mem _ hc')))

theorem StFwd_upd (un : Bool) (s : St α) (cid : Nat) (f : Cand α → Cand α) (st' : CState)
    (hf : ∀ c, (f c).cid = c.cid ∧ (f c).st = st') (hok : ∀ c ∈ s.cands, c.cid = cid → okT un c.st st') :
    StFwd un (stsig s) (stsig (s.upd cid f)) := by
  unfold St.upd
  apply StFwd_map
  intro c hc
  by_cases he : (c.cid == cid) = true
  · rw [if_pos he]
    refine ⟨(hf c).1, ?_⟩
    rw [(hf c).2]
    exact hok c hc (by simpa using he)
  · rw [if_neg he]; exact ⟨rfl, okT_refl un _⟩

theorem cand_unique {s : St α} (hwf : s.WF) {a c : Cand α} (ha : a ∈ s.cands) (hc : c ∈ s.cands) (h : c.cid = a.cid) : c = a :=
  nodup_cid_eq hwf hc ha h

theorem StFwd_elect (un : Bool) {s : St α} (hwf : s.WF) (a : Cand α) (ha : a ∈ s.cands) (hh : a.st = .hopeful) (verb : String) (p : Bool) :
    StFwd un (stsig s) (stsig (s.elect A a.cid verb p)) := by
  unfold St.elect
  rw [stsig_logAct]
  refine StFwd_upd un s a.cid (fun c => { c with st := .elected, pending := p }) .elected (fun c => ⟨rfl, rfl⟩) ?_
  intro c hc hci
  rw [cand_unique hwf ha hc hci, hh]
  exact Or.inr (Or.inl ⟨rfl, Or.inl rfl⟩)

theorem StFwd_defeat (un : Bool) {s : St α} (hwf : s.WF) (a : Cand α) (ha : a ∈ s.cands) (hh : a.st = .hopeful) (verb : String) :
    StFwd un (stsig s) (stsig (s.defeat A a.cid verb)) := by
  unfold St.defeat
  rw [stsig_logAct]
  refine StFwd_upd un s a.cid (fun c => { c with st := .defeated }) .defeated (fun c => ⟨rfl, rfl⟩) ?_
  intro c hc hci
  rw [cand_unique hwf ha hc hci, hh]
  exact Or.inr (Or.inl ⟨rfl, Or.inr rfl⟩)

theorem qR2_fwd (q : QSt α) : StFwd q.restart (stsig q.s) (stsig (qR2 A q)) := by
  rw [stsig_of_cands (qR2_fields A q).1]
  by_cases hr : q.restart = true
  · rw [if_pos hr, hr]
    unfold unElect
    apply StFwd_map
    intro c _
    by_cases he : (c.st == CState.elected) = true
    · rw [if_pos he]
      exact ⟨rfl, Or.inr (Or.inr ⟨rfl, by simpa using he, Or.inl rfl⟩)⟩
    · rw [if_neg he]; exact ⟨rfl, okT_refl _ _⟩
  · rw [if_neg hr]
    exact StFwd.refl _ _

theorem qDecide_fwd (q1 : QSt α) (s5 : St α) (hwf : s5.WF) :
    StFwd false (stsig s5) (stsig (qDecide A q1 s5).1.s) := by
  rcases (qDecide_out A q1 s5).2.2 with ⟨_, _, hcs⟩ | ⟨c, hm, _, _, _, hcs, _⟩ | ⟨c, hm, _, _, _, hcs, _⟩
  · exact StFwd.of_eq _ (stsig_of_cands hcs)
  · rw [stsig_of_cands hcs]
    exact StFwd_elect A false hwf c (mem_hopeful.1 hm).1 (mem_hopeful.1 hm).2 _ _
  · rw [stsig_of_cands hcs]
    exact StFwd_defeat A false hwf c (mem_hopeful.1 hm).1 (mem_hopeful.1 hm).2 _

/-- C09, one round of QPQ: statuses move forward; an elected candidate is un-elected only if a restart was due -/
theorem qpqBody_fwd (q : QSt α) (hwf : q.s.WF) : StFwd q.restart (stsig q.s) (stsig (qpqBody A q).1.s) := by
  rw [qpqBody_eq]
  have h2 := qR2_fwd A q
  have h5 : stsig (qR5 A q) = stsig (qR2 A q) := (qR5_stsig A q).1
  have hwf5 : (qR5 A q).WF := WF_of_stsig h5 (h2.WF hwf)
  have hd := (qDecide_fwd A (qQ1 A q) (qR5 A q) hwf5).mono q.restart
  rw [h5] at hd
  exact h2.trans hd

theorem qpqLoop_fwd : ∀ (fuel : Nat) (q r : QSt α), q.s.WF → qpqLoop A fuel q = some r → StFwd true (stsig q.s) (stsig r.s) := by
  intro fuel q r hwf h
  refine (qpqLoop_inv A (fun q' => q'.s.WF ∧ StFwd true (stsig q.s) (stsig q'.s)) ?_ fuel q r ⟨hwf, StFwd.refl _ _⟩ h).1.2
  intro q' ⟨hwf', hfw⟩ _ _
  have hb := qpqBody_fwd A q' hwf'
  have hb' : StFwd true (stsig q'.s) (stsig (qpqBody A q').1.s) := by
    cases hr : q'.restart with
    | true => rw [hr] at hb; exact hb
    | false => rw [hr] at hb; exact hb.mono true
  exact ⟨hb'.WF hwf', hfw.trans hb'⟩

theorem electAll_fwd (un : Bool) (verb : String) {s : St α} (hwf : s.WF) :
    StFwd un (stsig s) (stsig (s.hopeful.foldl (fun acc c => acc.elect A c.cid verb false) s)) :=
  (foldl_hopefuls (fun _ t => t.WF ∧ StFwd un (stsig s) (stsig t)) (fun acc c => acc.elect A c.cid verb false)
    (fun _ _ w hP hwm hwh =>
      have h1 := StFwd_elect A un hP.1 w hwm hwh verb false
      ⟨⟨h1.WF hP.1, hP.2.trans h1⟩, fun _ hc hne => mem_elect_of_ne A hc _ _ _ hne⟩)
    s.hopeful (hopeful_cids_nodup hwf) (fun _ => mem_hopeful.1) ⟨hwf, StFwd.refl _ _⟩).2

theorem defeatAll_fwd (un : Bool) (verb : String) {s : St α} (hwf : s.WF) :
    StFwd un (stsig s) (stsig (s.hopeful.foldl (fun acc c => acc.defeat A c.cid verb) s)) :=
  (foldl_hopefuls (fun _ t => t.WF ∧ StFwd un (stsig s) (stsig t)) (fun acc c => acc.defeat A c.cid verb)
    (fun _ _ w hP hwm hwh =>
      have h1 := StFwd_defeat A un hP.1 w hwm hwh verb
      ⟨⟨h1.WF hP.1, hP.2.trans h1⟩, fun _ hc hne => mem_defeat_of_ne A hc _ _ hne⟩)
    s.hopeful (hopeful_cids_nodup hwf) (fun _ => mem_hopeful.1) ⟨hwf, StFwd.refl _ _⟩).2

theorem qpqFinish_fwd (un : Bool) (q : QSt α) (hwf : q.s.WF) : StFwd un (stsig q.s) (stsig (qpqFinish A q)) := by
  rw [qpqFinish_eq]
  split
  · exact StFwd.refl _ _
  · have h4 : StFwd un (stsig q.s) (stsig (fitElect A q.s)) := by
      unfold fitElect
      split
      · exact electAll_fwd A un _ hwf
      · exact StFwd.refl _ _
    exact h4.trans (defeatAll_fwd A un _ (h4.WF hwf))

theorem qpqStart_stsig (s0 : St α) : stsig (qpqStart A s0).s = stsig s0 := (qpqStart_fields A s0).1

/-- C09, the whole QPQ count: candidate by candidate, the final status is reached from the initial one by permitted moves -/
theorem qpqCount_fwd (s0 t : St α) (hwf : s0.WF) (h : qpqCount A s0 = some t) : StFwd true (stsig s0) (stsig t) := by
  obtain ⟨r, hl, rfl⟩ := qpqCount_some A h
  have hs := qpqStart_stsig A s0
  have hwf1 : (qpqStart A s0).s.WF := WF_of_stsig hs hwf
  have h1 := qpqLoop_fwd A _ _ _ hwf1 hl
  rw [hs] at h1
  exact h1.trans (qpqFinish_fwd A true r (h1.WF hwf))

theorem StFwd.at {un : Bool} {l l' : List (Nat × CState)} (h : StFwd un l l') (i : Nat) (st' : CState) (hm : (i, st') ∈ l') :
    ∃ st, (i, st) ∈ l ∧ okT un st st' := by
  unfold StFwd at h
  induction h with
  | nil => cases hm
  | @cons p p' ps ps' hp _ ih =>
    rcases List.mem_cons.1 hm with e | hm'
    · refine ⟨p.2, ?_, ?_⟩
      · have : p = (i, p.2) := by
          have h1 : p'.1 = i := by rw [← e]
          rw [← h1, hp.1]
        rw [← this]; exact List.mem_cons_self ..
      · have h2 : p'.2 = st' := by rw [← e]
        rw [← h2]; exact hp.2
    · obtain ⟨st, hst, hok⟩ := ih hm'
      exact ⟨st, List.mem_cons_of_mem _ hst, hok⟩

theorem StFwd.at_left {un : Bool} {l l' : List (Nat × CState)} (h : StFwd un l l') (i : Nat) (st : CState) (hm : (i, st) ∈ l) :
    ∃ st', (i, st') ∈ l' ∧ okT un st st' := by
  unfold StFwd at h
  induction h with
  | nil => cases hm
  | @cons p p' ps ps' hp _ ih =>
    rcases List.mem_cons.1 hm with e | hm'
    · refine ⟨p'.2, ?_, ?_⟩
      · have : p' = (i, p'.2) := by
          have h1 : p.1 = i := by rw [← e]
          rw [← h1, ← hp.1]
        rw [← this]; exact List.mem_cons_self ..
      · have h2 : p.2 = st := by rw [← e]
        rw [← h2]; exact hp.2
    · obtain ⟨st', hst, hok⟩ := ih hm'
      exact ⟨st', List.mem_cons_of_mem _ hst, hok⟩

/-- without un-election, whoever is elected stays elected -/
theorem StFwd.elected_stays {l l' : List (Nat × CState)} (h : StFwd false l l') {i : Nat} (hm : (i, CState.elected) ∈ l) :
    (i, CState.elected) ∈ l' := by
  obtain ⟨st', hst', hok⟩ := h.at_left i .elected hm
  rcases hok with e | e | e
  · rw [e] at hst'; exact hst'
  · cases e.1
  · cases e.1

end Droop
