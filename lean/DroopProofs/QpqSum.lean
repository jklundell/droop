import DroopProofs.MeekRun
import DroopProofs.QpqFig
import DroopProofs.QpqSeats

/-! # C02 for QPQ in exact arithmetic: the contributions of all ballots sum to the number of candidates elected

Each ballot carries the fraction of a candidate it has helped to elect so far (`w`; the implementation's `ballot.weight`).  A
restart sets every contribution to 0 and un-elects everybody.  A round tallies, for each hopeful candidate `c`, the ballots standing
with `c` (`vote`) and their contributions (`tc`), and the quotient `vote / (1 + tc)`.  When `c` is elected every ballot standing with
`c` gets the contribution `1 / quotient = (1 + tc) / vote`: together `1 + tc` where they had `tc` — one more candidate elected, one
more unit contributed.  An exclusion changes no contribution, and is followed by a restart.

Stated for the model run with exact rational arithmetic (`rationalArith`): at the end of every round that continues without the
crash flag and orders no restart, the contributions sum to the number of elected candidates, exactly.  (The rule as deployed forces
guarded arithmetic, where the same sum is within the truncation allowance: that is judged on the record by `okC02Qpq`.) -/
namespace Droop

abbrev RA : Arith ℚ := rationalArith

def wsum (bs : List (Ballot ℚ)) : ℚ := (bs.map (fun b => b.w * ((b.mult : Int) : ℚ))).sum
def topW (bs : List (Ballot ℚ)) (k : Nat) : ℚ := (bs.map (fun b => if b.top = some k then b.w * ((b.mult : Int) : ℚ) else 0)).sum
def topM (bs : List (Ballot ℚ)) (k : Nat) : ℚ := (bs.map (fun b => if b.top = some k then ((b.mult : Int) : ℚ) else 0)).sum

theorem qTally_crash (acc : QSt ℚ) (b : Ballot ℚ) : (qTally RA acc b).s.crash = acc.s.crash := by
  unfold qTally; split <;> rfl

theorem foldl_qTally_crash (bs : List (Ballot ℚ)) (acc : QSt ℚ) : (bs.foldl (qTally RA) acc).s.crash = acc.s.crash := by
  induction bs generalizing acc with
  | nil => rfl
  | cons b bs ih => simp only [List.foldl_cons]; rw [ih, qTally_crash]

/-- in exact arithmetic the unit is 1, so the general count of the ballots standing with `k` is `topM` -/
theorem topMg_RA (bs : List (Ballot ℚ)) (k : Nat) : topMg RA bs k = topM bs k := by
  unfold topMg topM
  congr 1
  apply List.map_congr_left
  intro b _
  split
  · exact mul_one _
  · rfl

theorem foldl_qTally_cand (bs : List (Ballot ℚ)) : ∀ (acc : QSt ℚ) (k : Nat) (x : Cand ℚ), acc.s.cand? k = some x →
    (bs.foldl (qTally RA) acc).s.cand? k = some { x with tc := x.tc + topW bs k, vote := x.vote + topM bs k } := by
  intro acc k x h
  have hxk : x.cid = k := (cand?_some_mem h).2
  subst hxk
  unfold St.cand? at h ⊢
  rw [foldl_qTally_cands RA rational_lawful, List.find?_map]
  have hp : ((fun c : Cand ℚ => c.cid == x.cid) ∘ fun y : Cand ℚ =>
      { y with tc := y.tc + topWg bs y.cid, vote := y.vote + topMg RA bs y.cid }) = fun c => c.cid == x.cid := rfl
  rw [hp, h, ← topMg_RA]
  rfl

theorem qAdvance_w (s : St ℚ) (b : Ballot ℚ) : (qAdvance s b).w = b.w := by unfold qAdvance; exact advanceTo_w _ _
theorem qAdvance_mult (s : St ℚ) (b : Ballot ℚ) : (qAdvance s b).mult = b.mult := by unfold qAdvance; exact advanceTo_mult _ _

theorem wsum_reweight (s : St ℚ) (k : Nat) (nw : ℚ) (bs : List (Ballot ℚ)) :
    wsum (bs.map (fun (b : Ballot ℚ) => if b.top == some k then qAdvance s { b with w := nw } else b))
      = wsum bs - topW bs k + nw * topM bs k := by
  induction bs with
  | nil => simp [wsum, topW, topM]
  | cons b bs ih =>
    simp only [wsum, topW, topM, List.map_cons, List.sum_cons] at ih ⊢
    rw [ih]
    by_cases hb : b.top = some k
    · have hb' : (b.top == some k) = true := by simp [hb]
      simp only [if_pos hb', if_pos hb, qAdvance_w, qAdvance_mult]
      ring
    · have hb' : ¬ ((b.top == some k) = true) := by simpa using hb
      simp only [if_neg hb', if_neg hb]
      ring

theorem wsum_advanceOnly (s : St ℚ) (k : Nat) (bs : List (Ballot ℚ)) :
    wsum (bs.map (fun (b : Ballot ℚ) => if b.top == some k then qAdvance s b else b)) = wsum bs := by
  induction bs with
  | nil => rfl
  | cons b bs ih =>
    simp only [wsum, List.map_cons, List.sum_cons] at ih ⊢
    rw [ih]
    split
    · rw [qAdvance_w, qAdvance_mult]
    · rfl

theorem wsum_restart (s : St ℚ) (bs : List (Ballot ℚ)) :
    wsum (bs.map (fun (b : Ballot ℚ) => qAdvance s { b with idx := 0, w := RA.zero, residual := RA.zero })) = 0 := by
  induction bs with
  | nil => rfl
  | cons b bs ih =>
    simp only [wsum, List.map_cons, List.sum_cons] at ih ⊢
    rw [ih, qAdvance_w]
    show (0 : ℚ) * _ + 0 = 0
    ring

theorem qR2_wsum (q : QSt ℚ) : wsum (qR2 RA q).ballots = if q.restart then 0 else wsum q.s.ballots := by
  rw [(qR2_fields RA q).2.1]
  split
  · exact wsum_restart _ _
  · rfl

theorem qR5_figures (q : QSt ℚ) (hwf : q.s.WF) (c : Cand ℚ) (hc : c ∈ (qR5 RA q).hopeful) :
    c.vote = topM (qR5 RA q).ballots c.cid ∧ c.tc = topW (qR5 RA q).ballots c.cid
      ∧ c.quotient = some (RA.divV c.vote (1 + c.tc)) := by
  obtain ⟨fv, ft, fq⟩ := qR5_figures_gen RA rational_lawful q hwf c hc
  rw [qR5_ballots_gen, ← topMg_RA]
  exact ⟨fv, ft, fq⟩

/-- One election adds exactly one unit: in the decision state every hopeful candidate carries the figures of its ballots;
    if the round elects (no restart ordered) and the crash flag stays down, the contributions sum to one more than before -/
theorem qDecide_wsum (q1 : QSt ℚ) (s5 : St ℚ)
    (hfig : ∀ c ∈ s5.hopeful, c.vote = topM s5.ballots c.cid ∧ c.tc = topW s5.ballots c.cid
      ∧ c.quotient = some (RA.divV c.vote (1 + c.tc)))
    (h : (qDecide RA q1 s5).2 = .cont) (hr : (qDecide RA q1 s5).1.restart = false) (hr1 : q1.restart = false)
    (hcr : (qDecide RA q1 s5).1.s.crash = none) :
    wsum (qDecide RA q1 s5).1.s.ballots = wsum s5.ballots + 1 := by
  rcases (qDecide_out RA q1 s5).2.2 with ⟨hb, _⟩ | ⟨hc, hcm, _, _, _, _, hz, s7, hbl⟩ | ⟨_, _, _, _, hr', _⟩
  · rw [hb] at h; cases h
  · obtain ⟨fv, ft, fq⟩ := hfig hc hcm
    -- the quotient is not zero, or the crash flag would be up
    have hqz : ¬ (RA.isZero (qQuot RA hc) = true) := by rw [hz hcr]; simp
    have hquot : qQuot RA hc = RA.divV hc.vote (1 + hc.tc) := by unfold qQuot; rw [fq]; rfl
    have hden : (1 + hc.tc) ≠ 0 := by
      intro h0
      apply hqz
      rw [hquot]
      show ((if (1 + hc.tc == 0) = true then (0 : ℚ) else hc.vote / (1 + hc.tc)) == 0) = true
      simp [h0]
    have hqv : qQuot RA hc = hc.vote / (1 + hc.tc) := by
      rw [hquot]
      show (if (1 + hc.tc == 0) = true then (0 : ℚ) else hc.vote / (1 + hc.tc)) = _
      have : ¬ ((1 + hc.tc == 0) = true) := by simpa using hden
      rw [if_neg this]
    have hq0 : qQuot RA hc ≠ 0 := by
      intro h0; apply hqz; show (qQuot RA hc == 0) = true; simp [h0]
    have hv0 : hc.vote ≠ 0 := by
      intro h0; apply hq0; rw [hqv, h0]; simp
    have hnw : RA.divV RA.one (qQuot RA hc) = (1 + hc.tc) / hc.vote := by
      show (if (qQuot RA hc == 0) = true then (0 : ℚ) else 1 / qQuot RA hc) = _
      have : ¬ ((qQuot RA hc == 0) = true) := by simpa using hq0
      rw [if_neg this, hqv]
      field_simp
    rw [hbl, wsum_reweight, hnw, ← fv, ← ft]
    field_simp
    ring
  · rw [hr'] at hr; cases hr

/-- C02 for QPQ, one round (exact arithmetic): let a round start from a state with distinct candidate ids in which, unless a
    restart is due, the contributions sum to the number of elected candidates.  If the round continues without the crash flag and
    orders no restart, the same holds in the state it ends in. -/
theorem qpqBody_wsum (q : QSt ℚ) (hwf : q.s.WF) (hJ : q.restart = false → wsum q.s.ballots = (nEl q.s : ℚ))
    (h : (qpqBody RA q).2 = .cont) (hcr : (qpqBody RA q).1.s.crash = none) :
    (qpqBody RA q).1.restart = false → wsum (qpqBody RA q).1.s.ballots = (nEl (qpqBody RA q).1.s : ℚ) := by
  intro hr
  obtain ⟨c1, c2, _⟩ := qR5_counts RA q
  have hcase := (qpqBody_cont RA q hwf h).2
  rw [qpqBody_eq] at h hcr hr hcase ⊢
  rw [qDecide_wsum (qQ1 RA q) (qR5 RA q) (fun c hc => qR5_figures q hwf c hc) h hr (qR5_stsig RA q).2 hcr, qR5_ballots_gen,
    qR2_wsum]
  rcases hcase with ⟨_, _, b⟩ | ⟨r, _, _⟩
  · rw [b]
    cases hres : q.restart with
    | true =>
      rw [(c1 hres).2]
      simp
    | false =>
      rw [(c2 hres).2, hJ hres]
      simp
  · rw [r] at hr; cases hr

end Droop

namespace Droop

/-- C02 for QPQ, the whole loop (exact arithmetic): in the state the loop of rounds returns — if the crash flag is down and no
    restart is pending — the contributions of all ballots sum to the number of candidates elected -/
theorem qpqLoop_wsum : ∀ (fuel : Nat) (q r : QSt ℚ), q.s.WF → (q.restart = false → wsum q.s.ballots = (nEl q.s : ℚ)) →
    qpqLoop RA fuel q = some r → r.s.crash = none → r.restart = false → wsum r.s.ballots = (nEl r.s : ℚ) := by
  intro fuel q r hwf hJ h
  refine (qpqLoop_inv RA (fun q' => q'.s.WF ∧ (q'.s.crash = none → q'.restart = false → wsum q'.s.ballots = (nEl q'.s : ℚ)))
    ?_ fuel q r ⟨hwf, fun _ => hJ⟩ h).1.2
  intro q' ⟨hwf', hJ'⟩ hc _
  refine ⟨(qpqBody_fwd RA q' hwf').WF hwf', fun hcr => ?_⟩
  cases hfl : (qpqBody RA q').2 with
  | cont => exact qpqBody_wsum q' hwf' (hJ' (Option.not_isSome_iff_eq_none.1 (by rw [hc]; simp))) hfl hcr
  | brk =>
    have := qpqBody_brk RA q' hfl
    rw [hcr] at this
    cases this

end Droop
