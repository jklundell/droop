import DroopProofs.DropWWigm

/-! # C11, cfer / cfer-batch: the count of the profile with the withdrawn candidates deleted -/
namespace Droop
variable {α : Type} [CommRing α] [LinearOrder α] [IsStrictOrderedRing α] (A : Arith α)

theorem nonWId_foldElect {s : St α} {c : Nat} (h : NonWId s c) (ws : List (Cand α)) (verb : Cand α → String) (pend : Cand α → Bool) :
    NonWId (ws.foldl (fun acc c => acc.elect A c.cid (verb c) (pend c)) s) c := by
  induction ws generalizing s with
  | nil => exact h
  | cons w ws ih => simp only [List.foldl_cons]; exact ih (nonWId_elect A h _ _ _)

theorem dropW_cferBody (batch : Bool) {s : St α} (hwf : s.WF) :
    cferBody A batch (dropW s) = (dropW (cferBody A batch s).1, (cferBody A batch s).2) :=
  (stepComm_dropW A).cferBody batch (fun _ => hwf)

/-- **C11, second clause, cfer / cfer-batch** -/
theorem cfer_dropW (hA : LawfulArith A) (hex : A.exact = false) (batch : Bool) (s0 t t' : St α)
    (h0 : GStart A (cferQuota A s0) s0) (h : cferCount A batch s0 = some t) (h' : cferCount A batch (dropW s0) = some t') :
    t' = dropW t := by
  have hinit := CferInv.init A hA h0
  unfold cferCount at h h'
  rw [← (stepComm_dropW A).cferInit] at h'
  have h1 := loopN_fuel_mono (fun _ => true) (cferBody A batch) _ _ _ h' (2 * s0.cands.length + 3) (dropW_fuel_le s0 3)
  have h2 := loopN_dropW (CferInv A) (fun _ => true) (cferBody A batch)
    (fun s hs _ hc => hs.step A hA hex batch hc)
    (fun _ => rfl) (fun s hs => dropW_cferBody A batch hs.wf) (2 * s0.cands.length + 3) _ hinit
  rw [h, h1] at h2
  simpa using h2

end Droop
