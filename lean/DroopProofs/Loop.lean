import DroopModel.Gregory

/-! # The fuelled loop `loopN` and its induction principles

What relates a loop's start to what it returns (`loopN_rel`), what holds of the state it returns (`loopN_returns`), that it
returns at all (`loopN_terminates`), that a transformation commuting with the round commutes with the loop (`loopN_comm`),
and their immediate consequences; nothing here depends on the arithmetic. -/
namespace Droop
variable {α : Type} {guard : St α → Bool} {body : St α → St α × Flow}

/-- how a loop with fuel left returns: at once (crash flag up, or guard false), from a round that broke, or from
    the rest of the loop after a round that continued -/
theorem loopN_succ_cases {n : Nat} {s t : St α} (h : loopN guard body (n + 1) s = some t) :
    (t = s ∧ (s.crash.isSome = true ∨ guard s = false))
    ∨ (s.crash.isSome = false ∧ guard s = true ∧
        (body s = (t, .brk) ∨ ((body s).2 = .cont ∧ loopN guard body n (body s).1 = some t))) := by
  unfold loopN at h
  by_cases hc : s.crash.isSome = true
  · rw [if_pos hc] at h
    exact Or.inl ⟨(Option.some.inj h).symm, Or.inl hc⟩
  · rw [if_neg hc] at h
    by_cases hg : guard s = true
    · rw [if_pos hg] at h
      refine Or.inr ⟨by simpa using hc, hg, ?_⟩
      cases hb : body s with
      | mk s' fl =>
        rw [hb] at h
        cases fl with
        | cont => exact Or.inr ⟨rfl, h⟩
        | brk => exact Or.inl (by rw [← Option.some.inj h])
    · rw [if_neg hg] at h
      exact Or.inl ⟨(Option.some.inj h).symm, Or.inr (by simpa using hg)⟩

/-- a reflexive, transitive relation that holds across every round run under the round invariant `P` holds between the
    start of a loop and what it returns -/
theorem loopN_rel (P : St α → Prop) (R : St α → St α → Prop) (hrefl : ∀ s, R s s)
    (htrans : ∀ {s t u}, R s t → R t u → R s u)
    (hP : ∀ s, P s → guard s = true → (body s).2 = .cont → P (body s).1)
    (hR : ∀ s, P s → guard s = true → R s (body s).1) :
    ∀ (fuel : Nat) (s t : St α), P s → loopN guard body fuel s = some t → R s t := by
  intro fuel
  induction fuel with
  | zero => intro s t _ h; cases h
  | succ n ih =>
    intro s t hPs h
    rcases loopN_succ_cases h with ⟨rfl, _⟩ | ⟨_, hg, hb | ⟨hfl, hrest⟩⟩
    · exact hrefl _
    · have := hR s hPs hg
      rwa [hb] at this
    · exact htrans (hR s hPs hg) (ih _ _ (hP s hPs hg hfl) hrest)

/-- what a loop returns: a state where the round invariant `P` holds and the loop had to stop (crash flag, guard), or the
    result `Q` of a round that broke -/
theorem loopN_returns (P Q : St α → Prop) (guard : St α → Bool) (body : St α → St α × Flow)
    (hP : ∀ s, P s → guard s = true → (body s).2 = .cont → P (body s).1)
    (hQ : ∀ s, P s → guard s = true → (body s).2 = .brk → Q (body s).1) :
    ∀ (fuel : Nat) (s t : St α), P s → loopN guard body fuel s = some t →
      (P t ∧ (t.crash.isSome = true ∨ guard t = false)) ∨ Q t := by
  intro fuel
  induction fuel with
  | zero => intro s t _ h; cases h
  | succ n ih =>
    intro s t hPs h
    rcases loopN_succ_cases h with ⟨rfl, hstop⟩ | ⟨_, hg, hb | ⟨hfl, hrest⟩⟩
    · exact Or.inl ⟨hPs, hstop⟩
    · have := hQ s hPs hg (by rw [hb])
      rw [hb] at this
      exact Or.inr this
    · exact ih _ _ (hP s hPs hg hfl) hrest

/-- a loop returns if every round that continues lowers a measure `m` or raises the crash flag, and the fuel exceeds the
    measure by two (one for the round that breaks or finds the guard false, one because fuel 0 returns nothing) -/
theorem loopN_terminates (m : St α → Nat) (P : St α → Prop)
    (hP : ∀ s, P s → guard s = true → (body s).2 = .cont → P (body s).1)
    (hprog : ∀ s, P s → guard s = true → (body s).2 = .cont →
      m (body s).1 < m s ∨ (body s).1.crash.isSome = true) :
    ∀ (fuel : Nat) (s : St α), P s → 1 ≤ fuel → (s.crash.isSome = true ∨ m s + 2 ≤ fuel) →
      ∃ t, loopN guard body fuel s = some t := by
  intro fuel
  induction fuel with
  | zero => intro s _ h1 _; omega
  | succ n ih =>
    intro s hPs _ hm
    unfold loopN
    by_cases hc : s.crash.isSome = true
    · exact ⟨s, by rw [if_pos hc]⟩
    · rw [if_neg hc]
      by_cases hg : guard s = true
      · rw [if_pos hg]
        have hP' := hP s hPs hg
        have hpr := hprog s hPs hg
        cases hbody : body s with
        | mk s' fl =>
          rw [hbody] at hP' hpr
          cases fl with
          | brk => exact ⟨s', rfl⟩
          | cont =>
            have hmu : m s + 2 ≤ n + 1 := hm.resolve_left hc
            apply ih s' (hP' rfl) (by omega)
            rcases hpr rfl with h | h
            · right; simp only at h; omega
            · left; exact h
      · exact ⟨s, by rw [if_neg hg]⟩

/-- a transformation `T` of the state that leaves guard and crash flag alone and commutes with the round on every state
    satisfying the round invariant `P` commutes with the loop -/
theorem loopN_comm (T : St α → St α) (P : St α → Prop)
    (hP : ∀ s, P s → guard s = true → (body s).2 = .cont → P (body s).1)
    (hc : ∀ s, (T s).crash = s.crash) (hg : ∀ s, guard (T s) = guard s)
    (hb : ∀ s, P s → body (T s) = (T (body s).1, (body s).2)) :
    ∀ (fuel : Nat) (s : St α), P s → loopN guard body fuel (T s) = (loopN guard body fuel s).map T := by
  intro fuel
  induction fuel with
  | zero => intro s _; rfl
  | succ n ih =>
    intro s hPs
    unfold loopN
    rw [hc, hg, hb s hPs]
    by_cases hcr : s.crash.isSome = true
    · rw [if_pos hcr, if_pos hcr]; rfl
    · rw [if_neg hcr, if_neg hcr]
      by_cases hgs : guard s = true
      · rw [if_pos hgs, if_pos hgs]
        have hP' := hP s hPs hgs
        cases hbody : body s with
        | mk s' fl =>
          rw [hbody] at hP'
          cases fl with
          | cont => exact ih s' (hP' rfl)
          | brk => rfl
      · rw [if_neg hgs, if_neg hgs]; rfl

/-- more fuel does not change what the loop returns -/
theorem loopN_fuel_mono (guard : St α → Bool) (body : St α → St α × Flow) :
    ∀ (n : Nat) (s t : St α), loopN guard body n s = some t → ∀ m, n ≤ m → loopN guard body m s = some t := by
  intro n
  induction n with
  | zero => intro s t h; cases h
  | succ n ih =>
    intro s t h m hm
    obtain ⟨m', rfl⟩ : ∃ m', m = m' + 1 := ⟨m - 1, by omega⟩
    unfold loopN at h ⊢
    by_cases hc : s.crash.isSome = true
    · simp only [hc, if_true] at h ⊢; exact h
    · simp only [hc, Bool.false_eq_true, if_false] at h ⊢
      by_cases hg : guard s = true
      · simp only [hg, if_true] at h ⊢
        cases hb : body s with
        | mk s' fl =>
          rw [hb] at h
          cases fl with
          | cont => simp only at h ⊢; exact ih s' t h m' (by omega)
          | brk => exact h
      · simp only [hg, Bool.false_eq_true, if_false] at h ⊢; exact h

/-- an invariant of the rounds run under the guard holds of what the loop returns -/
theorem loopN_preserves_guard (P : St α → Prop) (guard : St α → Bool) (body : St α → St α × Flow)
    (hb : ∀ s, P s → guard s = true → P (body s).1) :
    ∀ (fuel : Nat) (s t : St α), P s → loopN guard body fuel s = some t → P t :=
  fun fuel s t hs h =>
    (loopN_returns P P guard body (fun s hs hg _ => hb s hs hg) (fun s hs hg _ => hb s hs hg) fuel s t hs h).elim (·.1) id

/-- when a loop whose rounds never break returns without the crash flag, the guard is false -/
theorem loopN_exit_guard (guard : St α → Bool) (body : St α → St α × Flow) (hnb : ∀ s, (body s).2 = .cont) :
    ∀ (fuel : Nat) (s t : St α), loopN guard body fuel s = some t → t.crash = none → guard t = false := by
  intro fuel s t h hcr
  rcases loopN_returns (fun _ => True) (fun _ => False) guard body (fun _ _ _ _ => trivial)
    (fun s _ _ hb => by rw [hnb s] at hb; cases hb) fuel s t trivial h with ⟨_, hc | hg⟩ | hf
  · rw [hcr] at hc; cases hc
  · exact hg
  · exact hf.elim

/-- a loop entered with the crash flag down and the guard false returns its start state -/
theorem loopN_guard_false (guard : St α → Bool) (body : St α → St α × Flow) (n : Nat) (s t : St α) (hc : s.crash = none)
    (hg : guard s = false) (h : loopN guard body (n + 1) s = some t) : t = s := by
  rcases loopN_succ_cases h with ⟨e, _⟩ | ⟨_, hg', _⟩
  · exact e
  · rw [hg] at hg'; cases hg'

/-- after the first round of a loop entered with the crash flag down and the guard true, `loopN_rel` for the rest: the
    relation holds between what that round leaves and what the loop returns -/
theorem loopN_first (P : St α → Prop) (R : St α → St α → Prop) (hrefl : ∀ s, R s s)
    (htrans : ∀ {s t u}, R s t → R t u → R s u)
    (hP : ∀ s, P s → guard s = true → (body s).2 = .cont → P (body s).1)
    (hR : ∀ s, P s → guard s = true → R s (body s).1)
    {n : Nat} {s t : St α} (hs : P s) (hc : s.crash = none) (hg : guard s = true)
    (h : loopN guard body (n + 1) s = some t) : R (body s).1 t := by
  rcases loopN_succ_cases h with ⟨_, hc' | hg'⟩ | ⟨_, _, hb | ⟨hfl, hrest⟩⟩
  · rw [hc] at hc'; cases hc'
  · rw [hg] at hg'; cases hg'
  · rw [hb]; exact hrefl t
  · exact loopN_rel P R hrefl htrans hP hR n _ t (hP s hs hg hfl) hrest

/-- the run of a main loop: rounds that continue keep `P` and lower the measure `m` or raise the crash flag, rounds that
    break leave `Q`; with fuel for the measure the loop returns, in a state where `P` holds and the loop had to stop, or `Q` -/
theorem loopN_run (m : St α → Nat) (P Q : St α → Prop) (guard : St α → Bool) (body : St α → St α × Flow)
    (hstep : ∀ s, P s → guard s = true →
      ((body s).2 = .cont → P (body s).1 ∧ (m (body s).1 < m s ∨ (body s).1.crash.isSome = true))
      ∧ ((body s).2 = .brk → Q (body s).1))
    (fuel : Nat) (s : St α) (hP : P s) (hfuel : m s + 2 ≤ fuel) :
    ∃ t, loopN guard body fuel s = some t ∧ ((P t ∧ (t.crash.isSome = true ∨ guard t = false)) ∨ Q t) := by
  obtain ⟨t, ht⟩ := loopN_terminates m P (fun s hs hg hc => ((hstep s hs hg).1 hc).1)
    (fun s hs hg hc => ((hstep s hs hg).1 hc).2) fuel s hP (by omega) (Or.inr hfuel)
  exact ⟨t, ht, loopN_returns P Q guard body (fun s hs hg hc => ((hstep s hs hg).1 hc).1)
    (fun s hs hg hc => (hstep s hs hg).2 hc) fuel s t hP ht⟩

end Droop
