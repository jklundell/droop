import DroopProofs.RunCommon

/-! # The round invariant of the Gregory drivers and the run of their main loop

`GInv`: the conservation bundle with "every elected candidate holds a quota", a forward-only record, the Droop condition
on the quota, and enough candidates left (hopeful + elected ≥ seats). Every rule keeps it round by round; `loopN_run` turns
"rounds that continue keep the invariant and lower `mu` or raise the crash flag" into "the loop returns, and what it returns
satisfies the invariant with the loop stopped, or the post-condition of the round that broke". -/
namespace Droop
variable {α : Type} [CommRing α] [LinearOrder α] [IsStrictOrderedRing α] (A : Arith α)

def GInv (s : St α) : Prop := InvE A s ∧ Mon s ∧ DroopQuota A s ∧ s.seats ≤ sumHE s

variable {A} in
theorem GInv.inv {s : St α} (h : GInv A s) : Inv A s := h.1.1
variable {A} in
theorem GInv.wf {s : St α} (h : GInv A s) : s.WF := h.1.1.wf

theorem GInv.elected_le {s : St α} (h : GInv A s) : nEl s ≤ s.seats := elected_le_seats A h.1.1 h.1.2 h.2.2.1

theorem GInv.newRound {s : St α} (h : GInv A s) : GInv A (s.newRound A) :=
  ⟨⟨h.1.1.newRound A, EHQ.newRound A h.1.2⟩, h.2.1.newRound A, h.2.2.1.of_frame A (frame_newRound A s),
    by rw [(frame_newRound A s).2.1, sumHE_newRound]; exact h.2.2.2⟩

/-- a step with the `GStep` facts that leaves enough candidates keeps the round invariant -/
theorem GInv.of_gstep {s t : St α} (h : GInv A s) (g : GStep A s t) (hS : s.seats ≤ sumHE t) : GInv A t :=
  ⟨⟨g.inv, g.ehq h.1.2⟩, g.mon h.2.1, h.2.2.1.of_frame A ⟨g.reach.quota, g.reach.seats, g.reach.nballots⟩,
    by rw [g.reach.seats]; exact hS⟩

theorem electWinners_list (hasQ : St α → Cand α → Bool) {s : St α} (hwf : s.WF)
    (hsound : ∀ c, hasQ s c = true → s.quota ≤ c.vote) :
    (((byVote A true s.hopeful).filter (hasQ s)).map (·.cid)).Nodup
    ∧ ∀ w ∈ (byVote A true s.hopeful).filter (hasQ s), w ∈ s.cands ∧ w.st = .hopeful ∧ s.quota ≤ w.vote :=
  ⟨(winners_spec A hwf hasQ).1, fun w hw =>
    ⟨((winners_spec A hwf hasQ).2 w hw).1, ((winners_spec A hwf hasQ).2 w hw).2.1, hsound w ((winners_spec A hwf hasQ).2 w hw).2.2⟩⟩

/-- the election step of every rule: whoever passes a sound quota test is elected -/
theorem GInv.electWinners {s : St α} (h : GInv A s) (hasQ : St α → Cand α → Bool) (pend : St α → Cand α → Bool)
    (verb : St α → Cand α → String) (hsound : ∀ c, hasQ s c = true → s.quota ≤ c.vote) :
    GInv A (Droop.electWinners A hasQ pend verb s) ∧ mu (Droop.electWinners A hasQ pend verb s) ≤ mu s
    ∧ sumHE (Droop.electWinners A hasQ pend verb s) = sumHE s := by
  have g := gstep_electWinners A h.1.1 hasQ pend verb hsound
  have hS := electWinners_sumHE A h.1.1 hasQ pend verb hsound
  exact ⟨h.of_gstep A g (by rw [hS]; exact h.2.2.2), g.mu, hS⟩

end Droop
