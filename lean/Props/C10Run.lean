import DroopProofs.CaseInitMeek
import DroopProofs.SplitB
import Props.Driver
/-!
# C10 at run level: the count does not depend on the order of the ballot lines, nor on how a multiplier is split over lines

`π` ranges over the *natural* permutations of lists (`NatPerm`: rearrangements of positions — they commute with `List.map` and
return a permutation of their argument; reversal, rotations, adjacent transpositions and their compositions are instances, and
adjacent transpositions generate every reordering).  Running a case with its ballot lines rearranged by `π` returns exactly the
state returned for the original case with its ballot list, and the ballot views logged with each action, rearranged by `π`:
every action, tally, quota, total, status and the winners are identical.  For the seven Gregory rule names there is no
hypothesis on the case (`gregory_ballot_order`); for meek and warren the rankings are strict (`meek_ballot_order`); meek-prf and
QPQ need nothing (`prf_ballot_order`, `qpq_ballot_order`).

The first count and `transferAll` are folds whose effect on the state is a sum of per-ballot effects that commute pairwise;
nothing else reads the ballot list.  For the Meek family, what one ballot credits depends on the state only through the keep
factors, which no credit changes; QPQ maps per-ballot functions over the list and folds commuting additions over it.

Splitting and merging through multipliers (`gregory_split`): replacing the `i`-th line `(m, r)` by the two lines `(min m₁ m, r)`
and `(m − min m₁ m, r)` gives exactly the state of the original case with that ballot, and its entry in every logged view,
duplicated; read from right to left (`splitLine_merge`) this is merging two adjacent identical lines.

Equal rankings, and the file-level presentation (comments, layout, nicknames) are decided by re-running the real
code (C10 check) and by the reader theorems of C15.
-/
namespace Droop.C10
open Droop

/-- the case with its ballot lines rearranged -/
def reorder (π : ∀ {β : Type}, List β → List β) (c : Case) : Case := { c with ballots := π c.ballots }

theorem initState_reorder {α : Type} [CommRing α] [LinearOrder α] [IsStrictOrderedRing α] (A : Arith α)
    {π : ∀ {β : Type}, List β → List β} (hπ : NatPerm π) (c : Case) :
    initState A (reorder π c) = permB π (initState A c) := by
  unfold initState reorder permB xB
  simp only [List.map_nil, hπ.nat]

theorem runRuleSt'_reorder {α : Type} (A : Arith α) (π : ∀ {β : Type}, List β → List β) (c : Case) (s0 : St α) :
    runRuleSt' A (reorder π c) s0 = runRuleSt' A c s0 := rfl

theorem runRuleSt_reorder {α : Type} [CommRing α] [LinearOrder α] [IsStrictOrderedRing α] (A : Arith α)
    {π : ∀ {β : Type}, List β → List β} (hπ : NatPerm π) (c : Case) :
    runRuleSt A (reorder π c) = runRuleSt' A c (permB π (initState A c)) := by
  unfold runRuleSt
  rw [runRuleSt'_reorder, initState_reorder A hπ]

theorem gregory_xB (p : Nat) (c : Case)
    (hr : c.rule ∈ ["wigm", "wigm-prf", "wigm-prf-batch", "scotland", "cfer", "cfer-batch", "mpls"])
    {fb : List (Ballot Int) → List (Ballot Int)} {fw : List (Nat × Int) → List (Nat × Int)} (hx : XF (fixedArith p) fb fw)
    (s0 : St Int) :
    runRuleSt' (fixedArith p) c (xB fb fw s0) = (runRuleSt' (fixedArith p) c s0).map (xB fb fw) := by
  simp only [List.mem_cons, List.not_mem_nil, or_false] at hr
  rcases hr with hr | hr | hr | hr | hr | hr | hr
  · simp only [runRuleSt', hr]; exact wigm_xB (fixedArith p) (fixed_lawful p) hx _ s0
  · simp only [runRuleSt', hr]; exact wigm_xB (fixedArith p) (fixed_lawful p) hx _ s0
  · simp only [runRuleSt', hr]; exact wigm_xB (fixedArith p) (fixed_lawful p) hx _ s0
  · simp only [runRuleSt', hr]; exact scot_xB (fixedArith p) (fixed_lawful p) hx s0
  · simp only [runRuleSt', hr]; exact cfer_xB (fixedArith p) (fixed_lawful p) hx false s0
  · simp only [runRuleSt', hr]; exact cfer_xB (fixedArith p) (fixed_lawful p) hx true s0
  · simp only [runRuleSt', hr]; exact mpls_xB (fixedArith p) (fixed_lawful p) hx s0

/-- **the order of the ballot lines is irrelevant, all seven Gregory rule names** (wigm in every configuration, wigm-prf,
    wigm-prf-batch, scotland, cfer, cfer-batch, mpls) — no hypothesis on the case -/
theorem gregory_ballot_order (p : Nat) (c : Case)
    (hr : c.rule ∈ ["wigm", "wigm-prf", "wigm-prf-batch", "scotland", "cfer", "cfer-batch", "mpls"])
    {π : ∀ {β : Type}, List β → List β} (hπ : NatPerm π) :
    runRuleSt (fixedArith p) (reorder π c) = (runRuleSt (fixedArith p) c).map (permB π) := by
  rw [runRuleSt_reorder (fixedArith p) hπ]
  exact gregory_xB p c hr (XF_of_natPerm (fixedArith p) (fixed_lawful p) hπ) _

theorem wigm_ballot_order (p : Nat) (c : Case) (hr : c.rule = "wigm" ∨ c.rule = "wigm-prf" ∨ c.rule = "wigm-prf-batch")
    {π : ∀ {β : Type}, List β → List β} (hπ : NatPerm π) :
    runRuleSt (fixedArith p) (reorder π c) = (runRuleSt (fixedArith p) c).map (permB π) :=
  gregory_ballot_order p c (by rcases hr with hr | hr | hr <;> simp [hr]) hπ

/-- meek and warren: every case with strict rankings inside `caseOK`, every fixed-point precision, every omega and both
    settings of `defeat_batch` -/
theorem meek_ballot_order (p : Nat) (c : Case) (hr : c.rule = "meek" ∨ c.rule = "warren") (hok : caseOK c = true)
    {π : ∀ {β : Type}, List β → List β} (hπ : NatPerm π) :
    runRuleSt (fixedArith p) (reorder π c) = (runRuleSt (fixedArith p) c).map (permB π) := by
  have hk := caseOK_iff c hok
  have hm : methodOf c.rule = .meek := by rcases hr with hr | hr <;> rw [hr] <;> rfl
  have h0 := initState_minit (fixedArith p) (fixed_lawful p) c hm hk
  rw [runRuleSt_reorder (fixedArith p) hπ]
  unfold runRuleSt
  have hx := XMeek_of_natPerm (fixedArith p) (fixed_lawful p) hπ
  rcases hr with hr | hr
  · simp only [runRuleSt', hr]
    exact meek_xB (fixedArith p) (fixed_lawful p) rfl hx _ _ _ h0
  · simp only [runRuleSt', hr]
    exact meek_xB (fixedArith p) (fixed_lawful p) rfl hx _ _ _ h0

theorem prf_ballot_order (p : Nat) (c : Case) (hr : c.rule = "meek-prf")
    {π : ∀ {β : Type}, List β → List β} (hπ : NatPerm π) :
    runRuleSt (fixedArith p) (reorder π c) = (runRuleSt (fixedArith p) c).map (permB π) := by
  rw [runRuleSt_reorder (fixedArith p) hπ]
  unfold runRuleSt
  simp only [runRuleSt', hr]
  exact prf_xB (fixedArith p) (XPrf_of_natPerm (fixedArith p) (fixed_lawful p) hπ) _ _

/-- QPQ: every lawful arithmetic (in particular the guarded arithmetic the rule forces, and fixed-point) -/
theorem qpq_ballot_order {α : Type} [CommRing α] [LinearOrder α] [IsStrictOrderedRing α] (A : Arith α) (hA : LawfulArith A)
    (c : Case) (hr : c.rule = "qpq") {π : ∀ {β : Type}, List β → List β} (hπ : NatPerm π) :
    runRuleSt A (reorder π c) = (runRuleSt A c).map (permB π) := by
  rw [runRuleSt_reorder A hπ]
  unfold runRuleSt
  simp only [runRuleSt', hr]
  exact qpq_xB A hA (XQ_of_natPerm A hA hπ) _

/-- the deployed instance: guarded arithmetic with any precision and guard -/
theorem qpq_ballot_order_guarded (p g : Nat) (c : Case) (hr : c.rule = "qpq") {π : ∀ {β : Type}, List β → List β} (hπ : NatPerm π) :
    runRuleSt (guardedArith p g) (reorder π c) = (runRuleSt (guardedArith p g) c).map (permB π) :=
  qpq_ballot_order (guardedArith p g) (guarded_lawful p g) c hr hπ

/-- the case with its `i`-th ballot line `(m, r)` replaced by the two lines `(min m1 m, r)` and `(m - min m1 m, r)` -/
def splitLine (i m1 : Nat) (c : Case) : Case :=
  { c with ballots := c.ballots.take i ++ (match c.ballots.drop i with
      | (m, r) :: rest => (min m1 m, r) :: (m - min m1 m, r) :: rest
      | [] => []) }

/-- merging: a case with two adjacent lines carrying the same ranking is the split of the case with the single merged line -/
theorem splitLine_merge (c : Case) (pre rest : List (Nat × List Nat)) (m1 m2 : Nat) (r : List Nat)
    (hb : c.ballots = pre ++ (m1 + m2, r) :: rest) :
    (splitLine pre.length m1 c).ballots = pre ++ (m1, r) :: (m2, r) :: rest := by
  unfold splitLine
  simp only [hb, List.take_left', List.drop_left']
  have h1 : min m1 (m1 + m2) = m1 := by omega
  have h2 : m1 + m2 - m1 = m2 := by omega
  rw [h1, h2]

theorem initState_splitLine {α : Type} [CommRing α] [LinearOrder α] [IsStrictOrderedRing α] (A : Arith α)
    (i m1 : Nat) (c : Case) :
    initState A (splitLine i m1 c) = xB (splitBallots i m1) (splitViews i) (initState A c) := by
  unfold initState splitLine xB splitBallots splitOne
  simp only [List.map_nil, List.map_append]
  rw [← List.map_take, ← List.map_drop]
  congr 2
  cases c.ballots.drop i with
  | nil => rfl
  | cons b r => obtain ⟨m, rk⟩ := b; rfl

theorem runRuleSt'_splitLine {α : Type} (A : Arith α) (i m1 : Nat) (c : Case) (s0 : St α) :
    runRuleSt' A (splitLine i m1 c) s0 = runRuleSt' A c s0 := rfl

/-- **splitting a ballot line through its multiplier changes nothing, all seven Gregory rule names** — the result is the result
    of the original case with that ballot (and its entry in each logged view) duplicated; candidates, tallies, quota, totals,
    actions, statuses and winners are the same -/
theorem gregory_split (p : Nat) (c : Case)
    (hr : c.rule ∈ ["wigm", "wigm-prf", "wigm-prf-batch", "scotland", "cfer", "cfer-batch", "mpls"]) (i m1 : Nat) :
    runRuleSt (fixedArith p) (splitLine i m1 c)
      = (runRuleSt (fixedArith p) c).map (xB (splitBallots i m1) (splitViews i)) := by
  have hx := XF_split (fixedArith p) (fixed_lawful p) i m1
  have h1 : runRuleSt (fixedArith p) (splitLine i m1 c)
      = runRuleSt' (fixedArith p) c (xB (splitBallots i m1) (splitViews i) (initState (fixedArith p) c)) := by
    unfold runRuleSt
    rw [runRuleSt'_splitLine, initState_splitLine (fixedArith p)]
  rw [h1]
  exact gregory_xB p c hr hx _

theorem xB_split_same {α : Type} (i m1 : Nat) (s : St α) :
    let t := xB (splitBallots i m1) (splitViews i) s
    t.cands = s.cands ∧ t.quota = s.quota ∧ t.votes = s.votes ∧ t.exhausted = s.exhausted ∧ t.residual = s.residual
      ∧ t.surplus = s.surplus ∧ t.round = s.round ∧ t.crash = s.crash
      ∧ t.acts.map (fun a => (a.tag, a.round, a.verb, a.subj, a.snap, a.val)) = s.acts.map (fun a => (a.tag, a.round, a.verb, a.subj, a.snap, a.val)) := by
  refine ⟨rfl, rfl, rfl, rfl, rfl, rfl, rfl, rfl, ?_⟩
  simp only [xB, List.map_map]; rfl

/-- non-vacuity: splitting the first line (2 × [1,2]) of the sample into 1 + 1 -/
example : (splitLine 0 1 Driver.sample).ballots = [(1, [1, 2]), (1, [1, 2]), (1, [2])] := by decide

theorem natPerm_id : NatPerm (fun {β : Type} (l : List β) => l) := ⟨fun _ _ => rfl, fun l => List.Perm.refl l⟩

theorem natPerm_reverse : NatPerm (fun {β : Type} (l : List β) => l.reverse) :=
  ⟨fun _ _ => (List.map_reverse).symm, fun l => List.reverse_perm l⟩

theorem natPerm_rotate (n : Nat) : NatPerm (fun {β : Type} (l : List β) => l.rotate n) :=
  ⟨fun f l => (List.map_rotate f l n).symm, fun l => List.rotate_perm l n⟩

theorem natPerm_comp {π ρ : ∀ {β : Type}, List β → List β} (h1 : NatPerm π) (h2 : NatPerm ρ) :
    NatPerm (fun {β : Type} (l : List β) => π (ρ l)) :=
  ⟨fun f l => by rw [h2.nat, h1.nat], fun l => (h1.perm _).trans (h2.perm l)⟩

/-- exchange the entries at positions `i` and `i+1` -/
def swapAt (i : Nat) {β : Type} (l : List β) : List β :=
  l.take i ++ (match l.drop i with
               | a :: b :: r => b :: a :: r
               | r => r)

theorem natPerm_swapAt (i : Nat) : NatPerm (fun {β : Type} (l : List β) => swapAt i l) := by
  constructor
  · intro β γ f l
    unfold swapAt
    rw [List.map_append, ← List.map_take, ← List.map_drop]
    congr 1
    cases l.drop i with
    | nil => rfl
    | cons a r => cases r with
      | nil => rfl
      | cons b r' => rfl
  · intro β l
    unfold swapAt
    conv_rhs => rw [← List.take_append_drop i l]
    apply List.Perm.append_left
    cases l.drop i with
    | nil => exact List.Perm.refl _
    | cons a r => cases r with
      | nil => exact List.Perm.refl _
      | cons b r' => exact List.Perm.swap _ _ _

/-- non-vacuity: reversing the ballot lines of a concrete case -/
example : (reorder (fun {β : Type} (l : List β) => l.reverse) Driver.sample).ballots = [(1, [2]), (2, [1, 2])] := rfl

end Droop.C10

namespace Droop.C10
/-- non-vacuity: the sample profile counted under meek is inside the domain of `meek_ballot_order` -/
example : caseOK { Driver.sample with rule := "meek" } = true := by decide
end Droop.C10
