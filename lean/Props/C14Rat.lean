import Props.C14Prog
/-!
# C14: `Rational.__str__`, obtained from the source by symbolic execution

`harness/gen_rstr.py` splits `Rational.__str__` into the computation of the display units (`v`: an integer count of 10^-dp) and the formatting
of `v`; the first part is executed over a small language of rational and integer terms (`self`, `Rational._dpr`, `+`, `.numerator`,
`.denominator`, `Rational._dps`, `*`, `//`), the second with the executor of `gen_str.py`.  It also checks that `initialize` assigns
`_dps = 10 ** dp` and `_dpr = Fraction(1, _dps * 2)`.  Both programs are kernel-checked equal to the ones committed here on every C14 run;
`rational_str_is_program` proves that their composition is the model's `strRational` for every display precision and every rational value.
-/
namespace Droop.C14
open Droop

inductive QE | self | dpr | add (a b : QE)
deriving DecidableEq, Repr
inductive ZE | num (q : QE) | den (q : QE) | dps | lit (n : Int) | mul (a b : ZE) | floordiv (a b : ZE)
deriving DecidableEq, Repr
inductive UB | eq (a b : ZE) | or (p q : UB)
deriving DecidableEq, Repr
inductive UP | ret (z : ZE) | ite (c : UB) (t e : UP)
deriving DecidableEq, Repr

/-- `Fraction(1, cls._dps * 2)` with `_dps = 10 ** dp` -/
def dprOf (dp : Nat) : ℚ := (1 : ℚ) / ((pow10 dp * 2 : Int) : ℚ)

def QE.eval (dp : Nat) (q : ℚ) : QE → ℚ
  | .self => q | .dpr => dprOf dp | .add a b => a.eval dp q + b.eval dp q

def ZE.eval (dp : Nat) (q : ℚ) : ZE → Int
  | .num x => (x.eval dp q).num
  | .den x => ((x.eval dp q).den : Int)
  | .dps => pow10 dp
  | .lit n => n
  | .mul a b => a.eval dp q * b.eval dp q
  | .floordiv a b => pdiv (a.eval dp q) (b.eval dp q)

def UB.eval (dp : Nat) (q : ℚ) : UB → Bool
  | .eq a b => decide (a.eval dp q = b.eval dp q)
  | .or p r => p.eval dp q || r.eval dp q

def UP.eval (dp : Nat) (q : ℚ) : UP → Int
  | .ret z => z.eval dp q
  | .ite c t e => if c.eval dp q then t.eval dp q else e.eval dp q

def rationalUnitsProg : UP :=
  .ite (.or (.eq (.num .self) (.lit 0)) (.eq (.den .self) (.lit 1))) (.ret (.mul (.num .self) .dps))
    (.ret (.floordiv (.mul (.num (.add .self .dpr)) .dps) (.den (.add .self .dpr))))

def rationalRenderProg : SP :=
  .ite (.lt .v (.lit 0)) (.ret (.cat (.lit "-") (two (.neg .v)))) (.ret (two .v))

/-- `_dps = 10 ** dp`, `_dfmt = "%d.%0<dp>d"` -/
def rationalEnv (dp : Nat) : Env where
  attr := fun
    | .scaled => pow10 dp
    | _ => 0
  w1 := dp
  w2 := 0

/-- the units part is the model's `rationalUnits` -/
theorem rational_units_is_program (dp : Nat) (q : ℚ) : rationalUnitsProg.eval dp q = rationalUnits dp q := by
  have key : pdiv ((q + dprOf dp).num * pow10 dp) ((q + dprOf dp).den : Int)
      = ((q + (1 : ℚ) / ((pow10 dp * 2 : Int) : ℚ)) * (pow10 dp : ℚ)).floor := by
    set x : ℚ := q + dprOf dp with hx
    have hden : ((x.den : Int)) ≠ 0 := by exact_mod_cast x.den_nz
    rw [pdiv_eq_floor _ _ hden]
    show _ = ⌊(q + (1 : ℚ) / ((pow10 dp * 2 : Int) : ℚ)) * (pow10 dp : ℚ)⌋
    congr 1
    have : (q + (1 : ℚ) / ((pow10 dp * 2 : Int) : ℚ)) = x := rfl
    rw [this]
    push_cast
    have hxx : (x.num : ℚ) / (x.den : ℚ) = x := Rat.num_div_den x
    rw [mul_div_right_comm, hxx]
  unfold rationalUnits
  simp only [rationalUnitsProg, UP.eval, UB.eval, ZE.eval, QE.eval]
  by_cases h0 : q.num = 0
  · simp [h0]
  · by_cases h1 : q.den = 1
    · simp [h1]
    · have h1' : ¬ ((q.den : Int) = 1) := by exact_mod_cast h1
      have hR : (q.num == 0 || q.den == 1) = false := by simp [h0, h1]
      simp only [h0, h1', decide_false, Bool.or_self, Bool.false_eq_true, if_false, hR]
      exact key

/-- the formatting part is the model's `renderUnits` -/
theorem rational_render_is_program (dp : Nat) (v : Int) : rationalRenderProg.eval (rationalEnv dp) v = renderUnits dp v := by
  simp only [rationalRenderProg, SP.eval, BE.eval, IE.eval]
  by_cases hu : v < 0
  · simp only [hu, decide_true, if_true, SE.eval, two, IE.eval, rationalEnv]
    rw [renderUnits_neg _ _ hu]
  · simp only [hu, decide_false, Bool.false_eq_true, if_false, SE.eval, two, IE.eval, rationalEnv]
    rw [renderUnits_nonneg _ _ hu]

/-- **`Rational.__str__` as read from the source is the model's `strRational`** -/
theorem rational_str_is_program (dp : Nat) (q : ℚ) :
    rationalRenderProg.eval (rationalEnv dp) (rationalUnitsProg.eval dp q) = strRational dp q := by
  rw [rational_render_is_program, rational_units_is_program]
  rfl

end Droop.C14
