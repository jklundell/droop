import DroopProofs.CaseInitMeek
import DroopProofs.PrfMon
import Props.C01
import DroopProofs
/-!
# C09 — candidate status only moves forward (Scottish rule, cfer, meek, warren, meek-prf)

`Mon t` (`RecMon (snaps t.acts)`): between any two consecutive snapshots of the record every candidate's status code is
unchanged or moves H → e → E, H → E or H → D; W never changes (`fwd`).  `Ext s0 t`: the log is append-only, so what was
recorded stays recorded.  QPQ un-elects at a restart, so its statement is a different one (`Props/QpqRun.lean`).
-/
namespace Droop.C09
open Droop

theorem scotland_record_monotone (p : Nat) (s0 t : St Int) (h0 : ScotStart (fixedArith p) s0)
    (h : scotCount (fixedArith p) s0 = some t) : Mon t ∧ Ext s0 t :=
  scot_record_monotone _ (fixed_lawful p) rfl s0 t h0 h

theorem scotland_elected_le_seats (p : Nat) (s0 s4 : St Int) (h0 : ScotStart (fixedArith p) s0)
    (hl : loopN (fun _ => true) (scotBody (fixedArith p)) (2 * s0.cands.length + 3) (scotInit (fixedArith p) s0) = some s4) :
    s4.elected.length ≤ s4.seats :=
  scot_loop_elected_le_seats _ (fixed_lawful p) rfl s0 s4 h0 hl

/-- the forward relation is what the property says: no way back from D or E, nothing leaves W -/
example : fwd "D" "H" = false ∧ fwd "E" "H" = false ∧ fwd "E" "e" = false ∧ fwd "W" "H" = false ∧ fwd "D" "E" = false
    ∧ fwd "H" "e" = true ∧ fwd "e" "E" = true ∧ fwd "H" "D" = true := by decide

/-- cfer / cfer-batch: the whole record is forward-only and append-only -/
theorem cfer_record_monotone (p : Nat) (batch : Bool) (s0 t : St Int) (hinit : Init (fixedArith p) s0)
    (hfresh : ∀ c ∈ s0.cands, c.st ≠ .elected) (henough : s0.seats ≤ nHop s0) (hround : s0.round = 0)
    (h : cferCount (fixedArith p) batch s0 = some t) : Mon t ∧ Ext s0 t := by
  have := cfer_result _ (fixed_lawful p) rfl batch s0 t (C01.cfer_start p s0 hinit hfresh henough hround) h
  exact ⟨this.1, this.2.1⟩

/-- meek / warren: the record of whatever the count returns is forward-only (every case with strict rankings inside `caseOK`,
    every precision, omega and `defeat_batch` setting) -/
theorem meek_record_forward (p : Nat) (c : Case) (hr : c.rule = "meek" ∨ c.rule = "warren") (hok : caseOK c = true)
    (t : St Int) (h : runRuleSt (fixedArith p) c = some t) : Mon t ∧ Ext (initState (fixedArith p) c) t := by
  have hk := caseOK_iff c hok
  have hm : methodOf c.rule = .meek := by rcases hr with hr | hr <;> rw [hr] <;> rfl
  have h0 := initState_minit (fixedArith p) (fixed_lawful p) c hm hk
  have hc : ∃ o, meekCount (fixedArith p) o 100000 (initState (fixedArith p) c) = some t := by
    unfold runRuleSt at h
    rcases hr with hr | hr <;> simp only [runRuleSt', hr] at h <;> exact ⟨_, h⟩
  obtain ⟨o, h⟩ := hc
  exact ⟨meek_record_monotone (fixedArith p) (fixed_lawful p) rfl _ _ _ t h0 h,
    meek_record_appendOnly (fixedArith p) (fixed_lawful p) rfl _ _ _ t h0 h⟩

/-- meek-prf: the record of whatever the count returns is forward-only (every case with distinct candidate ids) -/
theorem prf_record_forward (p : Nat) (c : Case) (hr : c.rule = "meek-prf") (hnd : (c.cands.map (·.1)).Nodup)
    (t : St Int) (h : runRuleSt (fixedArith p) c = some t) : Mon t := by
  unfold runRuleSt at h
  simp only [runRuleSt', hr] at h
  have hwf : (initState (fixedArith p) c).WF := by unfold St.WF; rw [initState_cids]; exact hnd
  exact prf_record_monotone (fixedArith p) (fixed_lawful p) _ _ t rfl hwf h

end Droop.C09
