import DroopModel
import DroopProofs
/-!
# C18 — the record is a faithful audit trail; every dump row has the header's column count

* `elect` / `defeat` change the status of exactly the named candidate and log exactly one action, whose snapshot is
  taken *after* the change (so the action names a candidate whose status differs from the previous snapshot);
* a `log` action carries no snapshot; the record only grows (`wigmCount_appendOnly`);
* in the dump (compared byte for byte with `ElectionRecord.dump()` on every C18 run) every row that carries a
  snapshot has exactly as many fields as the header, and message rows have three.
-/
namespace Droop.C18
open Droop
variable {α : Type}

/-- `upd` touches the candidate with the given id only -/
theorem upd_others_unchanged (s : St α) (cid : Nat) (f : Cand α → Cand α) :
    (s.upd cid f).cands = s.cands.map (fun c => if c.cid == cid then f c else c) := rfl

/-- electing logs one `elect` action naming the candidate; its snapshot is the state after the change -/
theorem elect_logs (A : Arith α) (s : St α) (cid : Nat) (verb : String) (p : Bool) :
    (s.elect A cid verb p).acts =
      { tag := "elect", round := s.round, verb := verb, subj := [cid],
        snap := some ((s.upd cid (fun c => { c with st := .elected, pending := p })).mkSnap A),
        ws := s.ballots.map (fun b => (b.idx, b.w)) } :: s.acts := rfl

theorem defeat_logs (A : Arith α) (s : St α) (cid : Nat) (verb : String) :
    (s.defeat A cid verb).acts =
      { tag := "defeat", round := s.round, verb := verb, subj := [cid],
        snap := some ((s.upd cid (fun c => { c with st := .defeated })).mkSnap A),
        ws := s.ballots.map (fun b => (b.idx, b.w)) } :: s.acts := rfl

/-- in the snapshot logged by `elect`, the named candidate is shown elected and every other candidate as before -/
theorem elect_snapshot (A : Arith α) (s : St α) (cid : Nat) (p : Bool) :
    ((s.upd cid (fun c => { c with st := .elected, pending := p })).mkSnap A).cs =
      s.cands.map (fun c => if c.cid == cid
        then (c.cid, ({ c with st := CState.elected, pending := p } : Cand α).code s.method, c.vote, c.kf, c.quotient)
        else (c.cid, c.code s.method, c.vote, c.kf, c.quotient)) := by
  unfold St.mkSnap St.upd
  simp only [List.map_map]
  exact List.map_congr_left fun c _ => by by_cases h : c.cid = cid <;> simp [h]

theorem defeat_snapshot (A : Arith α) (s : St α) (cid : Nat) :
    ((s.upd cid (fun c => { c with st := .defeated })).mkSnap A).cs =
      s.cands.map (fun c => if c.cid == cid
        then (c.cid, "D", c.vote, c.kf, c.quotient)
        else (c.cid, c.code s.method, c.vote, c.kf, c.quotient)) := by
  unfold St.mkSnap St.upd
  simp only [List.map_map]
  exact List.map_congr_left fun c _ => by by_cases h : c.cid = cid <;> simp [h, Cand.code]

/-- a `log` action has no snapshot and changes nothing but the record -/
theorem logMsg_spec (s : St α) (verb : String) (subj : List Nat) (v : Option α) :
    (s.logMsg verb subj v).acts = { tag := "log", round := s.round, verb, subj, snap := none, ws := [], val := v } :: s.acts
    ∧ (s.logMsg verb subj v).cands = s.cands := ⟨rfl, rfl⟩

theorem flatMap_length_const {β γ : Type} (l : List β) (f : β → List γ) (k : Nat) (h : ∀ x ∈ l, (f x).length = k) :
    (l.flatMap f).length = l.length * k := by
  induction l with
  | nil => simp
  | cons x xs ih =>
    simp only [List.flatMap_cons, List.length_append, List.length_cons]
    rw [ih (fun y hy => h y (by simp [hy])), h x (by simp)]
    ring

def perCand : Method → Nat
  | .wigm => 3 | .meek => 4 | .qpq => 3
def perHead : Method → Nat
  | .wigm => 4 | .meek => 6 | .qpq => 3

theorem dumpHeader_length (m : Method) (ecids : List Nat) :
    (dumpHeader m ecids).length = perHead m + ecids.length * perCand m := by
  unfold dumpHeader
  simp only [List.length_append]
  rw [flatMap_length_const ecids _ (perCand m) (by intro x _; cases m <;> rfl)]
  cases m <;> simp [perHead]

/-- **every dump row that carries a snapshot has the header's column count** (when the snapshot lists every eligible
    candidate, which `mkSnap` does: it lists all candidates) -/
theorem dumpRow_length (strV : α → String) (name : Nat → String) (m : Method) (ecids : List Nat) (a : Act α) (sn : Snap α)
    (hs : a.snap = some sn) (htag : (a.tag == "round" || a.tag == "iterate") = false)
    (hall : ∀ cid ∈ ecids, (sn.cs.find? (fun e => e.1 == cid)).isSome) :
    (dumpRow strV name m ecids a).length = (dumpHeader m ecids).length := by
  rw [dumpHeader_length]
  unfold dumpRow
  simp only [hs, htag, Bool.false_eq_true, if_false, List.length_append]
  rw [flatMap_length_const ecids _ (perCand m)]
  · cases m <;> simp [perHead]
  · intro cid hc
    have := hall cid hc
    cases hf : sn.cs.find? (fun e => e.1 == cid) with
    | none => rw [hf] at this; cases this
    | some e =>
      obtain ⟨c1, code, v, kf, q⟩ := e
      cases m <;> rfl

/-- message rows (`round`, `iterate`, `log`) have three fields -/
theorem dumpRow_message_length (strV : α → String) (name : Nat → String) (m : Method) (ecids : List Nat) (a : Act α)
    (h : a.snap = none ∨ (a.tag == "round" || a.tag == "iterate") = true) :
    (dumpRow strV name m ecids a).length = 3 := by
  unfold dumpRow
  cases hs : a.snap with
  | none => rfl
  | some sn =>
    rcases h with h | h
    · rw [hs] at h; cases h
    · simp only [h, if_true]; rfl

end Droop.C18
