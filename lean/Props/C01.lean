import DroopProofs.QpqTerm
import Props.C02
import DroopProofs
/-!
# C01 — every count terminates with the seats filled and every candidate decided

Under fixed-point arithmetic of any precision, for every start state the rule can be handed (`ScotStart` / `GStart`: any number
of candidates, ballots, seats; any ballot contents): the Scottish, CfER, wigm (every configuration except `defeat_batch=zero`)
and Minneapolis (no undeclared write-ins; with them: finding F7) counts return, and unless the crash flag was raised exactly
`seats` candidates are elected and nobody is left hopeful.  For QPQ: the count returns.  The Meek family is not covered here.
-/
namespace Droop.C01
open Droop

theorem scotland_terminates (p : Nat) (s0 : St Int) (h0 : ScotStart (fixedArith p) s0) :
    ∃ t, scotCount (fixedArith p) s0 = some t :=
  scotCount_terminates _ (fixed_lawful p) rfl s0 h0

theorem scotland_seats_filled (p : Nat) (s0 : St Int) (h0 : ScotStart (fixedArith p) s0) :
    ∃ t, scotCount (fixedArith p) s0 = some t ∧ (t.crash = none → nEl t = t.seats ∧ nHop t = 0) :=
  scot_seats_filled _ (fixed_lawful p) rfl s0 h0

/-- "elected or defeated, never both, withdrawn untouched": with no hopeful candidate left, every candidate's status is
    one of elected, defeated, withdrawn -/
theorem decided_of_no_hopeful {α : Type} [CommRing α] [LinearOrder α] [IsStrictOrderedRing α] (t : St α) (h : nHop t = 0) :
    ∀ c ∈ t.cands, c.st = .elected ∨ c.st = .defeated ∨ c.st = .withdrawn := by
  intro c hc
  cases hs : c.st with
  | hopeful =>
    exfalso
    have : c ∈ t.hopeful := mem_hopeful.2 ⟨hc, hs⟩
    unfold nHop at h
    have := List.length_pos_of_mem this
    omega
  | elected => exact Or.inl rfl
  | defeated => exact Or.inr (Or.inl rfl)
  | withdrawn => exact Or.inr (Or.inr rfl)

/-- non-vacuity: the two-candidate profile of `Props/C02` is a legitimate start -/
example : ScotStart (fixedArith 4) C02.tiny :=
  ⟨C02.tiny_init, by decide, by intro c hc; simp [C02.tiny] at hc; rcases hc with rfl | rfl <;> simp, by decide⟩

/-- the CfER threshold under fixed-point arithmetic: `⌊n·10^p / (s+1)⌋ + 1` in units of `10^-p` -/
theorem cferQuota_fixed (p : Nat) (s0 : St Int) :
    cferQuota (fixedArith p) s0
      = pdiv ((s0.nballots : Int) * pow10 p * pow10 p) ((((s0.seats + 1 : Nat)) : Int) * pow10 p) + 1 := by
  have hS := pow10_pos p
  have h1 : ¬ (((s0.seats : Int) + 1 = 0) ∨ pow10 p = 0) := by
    intro h; rcases h with h | h <;> omega
  simp [cferQuota, fixedArith, h1]

theorem cfer_start (p : Nat) (s0 : St Int) (hinit : Init (fixedArith p) s0) (hfresh : ∀ c ∈ s0.cands, c.st ≠ .elected)
    (henough : s0.seats ≤ nHop s0) (hround : s0.round = 0) : GStart (fixedArith p) (cferQuota (fixedArith p) s0) s0 := by
  have hS := pow10_pos p
  have hk : (0 : Int) < ((s0.seats + 1 : Nat) : Int) := by exact_mod_cast Nat.succ_pos s0.seats
  refine ⟨hinit, ?_, hfresh, henough, hround, ?_⟩
  · rw [cferQuota_fixed]
    have : 0 ≤ pdiv ((s0.nballots : Int) * pow10 p * pow10 p) (((s0.seats + 1 : Nat) : Int) * pow10 p) :=
      pdiv_nonneg _ _ (by positivity) (by positivity)
    omega
  · rw [cferQuota_fixed]
    have := fixed_droopQuota p s0.nballots s0.seats
    simpa [fixedArith] using this

theorem cfer_seats_filled_fixed (p : Nat) (batch : Bool) (s0 : St Int) (hinit : Init (fixedArith p) s0)
    (hfresh : ∀ c ∈ s0.cands, c.st ≠ .elected) (henough : s0.seats ≤ nHop s0) (hround : s0.round = 0) :
    ∃ t, cferCount (fixedArith p) batch s0 = some t ∧ (t.crash = none → nEl t = t.seats ∧ nHop t = 0) :=
  cfer_seats_filled _ (fixed_lawful p) rfl batch s0 (cfer_start p s0 hinit hfresh henough hround)

example : GStart (fixedArith 4) (cferQuota (fixedArith 4) C02.tiny) C02.tiny :=
  cfer_start 4 C02.tiny C02.tiny_init (by intro c hc; simp [C02.tiny] at hc; rcases hc with rfl | rfl <;> simp) (by decide) rfl

theorem wigmQuota_fixed (p : Nat) (o : WigmOpts) (s0 : St Int) :
    wigmQuota (fixedArith p) o s0 =
      if o.prf = false ∧ o.integerQuota = true then (1 + pdiv s0.nballots (s0.seats + 1)) * pow10 p
      else cferQuota (fixedArith p) s0 := by
  unfold wigmQuota
  by_cases hp : o.prf = true
  · simp [hp, cferQuota]
  · by_cases hi : o.integerQuota = true
    · simp [hp, hi, fixedArith]
    · simp [hp, hi, cferQuota, fixedArith]

theorem wigm_start (p : Nat) (o : WigmOpts) (s0 : St Int) (hinit : Init (fixedArith p) s0)
    (hfresh : ∀ c ∈ s0.cands, c.st ≠ .elected) (henough : s0.seats ≤ nHop s0) (hround : s0.round = 0) :
    GStart (fixedArith p) (wigmQuota (fixedArith p) o s0) s0 := by
  by_cases hc : o.prf = false ∧ o.integerQuota = true
  · have hS := pow10_pos p
    have hq : wigmQuota (fixedArith p) o s0 = (1 + pdiv s0.nballots (s0.seats + 1)) * pow10 p := by
      rw [wigmQuota_fixed, if_pos hc]
    rw [hq]
    have hnn : 0 ≤ pdiv (s0.nballots : Int) ((s0.seats : Int) + 1) := pdiv_nonneg _ _ (by positivity) (by positivity)
    refine ⟨hinit, by positivity, hfresh, henough, hround, ?_⟩
    have := integer_droopQuota (fixedArith p) (fixed_lawful p) s0.nballots s0.seats
    simp only [fixedArith, Int.cast_id] at this ⊢
    push_cast at this ⊢
    linarith
  · have hq : wigmQuota (fixedArith p) o s0 = cferQuota (fixedArith p) s0 := by rw [wigmQuota_fixed, if_neg hc]
    rw [hq]
    exact cfer_start p s0 hinit hfresh henough hround

theorem wigm_seats_filled_fixed (p : Nat) (o : WigmOpts) (hz : o.batchZero = false) (s0 : St Int)
    (hinit : Init (fixedArith p) s0) (hfresh : ∀ c ∈ s0.cands, c.st ≠ .elected) (henough : s0.seats ≤ nHop s0)
    (hround : s0.round = 0) :
    ∃ t, wigmCount (fixedArith p) o s0 = some t
      ∧ Mon t ∧ Ext s0 t ∧ (t.crash = none → nEl t = t.seats ∧ nHop t = 0) := by
  have h0 := wigm_start p o s0 hinit hfresh henough hround
  obtain ⟨t, ht⟩ := wigmCount_terminates' _ (fixed_lawful p) o hz (fun _ => rfl) s0 h0
  exact ⟨t, ht, wigm_result _ (fixed_lawful p) o hz (fun _ => rfl) s0 t h0 ht⟩

theorem mpls_start (p : Nat) (s0 : St Int) (hinit : Init (fixedArith p) s0) (hfresh : ∀ c ∈ s0.cands, c.st ≠ .elected)
    (henough : s0.seats ≤ nHop s0) (hround : s0.round = 0) : GStart (fixedArith p) (mplsQuota (fixedArith p) s0) s0 := by
  refine ⟨hinit, C02.integer_quota_pos p _ _, hfresh, henough, hround, ?_⟩
  · have := integer_droopQuota (fixedArith p) (fixed_lawful p) s0.nballots s0.seats
    simpa [mplsQuota] using this

/-- the Minneapolis count of a profile without undeclared write-ins returns, with a forward-only append-only record, and
    unless the crash flag is up exactly `seats` candidates are elected and nobody is left hopeful -/
theorem mpls_seats_filled_fixed (p : Nat) (s0 : St Int) (hinit : Init (fixedArith p) s0)
    (hfresh : ∀ c ∈ s0.cands, c.st ≠ .elected) (henough : s0.seats ≤ nHop s0) (hround : s0.round = 0) (hnu : NoUnd s0) :
    ∃ t, mplsCount (fixedArith p) s0 = some t
      ∧ Mon t ∧ Ext s0 t ∧ (t.crash = none → nEl t = t.seats ∧ nHop t = 0) := by
  have h0 := mpls_start p s0 hinit hfresh henough hround
  obtain ⟨t, ht⟩ := mplsCount_terminates _ (fixed_lawful p) rfl s0 h0 hnu
  exact ⟨t, ht, mpls_result _ (fixed_lawful p) rfl s0 t h0 hnu ht⟩

example : NoUnd C02.tiny := by intro c hc; simp [C02.tiny] at hc; rcases hc with rfl | rfl <;> rfl

/-- C01 for QPQ: for every case with distinct candidate ids and every precision / guard of the arithmetic the rule forces,
    the count returns a state — the fuelled loop of the model (`n(n+2)+3` rounds for `n` candidates) never runs out.  The
    measure: with `k` = hopeful + elected and `h` = hopeful, `T(k) + (k+1 if a restart is due, else h+1)` drops in every round
    that continues (`DroopProofs/QpqTerm.lean`). -/
theorem qpq_terminates (p g : Nat) (c : Case) (hr : c.rule = "qpq") (hnd : (c.cands.map (·.1)).Nodup) :
    ∃ t, runRuleSt (guardedArith p g) c = some t := by
  unfold runRuleSt
  simp only [runRuleSt', hr]
  apply qpqCount_terminates
  unfold St.WF
  rw [initState_cids]
  exact hnd

/-- the driver never prints `FUEL` for a QPQ count -/
theorem qpq_never_fuel (p g : Nat) (c : Case) (hr : c.rule = "qpq") (hnd : (c.cands.map (·.1)).Nodup) :
    ∃ t, finish (guardedArith p g) (runRuleSt (guardedArith p g) c) = finish (guardedArith p g) (some t) := by
  obtain ⟨t, ht⟩ := qpq_terminates p g c hr hnd
  exact ⟨t, by rw [ht]⟩

end Droop.C01
