import Props.C02Lower
import DroopProofs
/-!
# End-to-end: the run-level theorems apply to the very function the compiled driver runs

`runRuleSt A c` (`DroopModel/Driver.lean`) is what the driver evaluates for every correspondence input `c`, and
`finish` turns the resulting state into the line that is compared with the implementation's record.  `caseOK c` is the
decidable domain check printed with every comparison (`DOM=`; the evidence files count how many compared runs are inside).

For every case inside the domain (any number of candidates, ballots, seats; any ballot contents), every precision `p`, and
the rules scotland, cfer, cfer-batch, wigm (every option combination), wigm-prf, wigm-prf-batch, and mpls without undeclared
write-ins:

* the model run returns (never `FUEL`);
* its output is either the complete record (`.ok`) or the crash the rule itself flagged — never the `postCheck`
  `AssertionError` (C01: seats filled, nobody left hopeful);
* the record is forward-only (C09), conserves votes from above (C02 upper half: `Inv`), and, when there are
  more ballots than seats, from below (C02 lower half: `LInv`).
-/
namespace Droop.Driver
open Droop

def gregoryRun (p : Nat) (c : Case) (t : St Int) : Prop :=
  runRuleSt (fixedArith p) c = some t
    ∧ Mon t
    ∧ (t.crash = none → nEl t = t.seats ∧ nHop t = 0)

theorem methodOf_gregory {r : String} (h : r ∈ ["wigm", "wigm-prf", "wigm-prf-batch", "scotland", "cfer", "cfer-batch", "mpls"]) :
    methodOf r = .wigm := by
  simp only [List.mem_cons, List.not_mem_nil, or_false] at h
  rcases h with rfl | rfl | rfl | rfl | rfl | rfl | rfl <;> decide

/-- `finish` on a run that filled the seats is the record or the flagged crash -/
theorem finish_of_filled {α : Type} [CommRing α] [LinearOrder α] [IsStrictOrderedRing α] (A : Arith α) (t : St α)
    (h : t.crash = none → nEl t = t.seats ∧ nHop t = 0) :
    (∃ acts, finish A (some t) = .ok acts) ∨ (∃ k, t.crash = some k ∧ finish A (some t) = .crash k) := by
  cases hc : t.crash with
  | some k => right; exact ⟨k, rfl, by simp [finish, hc]⟩
  | none =>
    left
    obtain ⟨h1, _⟩ := h hc
    have hel : (t.logAct A "end" "Count Complete" []).elected.length = (t.logAct A "end" "Count Complete" []).seats := by
      have : (t.logAct A "end" "Count Complete" []).elected = t.elected := rfl
      rw [this]; exact h1
    simp only [finish, hc]
    rw [if_pos (by rw [hel]; simp)]
    exact ⟨_, rfl⟩

/-- a case inside the domain under a Gregory rule name: its start state meets `Init` under fixed-point arithmetic -/
theorem start_of_case (p : Nat) (c : Case)
    (hr : c.rule ∈ ["wigm", "wigm-prf", "wigm-prf-batch", "scotland", "cfer", "cfer-batch", "mpls"]) (hok : caseOK c = true) :
    CaseOK c ∧ methodOf c.rule = .wigm ∧ Init (fixedArith p) (initState (fixedArith p) c) :=
  ⟨caseOK_iff c hok, methodOf_gregory hr, initState_init (fixedArith p) (fixed_lawful p) c (methodOf_gregory hr) (caseOK_iff c hok)⟩

theorem scotStart_of_case (p : Nat) (c : Case) (hr : c.rule = "scotland") (hok : caseOK c = true) :
    ScotStart (fixedArith p) (initState (fixedArith p) c) := by
  obtain ⟨hk, _, hI⟩ := start_of_case p c (by rw [hr]; simp) hok
  exact ⟨hI, C02.integer_quota_pos p _ _, initState_fresh _ c, initState_enough _ c hk⟩

theorem scotland (p : Nat) (c : Case) (hr : c.rule = "scotland") (hok : caseOK c = true) :
    ∃ t, gregoryRun p c t
      ∧ Inv (fixedArith p) (t.logAct (fixedArith p) "end" "Count Complete" [])
      ∧ LInv (fixedArith p) 2 (t.logAct (fixedArith p) "end" "Count Complete" []) := by
  obtain ⟨hk, _, hI⟩ := start_of_case p c (by rw [hr]; simp) hok
  have hst := scotStart_of_case p c hr hok
  obtain ⟨t, ht, hfill⟩ := C01.scotland_seats_filled p _ hst
  refine ⟨t, ⟨by rw [runRuleSt_scotland _ c hr]; exact ht, ?_, hfill⟩, (C02.scotland_fixed p _ t hI ht).1,
    C02.scotland_lower_fixed p _ t hI (initState_noW _ c hk) ht⟩
  exact (scot_record_monotone _ (fixed_lawful p) rfl _ t hst ht).1

/-- what the driver prints for such a run: the record, or the crash the rule flagged -/
theorem output_of_run (p : Nat) (c : Case) (t : St Int) (h : gregoryRun p c t) :
    (∃ acts, finish (fixedArith p) (runRuleSt (fixedArith p) c) = .ok acts)
      ∨ (∃ k, t.crash = some k ∧ finish (fixedArith p) (runRuleSt (fixedArith p) c) = .crash k) := by
  rw [h.1]
  exact finish_of_filled (fixedArith p) t h.2.2

theorem cfer (p : Nat) (c : Case) (hr : c.rule = "cfer" ∨ c.rule = "cfer-batch") (hok : caseOK c = true) :
    ∃ t, gregoryRun p c t
      ∧ Inv (fixedArith p) (t.logAct (fixedArith p) "end" "Count Complete" [])
      ∧ (c.seats < c.nballots → LInv (fixedArith p) 2 (t.logAct (fixedArith p) "end" "Count Complete" [])) := by
  obtain ⟨hk, _, hI⟩ := start_of_case p c (by rcases hr with hr | hr <;> rw [hr] <;> simp) hok
  obtain ⟨batch, hrun⟩ := runRuleSt_cfer (fixedArith p) c hr
  have hG := C01.cfer_start p _ hI (initState_fresh _ c) (initState_enough _ c hk) rfl
  obtain ⟨t, ht⟩ := cferCount_terminates _ (fixed_lawful p) rfl batch _ hG
  obtain ⟨hmon, _, hfill⟩ := cfer_result _ (fixed_lawful p) rfl batch _ t hG ht
  refine ⟨t, ⟨by rw [hrun]; exact ht, hmon, hfill⟩, (C02.cfer_fixed p batch _ t hI ht).1, ?_⟩
  intro hmore
  exact C02.cfer_lower_fixed p batch _ t hI (initState_noW _ c hk) hmore ht

theorem wigm (p : Nat) (c : Case) (hr : c.rule = "wigm" ∨ c.rule = "wigm-prf" ∨ c.rule = "wigm-prf-batch")
    (hok : caseOK c = true) (hmore : c.seats < c.nballots) :
    ∃ t, gregoryRun p c t
      ∧ Inv (fixedArith p) (t.logAct (fixedArith p) "end" "Count Complete" [])
      ∧ LInv (fixedArith p) 2 (t.logAct (fixedArith p) "end" "Count Complete" []) := by
  obtain ⟨hk, _, hI⟩ := start_of_case p c (by rcases hr with hr | hr | hr <;> rw [hr] <;> simp) hok
  obtain ⟨o, hrun, _⟩ := runRuleSt_wigm (fixedArith p) c hr
  obtain ⟨t, ht, hinv, hl, hmon, _, hfill⟩ := C02.wigm_every_configuration_fixed p o _ hI (initState_fresh _ c)
    (initState_enough _ c hk) rfl (initState_noW _ c hk) hmore
  exact ⟨t, ⟨by rw [hrun]; exact ht, hmon, hfill⟩, hinv, hl⟩

theorem mpls (p : Nat) (c : Case) (hr : c.rule = "mpls") (hok : caseOK c = true) (hnu : ∀ k ∈ c.cands, k.2.2.2 = false) :
    ∃ t, gregoryRun p c t
      ∧ Inv (fixedArith p) (t.logAct (fixedArith p) "end" "Count Complete" [])
      ∧ LInv (fixedArith p) 2 (t.logAct (fixedArith p) "end" "Count Complete" []) := by
  obtain ⟨hk, _, hI⟩ := start_of_case p c (by rw [hr]; simp) hok
  have hrun := runRuleSt_mpls (fixedArith p) c hr
  obtain ⟨t, ht, hmon, _, hfill⟩ := C01.mpls_seats_filled_fixed p _ hI (initState_fresh _ c) (initState_enough _ c hk) rfl
    (initState_noUnd _ c hnu)
  exact ⟨t, ⟨by rw [hrun]; exact ht, hmon, hfill⟩, (C02.mpls_fixed p _ t hI ht).1,
    C02.mpls_lower_fixed p _ t hI (initState_noW _ c hk) ht⟩

def sample : Case :=
  { rule := "wigm", arith := "fixed", p := 4, g := 0, intq := false, batch := "none", omega := 0, seats := 1, nballots := 3,
    cands := [(1, 1, false, false), (2, 2, false, false), (3, 3, true, false)],
    ballots := [(2, [1, 2]), (1, [2])], ballotsEq := [] }

example : caseOK sample = true := by decide
example : sample.seats < sample.nballots := by decide

end Droop.Driver
