import DroopProofs.QpqExt
import DroopProofs.QpqLow
import DroopProofs.QpqSum
import Props.Driver
/-!
# QPQ at the level of the driver: C01, C09, C07, C04, C02 and C18 for `runRuleSt` under rule `qpq`

`runRuleSt (guardedArith p g) c` with `c.rule = "qpq"` is the run the correspondence check compares with `rules/qpq.py` (QPQ
forces guarded arithmetic with 9+9 digits; the theorems hold for every precision and guard).  `caseOK c` is the decidable domain
the driver prints for every input; `CaseOK c` is what it implies.
-/
namespace Droop.QPQ
open Droop

theorem initState_nEl {α : Type} [CommRing α] [LinearOrder α] [IsStrictOrderedRing α] (A : Arith α) (c : Case) :
    nEl (initState A c) = 0 := by
  unfold nEl St.elected
  rw [List.length_eq_zero_iff, List.filter_eq_nil_iff]
  intro x hx
  have := initState_fresh A c x hx
  simpa using this

/-- C01 for QPQ: the count returns a state; it never has more than `seats` elected; unless the crash flag is up (the
    implementation raised: a zero quotient, an empty tie) exactly `seats` candidates are elected and no candidate is left
    hopeful — every candidate is elected, defeated or withdrawn. -/
theorem qpq_seats_filled (p g : Nat) (c : Case) (hr : c.rule = "qpq") (hok : CaseOK c) :
    ∃ t, runRuleSt (guardedArith p g) c = some t ∧ nEl t ≤ c.seats
      ∧ (t.crash = none → nEl t = c.seats ∧ nHop t = 0
          ∧ ∀ x ∈ t.cands, x.st = .elected ∨ x.st = .defeated ∨ x.st = .withdrawn) := by
  obtain ⟨t, ht⟩ := C01.qpq_terminates p g c hr hok.nodup
  refine ⟨t, ht, ?_⟩
  rw [runRuleSt_qpq _ c hr] at ht
  have hwf : (initState (guardedArith p g) c).WF := by unfold St.WF; rw [initState_cids]; exact hok.nodup
  have := qpqCount_seats (guardedArith p g) _ t hwf (initState_nEl _ c) (initState_enough _ c hok) ht
  have hs : (initState (guardedArith p g) c).seats = c.seats := rfl
  rw [hs] at this
  refine ⟨this.1, fun hc => ?_⟩
  obtain ⟨a, b⟩ := this.2.2 hc
  exact ⟨a, b, C01.decided_of_no_hopeful t b⟩

/-- C09 for QPQ, whole count: candidate by candidate (same ids, same order) the final status is the initial one, or was
    reached from hopeful; a withdrawn candidate stays withdrawn, and nobody becomes withdrawn. -/
theorem qpq_status_forward (p g : Nat) (c : Case) (hr : c.rule = "qpq") (hnd : (c.cands.map (·.1)).Nodup) (t : St Int)
    (ht : runRuleSt (guardedArith p g) c = some t) :
    StFwd true (stsig (initState (guardedArith p g) c)) (stsig t) := by
  rw [runRuleSt_qpq _ c hr] at ht
  exact qpqCount_fwd (guardedArith p g) _ t (by unfold St.WF; rw [initState_cids]; exact hnd) ht

/-- read for one candidate: whatever status candidate `i` ends with, it began with that status or began hopeful -/
theorem qpq_final_status (p g : Nat) (c : Case) (hr : c.rule = "qpq") (hnd : (c.cands.map (·.1)).Nodup) (t : St Int)
    (ht : runRuleSt (guardedArith p g) c = some t) (i : Nat) (st' : CState) (hm : (i, st') ∈ stsig t) :
    (i, st') ∈ stsig (initState (guardedArith p g) c) ∨ (i, CState.hopeful) ∈ stsig (initState (guardedArith p g) c) := by
  obtain ⟨st, hst, hok⟩ := (qpq_status_forward p g c hr hnd t ht).at i st' hm
  rcases hok with h | h | h
  · left; rw [h]; exact hst
  · right; rw [← h.1]; exact hst
  · exfalso
    -- nobody is elected in the initial state
    unfold stsig at hst
    obtain ⟨x, hx, hxe⟩ := List.mem_map.1 hst
    have := initState_fresh (guardedArith p g) c x hx
    have h2 : x.st = st := by cases hxe; rfl
    rw [h2] at this; exact this h.2.1

/-- C09 for QPQ, one round: between the state a round starts in and the state it ends in a status is unchanged or moves from
    hopeful to elected / defeated; an elected candidate becomes hopeful again only if a restart was due. -/
theorem qpq_round_forward (p g : Nat) (q : QSt Int) (hwf : q.s.WF) :
    StFwd q.restart (stsig q.s) (stsig (qpqBody (guardedArith p g) q).1.s) := qpqBody_fwd _ q hwf

/-- a round that orders a restart has excluded a candidate: one hopeful fewer, the elected unchanged -/
theorem qpq_restart_only_after_exclusion (p g : Nat) (q : QSt Int) (hwf : q.s.WF)
    (h : (qpqBody (guardedArith p g) q).2 = .cont) (hr : (qpqBody (guardedArith p g) q).1.restart = true) :
    nEl (qpqBody (guardedArith p g) q).1.s = nEl (qR5 (guardedArith p g) q)
      ∧ nHop (qpqBody (guardedArith p g) q).1.s + 1 = nHop (qR5 (guardedArith p g) q) := by
  rcases (qpqBody_cont _ q hwf h).2 with ⟨r, _, _⟩ | ⟨_, a, b⟩
  · rw [r] at hr; cases hr
  · exact ⟨b, a⟩

/-- C09 for QPQ, seats: every round that runs ends with at most `seats` elected and with hopeful + elected at least `seats` -/
theorem qpq_round_seats (p g : Nat) (n : Nat) (q : QSt Int) (hP : QSeats n q.s) (hg : qpqCountComplete q.s = false) :
    nEl (qpqBody (guardedArith p g) q).1.s ≤ n
      ∧ n ≤ nHop (qpqBody (guardedArith p g) q).1.s + nEl (qpqBody (guardedArith p g) q).1.s :=
  qpqLoop_round_seats _ n q hP hg

/-- C07 for QPQ: `Droop.qpq_round_decision` for the decision of `qpqBody` -/
theorem qpq_decision (p g : Nat) (q : QSt Int) (h : (qpqBody (guardedArith p g) q).2 = .cont) :
    (∃ c ∈ (qR5 (guardedArith p g) q).hopeful, (c.cid, CState.elected) ∈ stsig (qpqBody (guardedArith p g) q).1.s
        ∧ (qpqBody (guardedArith p g) q).1.restart = false
        ∧ (qR5 (guardedArith p g) q).quota < qQuot (guardedArith p g) c
        ∧ ∀ d ∈ (qR5 (guardedArith p g) q).hopeful, qQuot (guardedArith p g) d + 2 ≤ qQuot (guardedArith p g) c + 2 * geps g)
    ∨ (∃ c ∈ (qR5 (guardedArith p g) q).hopeful, (c.cid, CState.defeated) ∈ stsig (qpqBody (guardedArith p g) q).1.s
        ∧ (qpqBody (guardedArith p g) q).1.restart = true
        ∧ (∀ d ∈ (qR5 (guardedArith p g) q).hopeful, qQuot (guardedArith p g) d < (qR5 (guardedArith p g) q).quota + 2 * geps g - 1)
        ∧ ∀ d ∈ (qR5 (guardedArith p g) q).hopeful, qQuot (guardedArith p g) c + 2 ≤ qQuot (guardedArith p g) d + 2 * geps g) := by
  rw [qpqBody_eq] at h ⊢
  exact qpq_round_decision p g (qQ1 _ q) (qR5 _ q) (qR5_stsig _ q).2 h

/-- C04 for QPQ: the quota every decision is taken on is the prescribed one — the ballots standing with a candidate, divided by
    one more than the seats less the contributions of the exhausted ballots (Woodall's `va / (1 + s − tx)`), in the rule's arithmetic;
    and each hopeful candidate's quotient is its ballots over one plus their contributions.  Who is then elected: `qpq_decision`. -/
theorem qpq_quota_prescribed (p g : Nat) (q : QSt Int) (hwf : q.s.WF) :
    (qR5 (guardedArith p g) q).quota
        = (guardedArith p g).divV (activeMg (guardedArith p g) (qR2 (guardedArith p g) q).ballots)
            ((guardedArith p g).sub ((guardedArith p g).ofInt (1 + (qR2 (guardedArith p g) q).seats)) (exhWg (qR2 (guardedArith p g) q).ballots))
    ∧ ∀ c ∈ (qR5 (guardedArith p g) q).hopeful,
        c.vote = topMg (guardedArith p g) (qR2 (guardedArith p g) q).ballots c.cid
        ∧ c.tc = topWg (qR2 (guardedArith p g) q).ballots c.cid
        ∧ c.quotient = some ((guardedArith p g).divV c.vote ((guardedArith p g).add (guardedArith p g).one c.tc)) :=
  ⟨qR5_quota_gen _ (guarded_lawful p g) q, fun c hc => qR5_figures_gen _ (guarded_lawful p g) q hwf c hc⟩

/-- with no guard digits "within the tolerance" is "exactly": the excluded candidate has the lowest stored quotient -/
theorem geps_zero : geps 0 = 1 := by decide

end Droop.QPQ

namespace Droop.QPQ

/-- C02 for QPQ, exact arithmetic: run the QPQ model with exact rational arithmetic on any case with distinct candidate ids.  In
    the state the loop of rounds returns — crash flag down, no restart pending — the fractions of a candidate that the ballots have
    contributed (`Σ weight × multiplier` over all ballot lines, exhausted ones included) sum to exactly the number of candidates
    elected.  `qpqBody_wsum` is the same statement for every single round.  (Under the guarded arithmetic the rule forces, the sum is
    within the truncation allowance: judged on both records by the `okC02Qpq` oracle.) -/
theorem qpq_contributions_exact (c : Case) (hnd : (c.cands.map (·.1)).Nodup) (fuel : Nat) (r : QSt ℚ)
    (h : qpqLoop rationalArith fuel (qpqStart rationalArith (initState rationalArith c)) = some r)
    (hcr : r.s.crash = none) (hr : r.restart = false) :
    wsum r.s.ballots = (nEl r.s : ℚ) := by
  have hwf : (initState rationalArith c).WF := by unfold St.WF; rw [initState_cids]; exact hnd
  have hwf1 : (qpqStart rationalArith (initState rationalArith c)).s.WF := WF_of_stsig (qpqStart_stsig _ _) hwf
  exact qpqLoop_wsum fuel _ r hwf1 (fun h0 => by cases h0) h hcr hr

/-- non-vacuity: on the sample profile the loop returns with the flag down, no restart pending, one candidate elected and
    contributions summing to 1 -/
example : (qpqLoop rationalArith 20 (qpqStart rationalArith (initState rationalArith { Driver.sample with rule := "qpq" }))).map
    (fun r => (r.s.crash, r.restart, wsum r.s.ballots, nEl r.s)) = some (none, false, 1, 1) := by decide +kernel

/-- non-vacuity: the sample profile under QPQ lies in the domain, and its count ends without the crash flag (so the theorem
    says: one seat filled, everybody decided) -/
example : caseOK { Driver.sample with rule := "qpq" } = true := by decide
example : (runRuleSt (guardedArith 9 9) { Driver.sample with rule := "qpq" }).map (fun t => (t.crash, nEl t, nHop t))
    = some (none, 1, 0) := by decide +kernel
end Droop.QPQ

namespace Droop.QPQ
/-- C18 / C19 for QPQ: the record only grows — the log of the state the count starts from (and, `ext_qpqBody`, of the state every
    round starts from) is a suffix, newest first, of the log of whatever comes later; an interrupted count has logged a prefix of
    what the full count logs -/
theorem qpq_record_append_only (p g : Nat) (c : Case) (hr : c.rule = "qpq") (t : St Int)
    (ht : runRuleSt (guardedArith p g) c = some t) : Ext (initState (guardedArith p g) c) t := by
  rw [runRuleSt_qpq _ c hr] at ht
  exact qpq_record_appendOnly (guardedArith p g) _ t ht

theorem qpq_round_appends (p g : Nat) (q : QSt Int) : Ext q.s (qpqBody (guardedArith p g) q).1.s := ext_qpqBody _ q
end Droop.QPQ
