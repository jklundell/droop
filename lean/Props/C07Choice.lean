import Props.C07
/-!
# C07: who is tied for exclusion / for the next surplus transfer, as read from the source

`harness/gen_choice.py` finds in every rule module the pairs
`<x>_vote = min|max|V.min(c.<attr> for c in POP)` / `<x>_candidates = [c for c in POP if <test>]` and lists
(rule, low|high, aggregate, attribute, population, test, guard); kernel-checked equal to `choiceTable` on every C07 run.
`low_row_is_the_lowest` / `high_row_is_the_highest` say what a row with the test `c.<attr> == <x>_<attr>` means on the model: the tied set handed
to `breakTie` is *exactly* the set of members of the population with the lowest (highest) tally — nobody else can be chosen, nobody with that
tally is left out.  (The Meek-family rows, `low_vote + E.surplus >= c.vote`, are the subject of `C08.excluded_near_lowest` /
`prf_excluded_near_lowest`.)
-/
namespace Droop.C07
open Droop

def choiceTable : List (String × String × String × String × String × String × String) :=
  [("cfer", "low", "min", "vote", "C.hopeful()", "c.vote == low_vote", ""),
   ("meek", "low", "V.min", "vote", "C.hopeful()", "low_vote + E.surplus >= c.vote", ""),
   ("meek_prf", "low", "V.min", "vote", "C.hopeful()", "low_vote + E.surplus >= c.vote", ""),
   ("mpls", "high", "max", "vote", "hopefulWithQuota", "c.vote == high_vote", ""),
   ("mpls", "low", "min", "vote", "C.hopeful()", "c.vote == low_vote", ""),
   ("qpq", "high", "max", "quotient", "C.hopeful()", "c.quotient == high_quotient", "high_quotient > E.quota"),
   ("qpq", "low", "min", "quotient", "C.hopeful()", "c.quotient == low_quotient", ""),
   ("scotland", "high", "max", "vote", "C.pending()", "c.vote == high_vote", ""),
   ("scotland", "low", "min", "vote", "C.hopeful()", "c.vote == low_vote", ""),
   ("wigm", "high", "max", "vote", "C.pending()", "c.vote == high_vote", ""),
   ("wigm", "low", "min", "vote", "C.hopeful()", "c.vote == low_vote", ""),
   ("wigm_prf", "high", "max", "vote", "C.pending()", "c.vote == high_vote", ""),
   ("wigm_prf", "low", "min", "vote", "C.hopeful()", "c.vote == low_vote", "")]

theorem fixed_eq_iff (p : Nat) (a b : Int) : (fixedArith p).eq a b = true ↔ a = b := by
  rw [fixed_eq, decide_eq_true_iff]

/-- among `pop`, whose extremal tally `m` (for the order `R`) is attained, the candidates with tally `m` are the extremal ones -/
theorem extremal_iff {R : Int → Int → Prop} (hanti : ∀ a b, R a b → R b a → a = b) (pop : List (Cand Int)) (m : Int)
    (hspec : (∃ w ∈ pop, w.vote = m) ∧ ∀ d ∈ pop, R m d.vote) (c : Cand Int) (hc : c ∈ pop) :
    c.vote = m ↔ ∀ d ∈ pop, R c.vote d.vote := by
  obtain ⟨⟨w, hw, rfl⟩, hle⟩ := hspec
  exact ⟨fun hv d hd => hv ▸ hle d hd, fun hall => hanti _ _ (hall w hw) (hle c hc)⟩

/-- a `low` row with the equality test: the tied set is exactly the members of the population with the lowest tally -/
theorem low_row_is_the_lowest (p : Nat) (pop : List (Cand Int)) (lv : Int) (h : minVoteOf (fixedArith p) pop = some lv) (c : Cand Int) :
    c ∈ pop.filter (fun c => (fixedArith p).eq c.vote lv) ↔ (c ∈ pop ∧ ∀ d ∈ pop, c.vote ≤ d.vote) := by
  rw [List.mem_filter, fixed_eq_iff]
  exact and_congr_right (extremal_iff (fun _ _ => le_antisymm) pop lv (minVoteOf_spec p pop lv h) c)

/-- a `high` row with the equality test: exactly the members with the highest tally -/
theorem high_row_is_the_highest (p : Nat) (pop : List (Cand Int)) (hv : Int) (h : maxVoteOf (fixedArith p) pop = some hv) (c : Cand Int) :
    c ∈ pop.filter (fun c => (fixedArith p).eq c.vote hv) ↔ (c ∈ pop ∧ ∀ d ∈ pop, d.vote ≤ c.vote) := by
  rw [List.mem_filter, fixed_eq_iff]
  exact and_congr_right (extremal_iff (R := fun a b => b ≤ a) (fun _ _ h1 h2 => le_antisymm h2 h1) pop hv (maxVoteOf_spec p pop hv h) c)

end Droop.C07
