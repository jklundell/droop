import DroopProofs.CaseInitMeek
import DroopProofs.DropWMeek
import Props.C11Run
/-!
# C11, second clause, for meek and warren (strict rankings)

`meek_withdrawn_is_absent`: for every case in the printed domain (`caseOK`: strict rankings) under rule `meek` or `warren`, for every
lawful arithmetic whose zero test accepts zero (restated for fixed-point arithmetic of every precision): whenever the count of the
full case and the count of the case with the withdrawn candidates deleted both return (the Meek family's termination is not a theorem:
findings M1/M2), the second state is the first with the withdrawn candidates deleted from the candidate list, the saved rounds and
every snapshot of the record.
-/
namespace Droop.C11
open Droop

theorem meek_withdrawn_is_absent (p : Nat) (c : Case) (hr : c.rule = "meek" ∨ c.rule = "warren") (hok : caseOK c = true)
    (t t' : St Int) (h : runRuleSt (fixedArith p) c = some t) (h' : runRuleSt (fixedArith p) (deleteWithdrawn c) = some t') :
    t' = Droop.dropW t := by
  have hk := caseOK_iff c hok
  have hA := fixed_lawful p
  have hm : methodOf c.rule = .meek := by rcases hr with hr | hr <;> rw [hr] <;> rfl
  have h0 := initState_minit (fixedArith p) hA c hm hk
  have hz : (fixedArith p).isZero (fixedArith p).zero = true := rfl
  unfold runRuleSt at h h'
  rw [initState_deleteWithdrawn] at h'
  rw [runRuleSt'_meek _ c hr] at h
  rw [runRuleSt'_meek _ (deleteWithdrawn c) hr] at h'
  exact meek_dropW (fixedArith p) hA hz _ 100000 _ t t' h0 h h'

end Droop.C11

namespace Droop.C11
/-- non-vacuity: the sample profile (candidate 3 withdrawn) under meek lies in the domain, and both counts return -/
example : caseOK { Driver.sample with rule := "meek" } = true
    ∧ (runRuleSt (fixedArith 4) { Driver.sample with rule := "meek" }).isSome = true
    ∧ (runRuleSt (fixedArith 4) (deleteWithdrawn { Driver.sample with rule := "meek" })).isSome = true := by decide +kernel
end Droop.C11
