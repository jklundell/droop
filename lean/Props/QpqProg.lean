import DroopProofs.PermBMeek
import DroopProofs.QpqStages
/-!
# QPQ: the quotient of a hopeful candidate and the contribution assigned on election, translated from qpq.py

`harness/gen_formula.py` translates `c.quotient = c.vote / (V1 + c.tc)` and `new_weight = V1 / high_candidate.quotient`; the kernel
checks the translations equal to the programs below on every run; here they are proved to be what the model computes.
-/
namespace Droop.QPQ
open Droop

inductive QxEx
  | vote | tc | one | quotient
  | plus (a b : QxEx) | over (a b : QxEx)
deriving DecidableEq, Repr

def QxEx.eval {α : Type} (A : Arith α) (vote tc quotient : α) : QxEx → α
  | .vote => vote
  | .tc => tc
  | .one => A.one
  | .quotient => quotient
  | .plus a b => A.add (a.eval A vote tc quotient) (b.eval A vote tc quotient)
  | .over a b => A.divV (a.eval A vote tc quotient) (b.eval A vote tc quotient)

/-- `c.quotient = c.vote / (V1 + c.tc)` -/
def quotientProg : QxEx := .over .vote (.plus .one .tc)
/-- `new_weight = V1 / high_candidate.quotient` -/
def newWeightProg : QxEx := .over .one .quotient

variable {α : Type} [CommRing α] [LinearOrder α] [IsStrictOrderedRing α] (A : Arith α)

/-- the quotients of a round are the translated expression of the tallied figures -/
theorem qR4_uses_program (q : QSt α) :
    qR4 A q = { (qQ1 A q).s with cands := (qQ1 A q).s.cands.map (fun (c : Cand α) =>
      if c.st == .hopeful then { c with quotient := some (quotientProg.eval A c.vote c.tc A.zero) } else c) } := rfl

/-- the contribution a ballot of the candidate elected is given -/
theorem newWeight_is_program (hc : Cand α) :
    A.divV A.one (qQuot A hc) = newWeightProg.eval A A.zero A.zero (qQuot A hc) := rfl

end Droop.QPQ
