import DroopModel
import DroopProofs
/-!
# C11 — withdrawn means absent: the reader and the selectors

Second clause of C11, in two halves.

* **Reader.** A ballot line read from a file in which `W` is withdrawn is stored with *every* occurrence of every member
  of `W` deleted from its ranking (`stripRank`), lines left empty are dropped and not counted (`addBallot`). So the
  ballots the count sees are those of the profile with `W` deleted from every ballot.
* **Count.** Every selector through which the rule modules look at the candidates — hopeful, elected, pending,
  eligible, "is this id hopeful", the vote total of a snapshot — is blind to withdrawn candidates: it returns the same
  on a state and on the state with the withdrawn candidates deleted (`dropW`). Updates addressed to a non-withdrawn id
  commute with the deletion. These are the facts the run-level simulation `run (dropW s) = dropW (run s)` is composed from; it is
  proved per rule family in `Props/C11Run.lean` (the seven Gregory names), `Props/C11Meek.lean`, `Props/C11Prf.lean` and
  `Props/C11Qpq.lean` (`*_withdrawn_is_absent`), each with the hypotheses stated there. The first clause (renumbering) has no theorem.
-/
namespace Droop.C11
open Droop
variable {α : Type}

theorem strip_is_deletion (wd rank : List Nat) : stripRank wd rank = rank.filter (fun c => !wd.contains c) := rfl

theorem strip_removes_all (wd rank : List Nat) (c : Nat) (hc : c ∈ wd) : c ∉ stripRank wd rank := by
  intro h
  rw [strip_is_deletion, List.mem_filter] at h
  simp [hc] at h

theorem strip_keeps_others (wd rank : List Nat) (c : Nat) (hc : c ∉ wd) : c ∈ stripRank wd rank ↔ c ∈ rank := by
  rw [strip_is_deletion, List.mem_filter]
  simp [hc]

/-- a line whose ranking consists of withdrawn candidates only is dropped: neither stored nor counted -/
theorem addBallot_all_withdrawn (pr : Prof) (mult : Nat) (ranking : List (List Nat))
    (h : ∀ r ∈ ranking, ∀ c ∈ r, c ∈ pr.withdrawn) : addBallot pr mult ranking = .ok pr := by
  unfold addBallot
  have hk : ((ranking.map (stripRank pr.withdrawn)).filter (fun r => !r.isEmpty)) = [] := by
    rw [List.filter_eq_nil_iff]
    intro r hr
    obtain ⟨r0, hr0, rfl⟩ := List.mem_map.1 hr
    have : stripRank pr.withdrawn r0 = [] := by
      rw [strip_is_deletion, List.filter_eq_nil_iff]
      intro c hc; simp [h r0 hr0 c hc]
    simp [this]
  simp only [hk, List.isEmpty_nil, if_true]
  rfl

/-- a strict line is stored with the withdrawn candidates deleted and its multiplier added to the ballot total -/
theorem addBallot_strict (pr : Prof) (mult : Nat) (ranking : List (List Nat))
    (hne : ((ranking.map (stripRank pr.withdrawn)).filter (fun r => !r.isEmpty)) ≠ [])
    (hstrict : (ranking.map (stripRank pr.withdrawn)).any (fun r => r.length > 1) = false) :
    addBallot pr mult ranking = .ok { pr with
      nBallots := pr.nBallots + mult
      ballotLines := (mult, ((ranking.map (stripRank pr.withdrawn)).filter (fun r => !r.isEmpty)).map (fun r => r.headD 0)) :: pr.ballotLines } := by
  unfold addBallot
  have : ((ranking.map (stripRank pr.withdrawn)).filter (fun r => !r.isEmpty)).isEmpty = false := by
    cases h : (ranking.map (stripRank pr.withdrawn)).filter (fun r => !r.isEmpty) with
    | nil => exact absurd h hne
    | cons x xs => rfl
  simp only [this, hstrict, Bool.false_eq_true, if_false]
  rfl

/-! ## count: the selectors are blind to withdrawn candidates -/

/-- the state with the withdrawn candidates deleted -/
def dropW (s : St α) : St α := { s with cands := s.cands.filter (fun c => c.st != .withdrawn) }

theorem filter_filter_st (l : List (Cand α)) (p : Cand α → Bool) (hp : ∀ c, p c = true → (c.st != .withdrawn) = true) :
    (l.filter (fun c => c.st != .withdrawn)).filter p = l.filter p := by
  rw [List.filter_filter]
  apply List.filter_congr
  intro c _
  by_cases h : p c = true
  · simp [h, hp c h]
  · simp [h]

theorem hopeful_dropW (s : St α) : (dropW s).hopeful = s.hopeful := by
  unfold St.hopeful dropW
  exact filter_filter_st _ _ (fun c h => by
    have : c.st = .hopeful := by simpa using h
    rw [this]; rfl)

theorem elected_dropW (s : St α) : (dropW s).elected = s.elected := by
  unfold St.elected dropW
  exact filter_filter_st _ _ (fun c h => by
    have : c.st = .elected := by simpa using h
    rw [this]; rfl)

theorem pendingL_dropW (s : St α) : (dropW s).pendingL = s.pendingL := by
  unfold St.pendingL dropW
  exact filter_filter_st _ _ (fun c h => by
    have : c.st = .elected := by
      simp only [Bool.and_eq_true, beq_iff_eq] at h; exact h.1
    rw [this]; rfl)

theorem eligible_dropW (s : St α) : (dropW s).eligible = s.eligible := by
  unfold St.eligible dropW
  exact filter_filter_st _ _ (fun c h => h)

theorem seatsLeft_dropW (s : St α) : (dropW s).seatsLeft = s.seatsLeft := by
  unfold St.seatsLeft; rw [elected_dropW]; rfl

theorem isHopeful_dropW (s : St α) (cid : Nat) : (dropW s).isHopeful cid = s.isHopeful cid := by
  unfold St.isHopeful dropW
  simp only [List.any_filter]
  congr 1
  funext c
  cases hs : c.st <;> simp

/-- the figures of a snapshot (total votes, quota, non-transferable) do not see withdrawn candidates; its rows are the rows
    of the full snapshot minus the withdrawn ones -/
theorem mkSnap_dropW (A : Arith α) (s : St α) :
    ((dropW s).mkSnap A).votes = (s.mkSnap A).votes ∧ ((dropW s).mkSnap A).quota = (s.mkSnap A).quota
    ∧ ((dropW s).mkSnap A).x1 = (s.mkSnap A).x1
    ∧ ((dropW s).mkSnap A).cs = (s.mkSnap A).cs.filter (fun e => e.2.1 != "W") := by
  unfold St.mkSnap
  refine ⟨?_, rfl, rfl, ?_⟩
  · simp only
    rw [eligible_dropW]; rfl
  · simp only [dropW]
    rw [List.filter_map]
    congr 1
    apply List.filter_congr
    intro c _
    simp only [Function.comp]
    cases hs : c.st <;> simp [Cand.code, hs]
    split <;> simp

/-- an update addressed to an id that no withdrawn candidate carries commutes with the deletion -/
theorem upd_dropW (s : St α) (cid : Nat) (f : Cand α → Cand α)
    (hf : ∀ c, c.st ≠ .withdrawn → (f c).st ≠ .withdrawn) (hno : ∀ c ∈ s.cands, c.cid = cid → c.st ≠ .withdrawn) :
    dropW (s.upd cid f) = (dropW s).upd cid f := by
  unfold dropW St.upd
  simp only
  congr 1
  rw [List.filter_map]
  congr 1
  apply List.filter_congr
  intro c hc
  simp only [Function.comp]
  by_cases he : (c.cid == cid) = true
  · have h1 := hno c hc (by simpa using he)
    have h2 := hf c h1
    have e1 : ((f c).st != CState.withdrawn) = true := by simpa using h2
    have e2 : (c.st != CState.withdrawn) = true := by simpa using h1
    simp only [he, if_true, e1, e2]
  · have hne : (c.cid == cid) = false := by simpa using he
    simp only [hne, Bool.false_eq_true, if_false]
end Droop.C11
