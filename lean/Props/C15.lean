import DroopModel
import DroopProofs
/-!
# C15 / C16 — the reader is total, and whatever it accepts is a valid election

`parseText : List Char → Except PErr Profile` is a total function (Lean's termination checker accepted every loop:
each consumes a token or a unit of fuel bounded by the token count); its only error on the current tree is
`PErr.profile` (the `crash` constructor is kept for replaying the defects F2/F9 of the pinned tree).
-/
namespace Droop.C15
open Droop

theorem noDup_iff (l : List Nat) : noDup l = true ↔ l.Nodup := by
  induction l with
  | nil => simp [noDup]
  | cons x xs ih =>
    simp only [noDup, Bool.and_eq_true, Bool.not_eq_true', List.nodup_cons, ih]
    constructor
    · rintro ⟨h1, h2⟩; exact ⟨by simpa using h1, h2⟩
    · rintro ⟨h1, h2⟩; exact ⟨by simpa using h1, h2⟩

/-- the invariants of a valid election that C15 lists -/
structure Valid (pf : Profile) : Prop where
  seats_pos : 0 < pf.pr.nSeats
  seats_le_eligible : pf.pr.nSeats ≤ pf.eligible.length
  ballots_ge_eligible : pf.eligible.length ≤ pf.pr.nBallots
  no_repeat : ∀ bl ∈ pf.pr.ballotLines, bl.2.Nodup
  no_repeat_equal : ∀ bl ∈ pf.pr.ballotLinesEq, bl.2.flatten.Nodup
  eligible_def : ∀ c, c ∈ pf.eligible ↔ (0 < c ∧ c ≤ pf.pr.nCand ∧ c ∉ pf.pr.withdrawn)

theorem mem_eligibleOf (pr : Prof) (c : Nat) : c ∈ eligibleOf pr ↔ (0 < c ∧ c ≤ pr.nCand ∧ c ∉ pr.withdrawn) := by
  unfold eligibleOf
  simp only [List.mem_filter, List.mem_map, List.mem_range, Bool.not_eq_true', List.contains_eq_mem, decide_eq_false_iff_not]
  constructor
  · rintro ⟨⟨a, ha, rfl⟩, hw⟩; exact ⟨by omega, by omega, hw⟩
  · rintro ⟨h1, h2, hw⟩; exact ⟨⟨c - 1, by omega, by omega⟩, hw⟩

/-- `__validate` passes exactly when none of its four tests fires -/
theorem validate_ok {pr : Prof} {el : List Nat} (h : validate pr el = .ok ()) :
    (pr.nSeats ≠ 0 ∧ pr.nSeats ≤ el.length) ∧ el.length ≤ pr.nBallots
    ∧ (∀ bl ∈ pr.ballotLines, noDup bl.2 = true) ∧ ∀ bl ∈ pr.ballotLinesEq, noDup bl.2.flatten = true := by
  revert h
  -- the cases are the exits of `validate`: one per test that raises, and the last one
  fun_cases validate pr el <;> intro h
  case case5 h1 h2 h3 h4 =>
    simp only [Bool.or_eq_true, beq_iff_eq, decide_eq_true_eq, not_or, not_lt, Bool.not_eq_true', Bool.not_eq_false,
      List.all_eq_true] at h1 h2 h3 h4
    exact ⟨h1, h2, h3, h4⟩
  all_goals cases h

theorem valid_of_validate (pr : Prof) (hv : validate (finalProf pr) (eligibleOf pr) = .ok ()) :
    Valid { pr := finalProf pr, eligible := eligibleOf pr } := by
  obtain ⟨h1, h2, h3, h4⟩ := validate_ok hv
  exact ⟨Nat.pos_of_ne_zero h1.1, h1.2, h2, fun bl hbl => (noDup_iff _).1 (h3 bl hbl), fun bl hbl => (noDup_iff _).1 (h4 bl hbl),
    fun c => mem_eligibleOf pr c⟩

/-- whatever `finishProfile` lets through is valid -/
theorem finish_valid (pr : Prof) (pf : Profile) (h : finishProfile pr = .ok pf) : Valid pf := by
  unfold finishProfile at h
  cases hv : validate (finalProf pr) (eligibleOf pr) with
  | error e => simp only [bind, Except.bind, hv] at h; cases h
  | ok u =>
    simp only [bind, Except.bind, hv, pure, Except.pure, Except.ok.injEq] at h
    exact h ▸ valid_of_validate pr hv

/-- **C16 (model side): every text is either rejected with the profile error or read as a valid election** -/
theorem parse_valid (text : List Char) (pf : Profile) (h : parseText text = .ok pf) : Valid pf := by
  obtain ⟨pr, -, hv, rfl⟩ := parseText_ok h
  exact valid_of_validate pr hv

/-- an accepted profile never has more seats than eligible candidates nor fewer ballots than eligible candidates -/
theorem parse_seats_ballots (text : List Char) (pf : Profile) (h : parseText text = .ok pf) :
    0 < pf.pr.nSeats ∧ pf.pr.nSeats ≤ pf.eligible.length ∧ pf.eligible.length ≤ pf.pr.nBallots :=
  let v := parse_valid text pf h
  ⟨v.seats_pos, v.seats_le_eligible, v.ballots_ge_eligible⟩

/-- stripping removes *every* occurrence of a withdrawn candidate (finding F4 on the pinned tree removed only one) -/
theorem stripRank_no_withdrawn (wd rank : List Nat) : ∀ c ∈ stripRank wd rank, c ∉ wd ∧ c ∈ rank := by
  intro c hc
  unfold stripRank at hc
  rw [List.mem_filter] at hc
  exact ⟨by simpa using hc.2, hc.1⟩

/-- non-vacuity: a small election passes the final step, so `finish_valid` is not an implication with an empty premise
    (acceptance of whole texts is exercised by the correspondence run: thousands of accepted files per check) -/
def tiny : Prof := { nCand := 2, nSeats := 1, nBallots := 3, ballotLines := [(1, [2]), (2, [1, 2])], names := ["b", "a"], title := "t" }
example : (finishProfile tiny).toOption.isSome = true := by decide
/-- a profile with a repeated candidate in a ranking is rejected -/
example : (finishProfile { tiny with ballotLines := [(3, [1, 1])] }).toOption.isSome = false := by decide
/-- the empty text is rejected with the profile error -/
example : (parseText []).toOption.isSome = false := by decide

/-! ## second tier: the ballots are stored as written

`Stored` (`DroopProofs/ParseTally.lean`): for every text the reader accepts, the ballot total equals the sum of the multipliers of
the ballot lines kept, no kept ranking is empty (ballots left empty by withdrawals are dropped), and no kept ranking names a
withdrawn candidate. -/
theorem parse_stored (text : List Char) (pf : Profile) (h : parseText text = .ok pf) :
    pf.pr.nBallots = sumMult pf.pr.ballotLines + sumMult pf.pr.ballotLinesEq
    ∧ (∀ bl ∈ pf.pr.ballotLines, bl.2 ≠ [] ∧ ∀ c ∈ bl.2, c ∉ pf.pr.withdrawn)
    ∧ (∀ bl ∈ pf.pr.ballotLinesEq, bl.2 ≠ [] ∧ ∀ g ∈ bl.2, g ≠ [] ∧ ∀ c ∈ g, c ∉ pf.pr.withdrawn) :=
  let s := parseText_stored h
  ⟨s.total, s.strict, s.equal⟩

end Droop.C15
