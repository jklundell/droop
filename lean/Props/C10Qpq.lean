import DroopProofs.SplitQ
import Props.C10Run
/-!
# C10 for QPQ: splitting a ballot line through its multiplier (and merging identical lines) changes nothing

`qpq_split`: for every case under rule `qpq`, every lawful arithmetic (restated for the guarded arithmetic the rule forces),
replacing the `i`-th ballot line `(m, r)` by `(min m₁ m, r)` and `(m − min m₁ m, r)` gives the run of the original case with that
ballot — and its entry in every logged ballot view — duplicated: the same candidates, quotients, quota, actions, statuses, winners.
Together with `splitLine_merge` (two adjacent identical lines are the split of their merger) this is the merging direction too.
-/
namespace Droop.C10
open Droop

theorem qpq_split {α : Type} [CommRing α] [LinearOrder α] [IsStrictOrderedRing α] (A : Arith α) (hA : LawfulArith A)
    (c : Case) (hr : c.rule = "qpq") (i m1 : Nat) :
    runRuleSt A (splitLine i m1 c) = (runRuleSt A c).map (xB (splitBallots i m1) (splitViews i)) := by
  have h1 : runRuleSt A (splitLine i m1 c) = runRuleSt' A c (xB (splitBallots i m1) (splitViews i) (initState A c)) := by
    unfold runRuleSt
    rw [runRuleSt'_splitLine, initState_splitLine A]
  rw [h1, runRuleSt_qpq A c hr, runRuleSt'_qpq A c hr]
  exact qpq_xB A hA (XQ_split A hA i m1) _

theorem qpq_split_guarded (p g : Nat) (c : Case) (hr : c.rule = "qpq") (i m1 : Nat) :
    runRuleSt (guardedArith p g) (splitLine i m1 c)
      = (runRuleSt (guardedArith p g) c).map (xB (splitBallots i m1) (splitViews i)) :=
  qpq_split (guardedArith p g) (guarded_lawful p g) c hr i m1

/-- non-vacuity: splitting the first line of the sample profile (2 ballots) into 1 + 1 gives a different case -/
example : (splitLine 0 1 { Driver.sample with rule := "qpq" }).ballots = [(1, [1, 2]), (1, [1, 2]), (1, [2])] := by decide

end Droop.C10
