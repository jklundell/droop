import DroopProofs.DropWQpq
import Props.C11Run
/-!
# C11, second clause, for QPQ: marking a candidate withdrawn yields the record obtained by deleting that candidate

`qpq_withdrawn_is_absent`: for every case with distinct candidate ids under rule `qpq` (guarded arithmetic of any precision and
guard), the run on the case with the withdrawn candidates deleted from the candidate list returns exactly the state of the run on
the full case with the withdrawn candidates deleted from the candidate list, from the saved rounds and from every snapshot of the
record — the same actions in the same order with the same tallies, quotients and quota.  (Ballots never rank a withdrawn candidate:
`ElectionProfile` removes them on reading, C15.)  No hypothesis on the ballots.
-/
namespace Droop.C11
open Droop

theorem qpq_withdrawn_is_absent (p g : Nat) (c : Case) (hr : c.rule = "qpq") (hnd : (c.cands.map (·.1)).Nodup) :
    runRuleSt (guardedArith p g) (deleteWithdrawn c) = (runRuleSt (guardedArith p g) c).map Droop.dropW := by
  rw [runRuleSt_qpq _ c hr, runRuleSt_qpq _ (deleteWithdrawn c) hr, initState_deleteWithdrawn]
  exact qpq_dropW (guardedArith p g) _ (by unfold St.WF; rw [initState_cids]; exact hnd)

/-- non-vacuity: the sample profile has a withdrawn candidate (number 3) -/
example : (deleteWithdrawn { Driver.sample with rule := "qpq" }).cands.length = 2
    ∧ ({ Driver.sample with rule := "qpq" } : Case).cands.length = 3 := by decide

end Droop.C11
