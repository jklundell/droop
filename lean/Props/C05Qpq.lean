import DroopProofs.QpqFirst
import Props.C05Run
/-!
# C05 for QPQ, one seat: a candidate ranked first on more than half of the ballots is elected

`qpq_majority`: for every case in the printed domain with rule `qpq`, one seat, and a candidate `w` with more than half of the
ballots as first preferences, in whatever state the count returns `w` is elected.  Guarded arithmetic of any precision and guard
with `4·geps ≤ 10^(p+g)` (the tolerance is small against one unit: true of the 9+9 digits the rule forces, `forced_digits_ok`).
-/
namespace Droop.C05
open Droop

variable (p g : Nat)

theorem qpqStart_fresh (c : Case) (hok : CaseOK c) : QFresh (qpqStart (guardedArith p g) (initState (guardedArith p g) c)) := by
  have hs := qpqStart_stsig (guardedArith p g) (initState (guardedArith p g) c)
  have hwf0 : (initState (guardedArith p g) c).WF := by unfold St.WF; rw [initState_cids]; exact hok.nodup
  refine ⟨rfl, WF_of_stsig hs hwf0, ?_, ?_⟩
  · intro x hx
    have : (x.cid, x.st) ∈ stsig (qpqStart (guardedArith p g) (initState (guardedArith p g) c)).s :=
      (mem_stsig_iff _ _ _).2 ⟨x, hx, rfl, rfl⟩
    rw [hs] at this
    obtain ⟨y, hy, _, hys⟩ := (mem_stsig_iff _ _ _).1 this
    obtain ⟨k, _, _, hst, _⟩ := mem_initState_cands (guardedArith p g) hy
    rw [← hys, hst]
    split
    · exact Or.inr rfl
    · exact Or.inl rfl
  · intro b hb
    rw [qpqStart_ballots] at hb
    obtain ⟨b0, hb0, rfl⟩ := List.mem_map.1 hb
    obtain ⟨k, hk, _, hr, _, _⟩ := mem_initState_ballots (guardedArith p g) hb0
    obtain ⟨hne, hall⟩ := hok.ballots k hk
    cases hk2 : k.2 with
    | nil => exact absurd hk2 hne
    | cons r rs =>
      refine ⟨r, rs, by simp only; rw [hr, hk2], ?_⟩
      obtain ⟨kc, hkc, hkcid, hkw⟩ := hall r (by rw [hk2]; exact List.mem_cons_self ..)
      obtain ⟨x, hx, hxc, hxs⟩ := initState_cand_of (guardedArith p g) hkc
      rw [isHopeful_iff, ← mem_stsig_iff, hs, mem_stsig_iff]
      refine ⟨x, hx, by rw [hxc, hkcid], ?_⟩
      rw [hxs, hkw]; rfl

theorem start_fpI (c : Case) (w : Nat) :
    fpI (qpqStart (guardedArith p g) (initState (guardedArith p g) c)).s.ballots w = (firstPrefs c w : Int) := by
  rw [qpqStart_ballots]
  unfold fpI firstPrefs initState
  simp only [List.map_map]
  induction c.ballots with
  | nil => simp
  | cons k ks ih =>
    simp only [List.map_cons, List.sum_cons, Function.comp] at ih ⊢
    rw [ih]
    by_cases hk : k.2.head? = some w
    · have hb : (k.2.head? == some w) = true := by simp [hk]
      rw [List.filter_cons_of_pos (p := fun b : ℕ × List ℕ => b.2.head? == some w) (a := k) hb, if_pos hk]
      simp only [List.map_cons, List.sum_cons]
      push_cast; ring
    · have hb : ¬ ((k.2.head? == some w) = true) := by simpa using hk
      rw [List.filter_cons_of_neg (p := fun b : ℕ × List ℕ => b.2.head? == some w) (a := k) hb, if_neg hk, zero_add]

theorem start_nI (c : Case) (hok : CaseOK c) :
    nI (qpqStart (guardedArith p g) (initState (guardedArith p g) c)).s.ballots = (c.nballots : Int) := by
  rw [qpqStart_ballots, hok.nb]
  unfold nI initState
  simp only [List.map_map]
  induction c.ballots with
  | nil => simp
  | cons k ks ih =>
    simp only [List.map_cons, List.sum_cons, Function.comp] at ih ⊢
    rw [ih]; push_cast; ring

/-- a candidate with a first preference is a hopeful candidate of the start state -/
theorem start_hopeful (c : Case) (hok : CaseOK c) (w : Nat) (hpos : 0 < firstPrefs c w) :
    (w, CState.hopeful) ∈ stsig (qpqStart (guardedArith p g) (initState (guardedArith p g) c)).s := by
  rw [qpqStart_stsig]
  have : ∃ k ∈ c.ballots, k.2.head? = some w := by
    unfold firstPrefs at hpos
    by_contra hno
    have : c.ballots.filter (fun b => b.2.head? == some w) = [] := by
      rw [List.filter_eq_nil_iff]
      intro k hk hkw
      exact hno ⟨k, hk, by simpa using hkw⟩
    rw [this] at hpos; simp at hpos
  obtain ⟨k, hk, hkw⟩ := this
  obtain ⟨_, hall⟩ := hok.ballots k hk
  obtain ⟨kc, hkc, hkcid, hkwd⟩ := hall w (List.mem_of_mem_head? hkw)
  obtain ⟨x, hx, hxc, hxs⟩ := initState_cand_of (guardedArith p g) hkc
  rw [mem_stsig_iff]
  exact ⟨x, hx, by rw [hxc, hkcid], by rw [hxs, hkwd]; rfl⟩

/-! ## the loop from a fresh state with one seat -/

/-- if the hopefuls fit the open seats, the closing stage elects each of them -/
theorem finish_elects {α : Type} [CommRing α] [LinearOrder α] [IsStrictOrderedRing α] (A : Arith α) (q : QSt α) (hwf : q.s.WF)
    (hc : q.s.crash = none) (hfit : (q.s.hopeful.length : Int) ≤ q.s.seatsLeft) (w : Nat) (hw : (w, CState.hopeful) ∈ stsig q.s) :
    (w, CState.elected) ∈ stsig (qpqFinish A q) := by
  obtain ⟨x, hx, hxc, hxs⟩ := (mem_stsig_iff _ _ _).1 hw
  unfold qpqFinish
  rw [hc, if_neg (by simp), if_pos (by simpa using hfit)]
  dsimp only
  generalize h4 : q.s.hopeful.foldl (fun acc c => acc.elect A c.cid "Elect remaining candidates" false) q.s = s4
  have hfw4 : StFwd false (stsig q.s) (stsig s4) := by
    rw [← h4]; exact electAll_fwd A false _ hwf
  have hel4 : (w, CState.elected) ∈ stsig s4 := by
    obtain ⟨y, hy, hyc⟩ := foldElect_has A q.s.hopeful (fun _ => "Elect remaining candidates") (fun _ => false) q.s w ⟨x, hx, hxc⟩
    rw [h4] at hy
    refine (mem_stsig_iff _ _ _).2 ⟨y, hy, hyc, ?_⟩
    rw [← h4] at hy
    exact foldElect_all A q.s.hopeful (fun _ => "Elect remaining candidates") (fun _ => false) q.s x (mem_hopeful.2 ⟨hx, hxs⟩) y hy
      (hyc.trans hxc.symm)
  exact (defeatAll_fwd A false "Defeat remaining candidates" (hfw4.WF hwf)).elected_stays hel4

/-- from a fresh state with one seat the loop runs at most one round, and the majority candidate ends up elected -/
theorem majority_loop (q0 : QSt Int) (hfresh : QFresh q0) (hseats0 : q0.s.seats = 1) (hp : 4 * geps g ≤ pow10 (p + g)) (w : Nat)
    (hwhop : (w, CState.hopeful) ∈ stsig q0.s) (hmaj : nI q0.s.ballots < 2 * fpI q0.s.ballots w) (hcr0 : q0.s.crash = none)
    (N : Nat) (hN : 2 ≤ N) (r : QSt Int) (hl : qpqLoop (guardedArith p g) N q0 = some r) :
    (w, CState.elected) ∈ stsig (qpqFinish (guardedArith p g) r) := by
  obtain ⟨k, rfl⟩ := Nat.exists_eq_add_of_le' hN
  have hc0 : q0.s.crash.isSome = false := by rw [hcr0]; rfl
  by_cases hg : qpqCountComplete q0.s = true
  · -- no round is run: the one seat is open, so the hopefuls fit it
    rw [qpqLoop_stop _ _ _ (Or.inr hg)] at hl
    cases hl
    have hnE0 : q0.s.elected.length = 0 := by
      rw [List.length_eq_zero_iff, St.elected, List.filter_eq_nil_iff]
      intro x hx
      rcases hfresh.stat x hx with e | e <;> rw [e] <;> decide
    refine finish_elects _ q0 hfresh.wf hcr0 ?_ w hwhop
    unfold qpqCountComplete at hg
    unfold St.seatsLeft at hg ⊢
    rw [hseats0, hnE0] at hg ⊢
    simpa using hg
  · rw [qpqLoop_round _ _ _ hc0 (eq_false_of_ne_true hg)] at hl
    obtain ⟨hcont, hel, hn1⟩ := first_round_elects p g q0 hfresh hseats0 hp w hwhop hmaj
    have hwf' : (qpqBody (guardedArith p g) q0).1.s.WF := (qpqBody_fwd _ q0 hfresh.wf).WF hfresh.wf
    have hseats' := qpqBody_seats (guardedArith p g) q0
    cases hq : qpqBody (guardedArith p g) q0 with
    | mk q' fl =>
      rw [hq] at hl hcont hel hn1 hwf' hseats'
      simp only at hcont
      rw [hcont] at hl
      simp only at hl
      -- the loop stops at once: the seat is filled
      have hcomp : qpqCountComplete q'.s = true := by
        have hn1' : q'.s.elected.length = 1 := hn1
        unfold qpqCountComplete St.seatsLeft
        rw [hseats', hseats0, hn1']
        rfl
      rw [qpqLoop_stop _ _ _ (Or.inr hcomp)] at hl
      rw [Option.some.inj hl] at hwf' hel
      exact (qpqFinish_fwd _ false r hwf').elected_stays hel

/-- **one seat, QPQ: the majority candidate is elected in whatever state the count returns** -/
theorem qpq_majority (hp : 4 * geps g ≤ pow10 (p + g)) (c : Case) (hr : c.rule = "qpq") (hok : caseOK c = true)
    (hseats : c.seats = 1) (w : Nat) (hmaj : c.nballots < 2 * firstPrefs c w)
    (t : St Int) (h : runRuleSt (guardedArith p g) c = some t) :
    ∃ x ∈ t.cands, x.cid = w ∧ x.st = .elected := by
  have hk := caseOK_iff c hok
  rw [runRuleSt_qpq _ c hr] at h
  obtain ⟨r, hl, rfl⟩ := qpqCount_some _ h
  refine (mem_stsig_iff _ _ _).1 (majority_loop p g _ (qpqStart_fresh p g c hk) ?_ hp w (start_hopeful p g c hk w (by omega)) ?_ ?_
    _ (by omega) r hl)
  · rw [qpqStart_seats]; exact hseats
  · rw [start_nI p g c hk, start_fpI]; exact_mod_cast hmaj
  · rw [qpqStart_crash]; rfl

/-- the digits QPQ forces (9 + 9) meet the side condition -/
theorem forced_digits_ok : 4 * geps 9 ≤ pow10 (9 + 9) := by decide

end Droop.C05

namespace Droop.C05
/-- non-vacuity: the sample profile under QPQ has one seat and a first-preference majority for candidate 1 -/
example : caseOK { Driver.sample with rule := "qpq" } = true ∧ ({ Driver.sample with rule := "qpq" } : Case).seats = 1
    ∧ ({ Driver.sample with rule := "qpq" } : Case).nballots < 2 * firstPrefs { Driver.sample with rule := "qpq" } 1 := by decide
end Droop.C05
