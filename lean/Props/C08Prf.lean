import Props.C04Prf
/-!
# C08 for meek-prf: a round's iteration stops only when converged

`prfIterate` (meek_prf.py B.2) ends in one of these ways (`prf_iterate_cases`), read off the state the last step was applied to:

* `elected`: some hopeful candidate reached the quota in the last step;
* `omega`: nobody did, and the total surplus is below omega — converged;
* `stable`: nobody did, the surplus is not below omega and did not decrease against the previous step — logged as
  "Stable state detected" — or the crash flag is up (a zero tally in the keep-factor update, or the model's fuel ran out:
  the implementation raises / never gets there);

and in the two converged endings every candidate still hopeful holds strictly less than the quota (`prf_converged_rest_below_fixed`).
An exclusion happens only after `omega` or `stable` (`prfBody`: an `elected` ending continues with the next round).
-/
namespace Droop.C08
open Droop
variable {α : Type} [CommRing α] [LinearOrder α] [IsStrictOrderedRing α] (A : Arith α)

theorem prf_iterate_cases (omega : α) :
    ∀ (fuel : Nat) (last : α) (s t : St α) (st : PStatus), prfIterate A omega fuel last s = (t, st) →
      match st with
      | .iterate => False
      | .elected => ∃ s', t = prfS6 A s' ∧ (prfWinners A s').isEmpty = false
      | .omega => ∃ s', t = prfS6 A s' ∧ (prfWinners A s').isEmpty = true ∧ A.lt t.surplus omega = true
      | .stable => t.crash.isSome = true
          ∨ ∃ s' last', t = (prfS6 A s').logMsg "Stable state detected" [] (some (prfS6 A s').surplus)
              ∧ (prfWinners A s').isEmpty = true ∧ A.lt (prfS6 A s').surplus omega = false
              ∧ A.ge (prfS6 A s').surplus last' = true := by
  intro fuel last s t st h
  refine prfIterate_induct A omega (P := fun _ => True) (Q := fun r => r = (t, st) → _) ?_ ?_
    (fun _ _ _ _ => trivial) fuel last s trivial h
  · intro s _ e
    cases e
    exact Or.inl (setCrash_isSome s _)
  · intro last s r _ he e
    subst e
    rcases prfIterExit_some A he with ⟨e, h1⟩ | ⟨e, h1, h2⟩ | ⟨e, h1, h2, h3⟩ | ⟨e, h5⟩
    · cases e
      exact ⟨s, rfl, by simpa using h1⟩
    · cases e
      exact ⟨s, rfl, by simpa using h1, h2⟩
    · cases e
      exact Or.inr ⟨s, last, rfl, by simpa using h1, h2, h3⟩
    · cases e
      exact Or.inl h5

/-- nobody reached the quota in the last step: whoever is hopeful holds strictly less than the quota (fixed-point arithmetic) -/
theorem prf_converged_rest_below_fixed (p : Nat) (s' : St Int) :
    ∀ c ∈ (prfS6 (fixedArith p) s').hopeful, c.vote < (prfS4 (fixedArith p) s').quota :=
  C04.prf_rest_below_fixed p s'

/-- C07 for meek-prf: the candidate excluded after a converged iteration is a hopeful whose tally is within the surplus of the
    lowest tally (reference rule B.3) -/
theorem prf_excluded_near_lowest (s : St α) (hd : Cand α) (hs : List (Cand α)) (hh : s.hopeful = hd :: hs) (lc : Cand α)
    (hb : (breakTie A s (s.hopeful.filter (fun c => A.ge (A.add (A.vMin hd.vote (hs.map (·.vote))) s.surplus) c.vote))
      "Break tie (defeat low candidate)").2 = some lc) :
    lc ∈ s.hopeful ∧ A.ge (A.add (A.vMin hd.vote (hs.map (·.vote))) s.surplus) lc.vote = true := by
  have := breakTie_mem A s _ _ lc hb
  rw [List.mem_filter] at this
  exact this

end Droop.C08
