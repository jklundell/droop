import DroopProofs
/-!
# C04 — the quota is the prescribed one

Quota formulas over exact rationals, for the model's `wigmQuota`, `scotInit`, `meekQuota`.
-/
namespace Droop.C04
open Droop

/-- the first count changes tallies only -/
theorem firstCount_frame {α : Type} [CommRing α] [LinearOrder α] [IsStrictOrderedRing α] (A : Arith α) (s : St α) :
    Frame s (firstCount A s) := by
  unfold firstCount
  apply frame_foldl
  intro t b
  cases b.top with
  | none => exact Frame.refl t
  | some c => exact frame_upd t c _

/-- fixed point (also CfER, PRF, guarded with g = 0): ballots/(seats+1) truncated at `p` places, plus one unit in the last place -/
theorem fixed_quota (p : Nat) (o : WigmOpts) (ho : o.integerQuota = false) (s : St Int) :
    wigmQuota (fixedArith p) o s = ⌊((s.nballots : ℚ) * (pow10 p : ℚ)) / ((s.seats + 1 : Nat) : ℚ)⌋ + 1 := by
  have hS := pow10_pos p
  have hk : ((s.seats + 1 : Nat) : Int) * pow10 p ≠ 0 := by
    have : (0 : Int) < ((s.seats + 1 : Nat) : Int) := by exact_mod_cast Nat.succ_pos _
    exact ne_of_gt (mul_pos this hS)
  have hk0 : ((((s.seats + 1 : Nat) : Int) * pow10 p) == 0) = false := by simpa using hk
  have hq : (fixedArith p).add ((fixedArith p).divV ((fixedArith p).ofInt s.nballots) ((fixedArith p).ofInt ((s.seats + 1 : Nat) : Int))) (fixedArith p).eps
      = ⌊((s.nballots : ℚ) * (pow10 p : ℚ)) / ((s.seats + 1 : Nat) : ℚ)⌋ + 1 := by
    show (if (((s.seats + 1 : Nat) : Int) * pow10 p == 0) = true then 0
          else pdiv ((s.nballots : Int) * pow10 p * pow10 p) (((s.seats + 1 : Nat) : Int) * pow10 p)) + 1 = _
    simp only [hk0, Bool.false_eq_true, if_false]
    rw [pdiv_eq_floor _ _ hk]
    congr 2
    have hSq : (pow10 p : ℚ) ≠ 0 := by exact_mod_cast ne_of_gt hS
    push_cast
    field_simp
  unfold wigmQuota
  by_cases hp : o.prf = true
  · simp only [hp, if_true]; exact hq
  · simp only [hp, ho, Bool.false_eq_true, if_false]
    have : (fixedArith p).exact = false := rfl
    simp only [this, Bool.false_eq_true, if_false]; exact hq

/-- exact arithmetic: the quota is ballots/(seats+1) itself -/
theorem rational_quota (o : WigmOpts) (ho : o.integerQuota = false) (hp : o.prf = false) (s : St Rat) :
    wigmQuota rationalArith o s = (s.nballots : ℚ) / ((s.seats + 1 : Nat) : ℚ) := by
  unfold wigmQuota
  have hne : (((s.seats + 1 : Nat) : Int) : ℚ) ≠ 0 := by
    exact_mod_cast Nat.succ_ne_zero s.seats
  have hne0 : ((((s.seats + 1 : Nat) : Int) : ℚ) == 0) = false := by simpa using hne
  simp only [hp, ho, Bool.false_eq_true, if_false]
  show (if rationalArith.exact = true then
          rationalArith.divV (rationalArith.ofInt s.nballots) (rationalArith.ofInt ((s.seats + 1 : Nat) : Int)) else _) = _
  have : rationalArith.exact = true := rfl
  simp only [this, if_true]
  show (if ((((s.seats + 1 : Nat) : Int) : ℚ) == 0) = true then 0 else ((s.nballots : Int) : ℚ) / (((s.seats + 1 : Nat) : Int) : ℚ)) = _
  simp only [hne0, Bool.false_eq_true, if_false]
  push_cast; rfl

/-- Scottish / Minneapolis / integer_quota: floor(ballots/(seats+1)) + 1 whole votes -/
theorem integer_quota (p : Nat) (s : St Int) :
    (scotInit (fixedArith p) s).quota = (⌊(s.nballots : ℚ) / ((s.seats + 1 : Nat) : ℚ)⌋ + 1) * pow10 p := by
  have hk : ((s.seats + 1 : Nat) : Int) ≠ 0 := by exact_mod_cast Nat.succ_ne_zero s.seats
  have hq : (scotInit (fixedArith p) s).quota = (fixedArith p).ofInt (pdiv s.nballots (s.seats + 1) + 1) := by
    unfold scotInit
    have h1 := frame_logAct (fixedArith p)
      ((firstCount (fixedArith p) (s.setQuota ((fixedArith p).ofInt (pdiv s.nballots (s.seats + 1) + 1)))).setExhausted (fixedArith p).zero)
      "begin" "Begin Count" []
    rw [h1.1]
    show (firstCount (fixedArith p) (s.setQuota _)).quota = _
    exact (firstCount_frame (fixedArith p) _).1
  rw [hq]
  show (pdiv (s.nballots : Int) ((s.seats : Int) + 1) + 1) * pow10 p = _
  have : ((s.seats : Int) + 1) = ((s.seats + 1 : Nat) : Int) := by push_cast; rfl
  rw [this, pdiv_eq_floor _ _ hk]
  push_cast; rfl

theorem wigm_integer_quota (p : Nat) (o : WigmOpts) (ho : o.integerQuota = true) (hp : o.prf = false) (s : St Int) :
    wigmQuota (fixedArith p) o s = (⌊(s.nballots : ℚ) / ((s.seats + 1 : Nat) : ℚ)⌋ + 1) * pow10 p := by
  have hk : ((s.seats + 1 : Nat) : Int) ≠ 0 := by exact_mod_cast Nat.succ_ne_zero s.seats
  unfold wigmQuota
  simp only [hp, ho, Bool.false_eq_true, if_false, if_true]
  show (1 + pdiv (s.nballots : Int) ((s.seats : Int) + 1)) * pow10 p = _
  have : ((s.seats : Int) + 1) = ((s.seats + 1 : Nat) : Int) := by push_cast; rfl
  rw [this, pdiv_eq_floor _ _ hk]
  push_cast; ring

/-- the fixed-point quota satisfies the Droop condition: seats+1 quotas exceed the ballots (so at most `seats` candidates
    can hold one) -/
theorem fixed_quota_is_droop (p n seats : Nat) :
    ((n : Int)) * pow10 p < ((seats + 1 : Nat) : Int) *
      (pdiv ((n : Int) * pow10 p * pow10 p) (((seats + 1 : Nat) : Int) * pow10 p) + 1) :=
  fixed_droopQuota p n seats

/-- non-vacuity: 100 ballots, 3 seats, four places: 25.0001 -/
def s100 : St Int :=
  { method := Method.wigm
    seats := 3
    nballots := 100
    cands := []
    ballots := []
    ballotsEq := []
    quota := 0
    surplus := 0
    votes := 0
    exhausted := 0
    residual := 0
    round := 0
    rounds := []
    acts := []
    crash := none }
example : wigmQuota (fixedArith 4) {} s100 = 250001 := by decide

end Droop.C04
