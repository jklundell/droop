import DroopProofs.PermB
import DroopProofs
/-!
# C01 / C09: the test that keeps the main loop of each rule running, translated from the source

`harness/gen_guard.py` translates, for every rule module that has one, the `while` test of the main loop of `count()`
(`len(C.hopeful()) > E.seatsLeftToFill() > 0`) or the body of `countComplete()` into the small language below; the kernel checks on
every run that the translation is the program committed here.  This file proves the committed programs equal to the guards of the
model: `stdGuard` (wigm, wigm-prf, meek-prf), `meekCountComplete` (meek, warren), `scotCountComplete`, `qpqCountComplete`.
-/
namespace Droop.C01
open Droop

inductive NEx
  | hopeful          -- len(C.hopeful())
  | seatsLeft        -- E.seatsLeftToFill()
  | nSeats           -- self.nSeats
  | elected          -- len(self.C.elected()) / len(self.elected)
  | eligible         -- len(self.C.eligible())
  | lit (n : Int)
  | sub (a b : NEx)
deriving DecidableEq, Repr

inductive GEx
  | gt (a b : NEx) | le (a b : NEx) | lt (a b : NEx) | eq (a b : NEx)
  | and (a b : GEx) | or (a b : GEx)
deriving DecidableEq, Repr

/-- `if c: return True` ... `return False`, or a bare expression -/
inductive GProg
  | expr (e : GEx)
  | ifTrue (c : GEx) (rest : GProg)
  | retFalse
deriving DecidableEq, Repr

variable {α : Type}

def NEx.eval (s : St α) : NEx → Int
  | .hopeful => (s.hopeful.length : Int)
  | .seatsLeft => s.seatsLeft
  | .nSeats => (s.seats : Int)
  | .elected => (s.elected.length : Int)
  | .eligible => (s.eligible.length : Int)
  | .lit n => n
  | .sub a b => a.eval s - b.eval s

def GEx.eval (s : St α) : GEx → Bool
  | .gt a b => decide (a.eval s > b.eval s)
  | .le a b => decide (a.eval s ≤ b.eval s)
  | .lt a b => decide (a.eval s < b.eval s)
  | .eq a b => decide (a.eval s = b.eval s)
  | .and a b => a.eval s && b.eval s
  | .or a b => a.eval s || b.eval s

def GProg.eval (s : St α) : GProg → Bool
  | .expr e => e.eval s
  | .ifTrue c rest => if c.eval s then true else rest.eval s
  | .retFalse => false

/-- `len(C.hopeful()) > E.seatsLeftToFill() > 0` (Python chains the two comparisons with `and`) -/
def whileGuardProg : GProg := .expr (.and (.gt .hopeful .seatsLeft) (.gt .seatsLeft (.lit 0)))
/-- meek.py `countComplete()` -/
def meekCompleteProg : GProg := .expr (.or (.le .hopeful .seatsLeft) (.le .seatsLeft (.lit 0)))
/-- scotland.py / qpq.py `countComplete()` -/
def ifCompleteProg : GProg := .ifTrue (.le .seatsLeft (.lit 0)) (.ifTrue (.le .hopeful .seatsLeft) .retFalse)

theorem stdGuard_is_program (s : St α) : stdGuard s = whileGuardProg.eval s := rfl

theorem meekCountComplete_is_program (s : St α) : meekCountComplete s = meekCompleteProg.eval s := rfl

theorem scotCountComplete_is_program (s : St α) : scotCountComplete s = ifCompleteProg.eval s := by
  unfold scotCountComplete ifCompleteProg GProg.eval GEx.eval NEx.eval
  by_cases h1 : s.seatsLeft ≤ 0 <;> by_cases h2 : (s.hopeful.length : Int) ≤ s.seatsLeft <;> simp [h1, h2, GProg.eval, GEx.eval, NEx.eval]

theorem qpqCountComplete_is_program (s : St α) : qpqCountComplete s = ifCompleteProg.eval s := by
  unfold qpqCountComplete ifCompleteProg GProg.eval GEx.eval NEx.eval
  by_cases h1 : s.seatsLeft ≤ 0 <;> by_cases h2 : (s.hopeful.length : Int) ≤ s.seatsLeft <;> simp [h1, h2, GProg.eval, GEx.eval, NEx.eval]

/-- `maxDefeat = len(C.hopeful()) - E.seatsLeftToFill()`: the cap on a batch of sure losers (wigm_prf.py, meek.py, mpls.py) -/
def maxDefeatProg : NEx := .sub .hopeful .seatsLeft

/-- the sure-loser batch of wigm-prf-batch and of meek / warren (`defeat_batch=safe`) is capped by the translated expression -/
theorem batchDefeatGroups_uses_program [CommRing α] [LinearOrder α] [IsStrictOrderedRing α] (A : Arith α) (s : St α) (surplus : α) :
    batchDefeatGroups A s surplus =
      match scanGroups A surplus (maxDefeatProg.eval s) (sortedGroups A surplus (byVote A false s.hopeful)) 0 0 A.zero none with
      | some g => ((sortedGroups A surplus (byVote A false s.hopeful)).take (g+1)).flatten
      | none => [] := rfl

/-- election.py `seatsLeftToFill()`: `self.nSeats - len(self.C.elected())` -/
def seatsLeftProg : NEx := .sub .nSeats .elected

theorem seatsLeft_is_program (s : St α) : s.seatsLeft = seatsLeftProg.eval s := rfl

/-- election.py `postCheck()`: `nElected == self.nSeats or nElected < self.nSeats and nElected == nEligible` -/
def postCheckProg : GEx := .or (.eq .elected .nSeats) (.and (.lt .elected .nSeats) (.eq .elected .eligible))

/-- the test the driver applies to the state a count returns (`finish`: anything else is the implementation's `AssertionError`) is the
    translated assertion -/
theorem postCheck_is_program (s : St α) :
    (s.elected.length == s.seats || (decide (s.elected.length < s.seats) && s.elected.length == s.eligible.length))
      = postCheckProg.eval s := by
  simp only [postCheckProg, GEx.eval, NEx.eval, Nat.cast_inj, Nat.cast_lt]
  have e : ∀ x y : Nat, (x == y) = decide (x = y) := fun x y => by
    by_cases h : x = y <;> simp [h]
  rw [e, e]

end Droop.C01
