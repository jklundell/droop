import Props.Driver
import DroopModel
import DroopProofs
/-!
# C18 / C19 — the record is append-only, for every rule the driver can run

`Ext s t`: the (newest-first) action log of `s` is a suffix of that of `t` — everything recorded by the time the count was in state `s`
is still there, in the same order, in `t`, followed by what was recorded later. Stated here about `runRuleSt`, the function the model
driver (and therefore the correspondence run) executes, for all eleven rule names.
-/
namespace Droop.C18
open Droop
variable {α : Type} [CommRing α] [LinearOrder α] [IsStrictOrderedRing α] (A : Arith α)

/-- **every rule but meek-prf, every lawful arithmetic**: whatever the count of a well-formed case returns, its record extends the
    (empty) record the election was constructed with — nothing is ever removed, rewritten or reordered -/
theorem record_append_only (hA : LawfulArith A) (hz : A.isZero A.zero = true) (c : Case) (hok : CaseOK c) (hr : c.rule ≠ "meek-prf")
    (t : St α) (h : runRuleSt A c = some t) : Ext (initState A c) t := by
  unfold runRuleSt runRuleSt' at h
  split at h
  · exact wigmCount_appendOnly A _ _ _ h
  · exact wigmCount_appendOnly A _ _ _ h
  · exact wigmCount_appendOnly A _ _ _ h
  · exact scotCount_appendOnly A _ _ h
  · exact cferCount_appendOnly A _ _ _ h
  · exact cferCount_appendOnly A _ _ _ h
  · exact mplsCount_appendOnly A _ _ h
  · rename_i heq
    exact meek_record_appendOnly A hA hz _ _ _ _ (initState_minit A hA c (by rw [heq]; rfl) hok) h
  · rename_i heq
    exact meek_record_appendOnly A hA hz _ _ _ _ (initState_minit A hA c (by rw [heq]; rfl) hok) h
  · rename_i heq
    exact absurd heq hr
  · exact qpq_record_appendOnly A _ _ h
  · cases h

/-- **all eleven rule names in fixed-point arithmetic** (meek-prf always runs in it) -/
theorem record_append_only_fixed (p : Nat) (c : Case) (hok : CaseOK c) (t : St Int)
    (h : runRuleSt (fixedArith p) c = some t) : Ext (initState (fixedArith p) c) t := by
  by_cases hr : c.rule = "meek-prf"
  · unfold runRuleSt runRuleSt' at h
    rw [hr] at h
    exact prfCount_appendOnly p _ _ _ h
  · exact record_append_only (fixedArith p) (fixed_lawful p) rfl c hok hr t h

/-- guarded arithmetic -/
theorem record_append_only_guarded (p g : Nat) (c : Case) (hok : CaseOK c) (hr : c.rule ≠ "meek-prf") (t : St Int)
    (h : runRuleSt (guardedArith p g) c = some t) : Ext (initState (guardedArith p g) c) t :=
  record_append_only (guardedArith p g) (guarded_lawful p g) rfl c hok hr t h

/-- exact rational arithmetic -/
theorem record_append_only_rational (c : Case) (hok : CaseOK c) (hr : c.rule ≠ "meek-prf") (t : St ℚ)
    (h : runRuleSt rationalArith c = some t) : Ext (initState rationalArith c) t :=
  record_append_only rationalArith rational_lawful rfl c hok hr t h

/-- non-vacuity: the sample profile lies in the domain and each of these counts returns, with a non-empty record -/
example : caseOK Driver.sample = true := by decide
example : (runRuleSt (fixedArith 4) { Driver.sample with rule := "mpls" }).map (fun t => (t.crash, t.acts.length)) = some (none, 4) := by
  decide +kernel
example : (runRuleSt (fixedArith 5) { Driver.sample with rule := "scotland" }).map (fun t => (t.crash, decide (0 < t.acts.length))) = some (none, true) := by
  decide +kernel
example : (runRuleSt (fixedArith 9) { Driver.sample with rule := "meek-prf" }).map (fun t => (t.crash, decide (0 < t.acts.length))) = some (none, true) := by
  decide +kernel

end Droop.C18
