import DroopProofs
/-!
# C06 / C08: the re-weighting formula of every Gregory rule and the keep-factor update of the Meek rules, translated from the source

`harness/gen_formula.py` finds, in every Gregory rule module, the one assignment `b.weight = <expr>` that mentions the surplus, and in
`meek.py` / `meek_prf.py` the one assignment `c.kf = V.div(...)`, translates the right-hand sides into the expression language below
and has the kernel check on every run that each is the program committed here (`by rfl`).  This file proves the committed programs
equal to what the model computes: `rewMulDiv` (two truncations: product, then quotient — wigm, wigm-prf, cfer, mpls), `rewMuldivDown`
(one truncation of the exact quotient — scotland), and the keep-factor update (product rounded up, quotient rounded up).
-/
namespace Droop.C06
open Droop

inductive Rnd | up | down
deriving DecidableEq, Repr

/-- value expressions over: the ballot's weight, the surplus, the candidate's tally, its keep factor, the quota -/
inductive WEx
  | weight | surplus | vote | kf | quota | one | zero
  | minus (a b : WEx)                      -- Python `a - b` on values
  | iteLt (a b x y : WEx)                  -- Python `x if a < b else y`
  | times (a b : WEx)                      -- Python `a * b` on values
  | over (a b : WEx)                       -- Python `a / b` on values
  | mul (r : Rnd) (a b : WEx)              -- `V.mul(a, b, round=r)`
  | div (r : Rnd) (a b : WEx)              -- `V.div(a, b, round=r)`
  | muldiv (r : Rnd) (a b c : WEx)         -- `V.muldiv(a, b, c, round=r)`
deriving DecidableEq, Repr

structure WEnv (α : Type) where
  weight : α
  surplus : α
  vote : α
  kf : α
  quota : α

def Rnd.toRound : Rnd → Round
  | .up => .up
  | .down => .down

def WEx.eval {α : Type} (A : Arith α) (env : WEnv α) : WEx → α
  | .weight => env.weight
  | .surplus => env.surplus
  | .vote => env.vote
  | .kf => env.kf
  | .quota => env.quota
  | .one => A.one
  | .zero => A.zero
  | .minus a b => A.sub (a.eval A env) (b.eval A env)
  | .iteLt a b x y => if A.lt (a.eval A env) (b.eval A env) then x.eval A env else y.eval A env
  | .times a b => A.mulV (a.eval A env) (b.eval A env)
  | .over a b => A.divV (a.eval A env) (b.eval A env)
  | .mul r a b => A.mul r.toRound (a.eval A env) (b.eval A env)
  | .div r a b => A.div r.toRound (a.eval A env) (b.eval A env)
  | .muldiv r a b c => A.muldiv r.toRound (a.eval A env) (b.eval A env) (c.eval A env)

/-- `(b.weight * surplus) / candidate.vote` -/
def rewMulDivProg : WEx := .over (.times .weight .surplus) .vote
/-- `V.muldiv(b.weight, surplus, candidate.vote, round='down')` -/
def rewMuldivDownProg : WEx := .muldiv .down .weight .surplus .vote
/-- `V.div(V.mul(c.kf, E.quota, round='up'), c.vote, round='up')` -/
def kfUpdateProg : WEx := .div .up (.mul .up .kf .quota) .vote

/-- meek.py `kw_warren(kf, weight)`: `(kf if kf < weight else weight, weight - keep)` with `keep` inlined -/
def kwWarrenProg : WEx × WEx := (.iteLt .kf .weight .kf .weight, .minus .weight (.iteLt .kf .weight .kf .weight))
/-- meek.py `kw_meekOpenSTV(kf, weight)`: `(V.mul(weight, kf, round='down'), V.mul(weight, V1-kf, round='down'))` -/
def kwMeekProg : WEx × WEx := (.mul .down .weight .kf, .mul .down .weight (.minus .one .kf))
/-- meek_prf.py B.2.a: `keep_weight = V.mul(b.weight, c.kf, round='up')` -/
def kwPrfProg : WEx := .mul .up .weight .kf

/-- candidate.py `surplus`: `s = self.vote - self.E.quota; return self.E.V0 if s < self.E.V0 else s` (local inlined) -/
def candSurplusProg : WEx := .iteLt (.minus .vote .quota) .zero .zero (.minus .vote .quota)

variable {α : Type} (A : Arith α)

theorem rewMulDiv_is_program (w sp v k q : α) :
    rewMulDiv A w sp v = rewMulDivProg.eval A { weight := w, surplus := sp, vote := v, kf := k, quota := q } := rfl

theorem rewMuldivDown_is_program (w sp v k q : α) :
    rewMuldivDown A w sp v = rewMuldivDownProg.eval A { weight := w, surplus := sp, vote := v, kf := k, quota := q } := rfl

/-- wigm, wigm-prf: the surplus step re-weights with the translated formula -/
theorem wigmSurplusStep_uses_program (s : St α) :
    wigmSurplusStep A s =
      match maxVoteOf A s.pendingL with
      | none => s
      | some hv =>
        match breakTie A s (s.pendingL.filter (fun c => A.eq c.vote hv)) "Break tie (surplus)" with
        | (s1, some hc) =>
          transferSurplus A (s1.unpendLog A hc.cid "Transfer high surplus") hc
            (fun w sp v => rewMulDivProg.eval A { weight := w, surplus := sp, vote := v, kf := A.zero, quota := A.zero }) "Surplus transferred"
        | (s1, none) => s1 := rfl

/-- scotland -/
theorem scotSurplusStep_uses_program (s : St α) :
    scotSurplusStep A s =
      match maxVoteOf A s.pendingL with
      | none => s
      | some hv =>
        match scotBreakTie A s (s.pendingL.filter (fun c => A.eq c.vote hv)) false "largest surplus" with
        | (s3, some hc) =>
          transferSurplus A (s3.unpendLog A hc.cid "Transfer high surplus") hc
            (fun w sp v => rewMuldivDownProg.eval A { weight := w, surplus := sp, vote := v, kf := A.zero, quota := A.zero }) "Surplus transferred"
        | (s3, none) => s3 := rfl

/-- cfer, cfer-batch -/
theorem cferSurplusOne_uses_program (acc : St α) (c : Cand α) :
    cferSurplusOne A acc c =
      match acc.cand? c.cid with
      | some cur => transferSurplus A (acc.unpendLog A c.cid "Transfer surplus") cur
          (fun w sp v => rewMulDivProg.eval A { weight := w, surplus := sp, vote := v, kf := A.zero, quota := A.zero }) "Surplus transferred"
      | none => acc := rfl

/-- meek, warren (capped at one), meek-prf (not capped): the keep-factor update applies the translated formula -/
theorem kfUpdate_uses_program (cap : Bool) (s : St α) :
    kfUpdate A cap s =
      s.elected.foldl (fun acc c =>
        match c.kf with
        | some kf =>
          if A.isZero c.vote then acc.setCrash "ZeroDivisionError"
          else acc.upd c.cid (fun x => { x with kf := some (kfCap A cap
            (kfUpdateProg.eval A { weight := A.zero, surplus := A.zero, vote := c.vote, kf := kf, quota := acc.quota })) })
        | none => acc.setCrash "TypeError") s := rfl

/-- meek and warren share a ballot's weight by the translated functions (`kt = kw_warren if self.warren else kw_meekOpenSTV`) -/
theorem keepWeight_is_program (warren : Bool) (kf w : α) :
    keepWeight A warren kf w =
      if warren then
        (kwWarrenProg.1.eval A { weight := w, surplus := A.zero, vote := A.zero, kf := kf, quota := A.zero },
         kwWarrenProg.2.eval A { weight := w, surplus := A.zero, vote := A.zero, kf := kf, quota := A.zero })
      else
        (kwMeekProg.1.eval A { weight := w, surplus := A.zero, vote := A.zero, kf := kf, quota := A.zero },
         kwMeekProg.2.eval A { weight := w, surplus := A.zero, vote := A.zero, kf := kf, quota := A.zero }) := by
  unfold keepWeight
  split <;> rfl

/-- meek-prf keeps `V.mul(weight, kf, round='up')` of the weight and passes on the rest -/
theorem prfRankStep_uses_program (mult : α) (acc : St α × α × α × Bool) (cid : Nat) :
    prfRankStep A mult acc cid =
      if acc.2.2.2 then acc else
      match kfOf acc.1 cid with
      | some kf =>
        if A.isZero kf then acc else
        (acc.1.addVote A cid (A.mulV (kwPrfProg.eval A { weight := acc.2.1, surplus := A.zero, vote := A.zero, kf := kf, quota := A.zero }) mult),
         A.sub acc.2.1 (kwPrfProg.eval A { weight := acc.2.1, surplus := A.zero, vote := A.zero, kf := kf, quota := A.zero }),
         A.sub acc.2.2.1 (A.mulV (kwPrfProg.eval A { weight := acc.2.1, surplus := A.zero, vote := A.zero, kf := kf, quota := A.zero }) mult),
         A.le (A.sub acc.2.1 (kwPrfProg.eval A { weight := acc.2.1, surplus := A.zero, vote := A.zero, kf := kf, quota := A.zero })) A.zero)
      | none => acc := rfl

/-- a candidate's surplus (scotland, mpls: which surplus is the largest, the total surplus) is the translated property -/
theorem candSurplus_is_program (s : St α) (c : Cand α) :
    candSurplus A s c = candSurplusProg.eval A { weight := A.zero, surplus := A.zero, vote := c.vote, kf := A.zero, quota := s.quota } := rfl

end Droop.C06
