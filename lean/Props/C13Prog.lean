import DroopModel
import DroopProofs
/-!
# C13: `Guarded.__cmp__` and the rich comparisons, obtained from the source by symbolic execution

`harness/gen_cmp.py` executes `Guarded.__cmp__` symbolically (forking at every `if`; a chained comparison is a conjunction; an assignment to
`Guarded.maxDiff` / `Guarded.minDiff` is a state update followed by the rest of the body) and checks that the six rich comparisons of
`Guarded` are `self.__cmp__(other) <op> 0` and those of `Fixed` are the integer comparison of the two `_value`s; the kernel checks the
program and the two tables equal to the ones committed here on every C13 run.  `cmp_is_program` proves that the program computes exactly the
model's comparison (`guardedCmp`: within `geps` of each other = equal) *and* the model's statistics bookkeeping (`statsStep`).
-/
namespace Droop.C13
open Droop

/-- integer terms of `__cmp__`: `self._value`, `other._value`, the class attributes, `abs(x - y)`, literals -/
inductive CE | a | b | geps | maxDiff | minDiff | absdiff (x y : CE) | lit (n : Int)
deriving DecidableEq, Repr

inductive CB | lt (x y : CE) | le (x y : CE) | gt (x y : CE) | ge (x y : CE) | eq (x y : CE) | ne (x y : CE) | and (p q : CB)
deriving DecidableEq, Repr

/-- the body of `__cmp__` as a tree: return an integer, branch, or update a statistic and go on -/
inductive CP | ret (n : Int) | ite (c : CB) (t e : CP) | setMax (e : CE) (k : CP) | setMin (e : CE) (k : CP)
deriving DecidableEq, Repr

def CE.eval (va vb vg : Int) (s : CmpStats) : CE → Int
  | .a => va | .b => vb | .geps => vg | .maxDiff => s.maxDiff | .minDiff => s.minDiff
  | .absdiff x y => ((x.eval va vb vg s - y.eval va vb vg s).natAbs : Int)
  | .lit n => n

def CB.eval (va vb vg : Int) (s : CmpStats) : CB → Bool
  | .lt x y => decide (x.eval va vb vg s < y.eval va vb vg s)
  | .le x y => decide (x.eval va vb vg s ≤ y.eval va vb vg s)
  | .gt x y => decide (x.eval va vb vg s > y.eval va vb vg s)
  | .ge x y => decide (x.eval va vb vg s ≥ y.eval va vb vg s)
  | .eq x y => decide (x.eval va vb vg s = y.eval va vb vg s)
  | .ne x y => decide (x.eval va vb vg s ≠ y.eval va vb vg s)
  | .and p q => p.eval va vb vg s && q.eval va vb vg s

def CP.eval (va vb vg : Int) (s : CmpStats) : CP → Int × CmpStats
  | .ret n => (n, s)
  | .ite c t e => if c.eval va vb vg s then t.eval va vb vg s else e.eval va vb vg s
  | .setMax e k => k.eval va vb vg { s with maxDiff := e.eval va vb vg s }
  | .setMin e k => k.eval va vb vg { s with minDiff := e.eval va vb vg s }

/-! ## the committed program and tables (the generated ones are compared with these) -/

def G : CE := .absdiff .a .b
def decideP : CP := .ite (.lt G .geps) (.ret 0) (.ite (.gt .a .b) (.ret 1) (.ret (-1)))
def minP : CP := .ite (.and (.le .geps G) (.lt G .minDiff)) (.setMin G decideP) decideP
def cmpProg : CP := .ite (.and (.gt .geps G) (.gt G .maxDiff)) (.setMax G minP) minP

def guardedOps : List (String × String) :=
  [("__eq__", "=="), ("__ne__", "!="), ("__lt__", "<"), ("__le__", "<="), ("__gt__", ">"), ("__ge__", ">=")]
def fixedOps : List (String × String) :=
  [("__eq__", "__eq__"), ("__ne__", "__ne__"), ("__lt__", "__lt__"), ("__le__", "__le__"), ("__gt__", "__gt__"), ("__ge__", "__ge__")]

set_option linter.unusedSimpArgs false in
/-- **`Guarded.__cmp__` as read from the source**: its result is the model's `guardedCmp`, and what it does to the class statistics is the
    model's `statsStep`, for every pair of stored values, every number of guard digits and every earlier state of the statistics -/
theorem cmp_is_program (g : Nat) (s : CmpStats) (x y : Int) :
    cmpProg.eval x y (geps g) s = (guardedCmp g x y, statsStep g s (x, y)) := by
  unfold guardedCmp statsStep
  simp only [cmpProg, minP, decideP, G, CP.eval, CB.eval, CE.eval, Bool.and_eq_true, decide_eq_true_eq, Int.natCast_natAbs]
  generalize |x - y| = d
  by_cases h1 : d < geps g
  · have h1' : ¬ geps g ≤ d := not_le.2 h1
    by_cases h2 : s.maxDiff < d <;> by_cases h3 : d < s.minDiff <;> by_cases h4 : y < x <;> simp [h1, h1', h2, h3, h4]
  · have h1' : geps g ≤ d := not_lt.1 h1
    by_cases h2 : s.maxDiff < d <;> by_cases h3 : d < s.minDiff <;> by_cases h4 : y < x <;> simp [h1, h1', h2, h3, h4]

/-- the comparisons the rules use are `__cmp__` against 0, as in `guardedOps` -/
theorem guarded_ops_are_cmp (p g : Nat) (x y : Int) :
    (guardedArith p g).eq x y = (guardedCmp g x y == 0) ∧ (guardedArith p g).lt x y = decide (guardedCmp g x y < 0)
    ∧ (guardedArith p g).le x y = decide (guardedCmp g x y ≤ 0) ∧ (guardedArith p g).gt x y = decide (guardedCmp g x y > 0)
    ∧ (guardedArith p g).ge x y = decide (guardedCmp g x y ≥ 0) := ⟨rfl, rfl, rfl, rfl, rfl⟩

/-- Fixed compares the stored integers, as in `fixedOps` -/
theorem fixed_ops_are_int (p : Nat) (x y : Int) :
    (fixedArith p).eq x y = decide (x = y) ∧ (fixedArith p).lt x y = decide (x < y) ∧ (fixedArith p).le x y = decide (x ≤ y)
    ∧ (fixedArith p).gt x y = decide (x > y) ∧ (fixedArith p).ge x y = decide (x ≥ y) :=
  fixed_cmp_ops p x y

/-- the program on concrete values (a test): 5+2 digits, two values 3 units apart are equal, the statistic records the 3 -/
example : cmpProg.eval 1000003 1000000 (geps 2) { maxDiff := 0, minDiff := 10 ^ 9 } = (0, { maxDiff := 3, minDiff := 10 ^ 9 }) := by
  decide +kernel

end Droop.C13
