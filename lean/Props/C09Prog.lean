import DroopProofs
/-!
# C09: the candidate selectors of candidates.py (`Candidates.select`), translated from the source

`select(state, ...)` picks the candidates of a status; `eligible`, `pending` and `notpending` are statuses with a test of their own.
`harness/gen_select.py` translates the `if`/`elif` chain into the table below (kernel-checked equal to it on every C09 run); this file
proves the model's selectors (`eligible`, `hopeful`, `elected`, `pendingL`) are the filters the table denotes.
-/
namespace Droop.C09
open Droop

inductive SelTest
  | all                                   -- `candidates = self`
  | stateNe (s : String)                  -- `c.state != s`
  | stateEq (s : String)                  -- `c.state == s`
  | stateEqParam                          -- `c.state == state` (the final `else`)
  | andPending (t : SelTest)              -- `t and c.pending`
  | andNotPending (t : SelTest)           -- `t and not c.pending`
deriving DecidableEq, Repr

structure SelProg where
  cases : List (String × SelTest)         -- `if state == name: ...` in source order
  dflt : SelTest
deriving DecidableEq, Repr

def stateName : CState → String
  | .hopeful => "hopeful" | .elected => "elected" | .defeated => "defeated" | .withdrawn => "withdrawn"

variable {α : Type}

def SelTest.eval (param : String) : SelTest → Cand α → Bool
  | .all, _ => true
  | .stateNe s, c => stateName c.st != s
  | .stateEq s, c => stateName c.st == s
  | .stateEqParam, c => stateName c.st == param
  | .andPending t, c => t.eval param c && c.pending
  | .andNotPending t, c => t.eval param c && !c.pending

def SelProg.test (p : SelProg) (state : String) : Cand α → Bool :=
  match p.cases.find? (fun e => e.1 == state) with
  | some e => e.2.eval state
  | none => p.dflt.eval state

def selectProg : SelProg :=
  { cases := [("all", .all), ("eligible", .stateNe "withdrawn"), ("pending", .andPending (.stateEq "elected")),
              ("notpending", .andNotPending (.stateEq "elected"))],
    dflt := .stateEqParam }

/-- comparing status names is comparing statuses (a table of four names) -/
theorem stateName_beq (a b : CState) : (stateName a == stateName b) = (a == b) := by cases a <;> cases b <;> rfl

theorem eligible_is_program (s : St α) : s.eligible = s.cands.filter (selectProg.test "eligible") :=
  List.filter_congr fun c _ => congrArg (!·) (stateName_beq c.st .withdrawn).symm

theorem hopeful_is_program (s : St α) : s.hopeful = s.cands.filter (selectProg.test "hopeful") :=
  List.filter_congr fun c _ => (stateName_beq c.st .hopeful).symm

theorem elected_is_program (s : St α) : s.elected = s.cands.filter (selectProg.test "elected") :=
  List.filter_congr fun c _ => (stateName_beq c.st .elected).symm

theorem pending_is_program (s : St α) : s.pendingL = s.cands.filter (selectProg.test "pending") :=
  List.filter_congr fun c _ => congrArg (· && c.pending) (stateName_beq c.st .elected).symm

end Droop.C09
