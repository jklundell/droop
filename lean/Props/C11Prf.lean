import DroopProofs.DropWPrf
import Props.C11Run
/-!
# C11, second clause, for meek-prf

`prf_withdrawn_is_absent`: for every case with distinct candidate ids under rule `meek-prf` (fixed-point arithmetic of any
precision — the rule forces 9 digits): whenever the count of the full case and the count of the case with the withdrawn candidates
deleted both return, the second state is the first with the withdrawn candidates deleted from the candidate list, the saved rounds
and every snapshot of the record.  No hypothesis on the ballots.  With this, the second clause of C11 is a theorem for all eleven
rule names.
-/
namespace Droop.C11
open Droop

theorem prf_withdrawn_is_absent (p : Nat) (c : Case) (hr : c.rule = "meek-prf") (hnd : (c.cands.map (·.1)).Nodup)
    (t t' : St Int) (h : runRuleSt (fixedArith p) c = some t) (h' : runRuleSt (fixedArith p) (deleteWithdrawn c) = some t') :
    t' = Droop.dropW t := by
  have h0 : WDead (fixedArith p) (initState (fixedArith p) c) := by
    refine ⟨by unfold St.WF; rw [initState_cids]; exact hnd, ?_⟩
    intro x hx _
    obtain ⟨k, _, _, _, _, _, _, hkf⟩ := mem_initState_cands (fixedArith p) hx
    exact Or.inl hkf
  unfold runRuleSt at h h'
  rw [initState_deleteWithdrawn, runRuleSt'_prf _ (deleteWithdrawn c) hr] at h'
  rw [runRuleSt'_prf _ c hr] at h
  exact prf_dropW (fixedArith p) 100000 _ t t' h0 h h'

/-- non-vacuity: the sample profile (candidate 3 withdrawn) under meek-prf: both counts return -/
example : (runRuleSt (fixedArith 9) { Driver.sample with rule := "meek-prf" }).isSome = true
    ∧ (runRuleSt (fixedArith 9) (deleteWithdrawn { Driver.sample with rule := "meek-prf" })).isSome = true := by decide +kernel

end Droop.C11
