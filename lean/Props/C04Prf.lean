import Props.C04Meek
/-!
# C04 for meek-prf: the quota of every iteration is the prescribed one, and whoever reaches it is elected

One iteration of `meek_prf.py` B.2: distribute (`prfS2`), total the active tallies and recompute the quota (`prfS4`), elect every
hopeful candidate at or above it (`prfS5`), compute the surplus (`prfS6`).

* `prf_quota_prescribed` / `prf_quota_fixed`: the quota is the active total divided by seats + 1, truncated to the working precision,
  plus one unit in the last place (reference rule B.2.b);
* `prf_reaches_quota_is_elected`, `prf_no_hopeful_holds_quota`, `prf_rest_below_fixed`: every hopeful candidate at or above the
  quota is elected in the state the iteration returns, and whoever is still hopeful holds strictly less (B.2.c).
-/
namespace Droop.C04
open Droop
variable {α : Type} [CommRing α] [LinearOrder α] [IsStrictOrderedRing α] (A : Arith α)

theorem prf_quota_prescribed (s : St α) :
    (prfS6 A s).quota = A.add (A.fdivV (activeVotes A (prfS2 A s)) (A.ofInt ((prfS2 A s).seats + 1))) A.eps := by
  show ((prfWinners A s).foldl (fun acc c => acc.elect A c.cid "Elect" false) (prfS4 A s)).quota = _
  rw [foldElect_quota]
  rfl

theorem prf_quota_fixed (p : Nat) (s : St Int) :
    (prfS6 (fixedArith p) s).quota
      = pdiv (activeVotes (fixedArith p) (prfS2 (fixedArith p) s) * pow10 p) (((prfS2 (fixedArith p) s).seats + 1 : Int) * pow10 p) + 1 := by
  rw [prf_quota_prescribed]
  show (if ((((prfS2 (fixedArith p) s).seats + 1 : Int) * pow10 p) == 0) = true then 0
      else pdiv (activeVotes (fixedArith p) (prfS2 (fixedArith p) s) * pow10 p) (((prfS2 (fixedArith p) s).seats + 1 : Int) * pow10 p)) + 1 = _
  have hS := pow10_pos p
  have hne : ((((prfS2 (fixedArith p) s).seats + 1 : Int) * pow10 p) == 0) = false := by
    have : (0 : Int) < ((prfS2 (fixedArith p) s).seats + 1 : Int) * pow10 p := by positivity
    simp only [beq_eq_false_iff_ne, ne_eq]
    omega
  rw [hne]
  rfl

theorem prf_reaches_quota_is_elected (s : St α) (w : Cand α) (hw : w ∈ (prfS4 A s).hopeful)
    (hq : A.ge w.vote (prfS4 A s).quota = true) :
    ∀ x ∈ (prfS6 A s).cands, x.cid = w.cid → x.st = .elected := by
  have hm : w ∈ prfWinners A s := by unfold prfWinners; rw [List.mem_filter]; exact ⟨hw, hq⟩
  exact foldElect_all A _ (fun _ => "Elect") (fun _ => false) (prfS4 A s) w hm

theorem prf_no_hopeful_holds_quota (s : St α) :
    ∀ c ∈ (prfS6 A s).hopeful, c ∈ (prfS4 A s).hopeful ∧ A.ge c.vote (prfS4 A s).quota = false := by
  intro c hc
  have hc' : c ∈ ((prfWinners A s).foldl (fun acc c => acc.elect A c.cid "Elect" false) (prfS4 A s)).hopeful := hc
  obtain ⟨h1, h2⟩ := foldElect_rest A "Elect" (prfWinners A s)
    (fun w hw => by unfold prfWinners at hw; exact (List.mem_filter.1 hw).1) c hc'
  refine ⟨h1, ?_⟩
  by_contra hq
  apply h2
  unfold prfWinners
  rw [List.mem_filter]
  exact ⟨h1, by simpa using hq⟩

theorem prf_rest_below_fixed (p : Nat) (s : St Int) :
    ∀ c ∈ (prfS6 (fixedArith p) s).hopeful, c.vote < (prfS4 (fixedArith p) s).quota := by
  intro c hc
  exact lt_of_ge_false p _ _ (prf_no_hopeful_holds_quota (fixedArith p) s c hc).2

end Droop.C04
