import DroopModel
import DroopProofs
/-!
# C20 — a count is independent of whatever was counted before it in the process

The only state that survives from one election to the next is the class-level configuration of the three value
classes, modelled attribute by attribute in `DroopModel/Session.lean` (`ClassState`). `initialize` is the list of
attribute assignments it performs (in program order, the partial ones before an exception and the conditional ones
included) applied to the incoming state. (The correspondence run compares the resulting state with the real class
attributes after every constructor of generated histories.)

* The *outcome* of constructing an election (effective options, arithmetic configuration, error class) is by
  construction a function of the options: `(initS o st).2 = (trace o).2`.
* After a successful `initialize` every attribute is overwritten — for Guarded, every attribute except `__scaledg`
  and `epsilon`, which are written exactly when an operation can read them (`display > precision`, `guard = 0`).
  Hence the state seen by any operation does not depend on the history.
-/
namespace Droop.C20
open Droop

theorem fixed_outcome_indep (o : Options) (st1 st2 : FixedSt) : (fixedInitS o st1).2 = (fixedInitS o st2).2 := rfl
theorem guarded_outcome_indep (o : Options) (st1 st2 : GuardedSt) : (guardedInitS o st1).2 = (guardedInitS o st2).2 := rfl
theorem rational_outcome_indep (o : Options) (st1 st2 : RationalSt) : (rationalInitS o st1).2 = (rationalInitS o st2).2 := rfl

/-! Each trace returns `.ok` on one path only; on it the list of assignments is the one stated. The cases of `fun_cases` are the
exits of the trace function itself; all but that one return an error. -/

theorem ipow10_sub (p d : Nat) : ipow10 ((p : Int) - d) = pow10 (p - d) :=
  congrArg pow10 (by omega)

theorem fixedTrace_ok (o : Options) (r : Options × ArithCfg) (h : (fixedTrace o).2 = .ok r) :
    ∃ (nm : String) (p d : Nat) (o2 : Options), d ≤ p ∧ r = (o2, .fixed p d) ∧
      (fixedTrace o).1 = [.name nm, .precision p, .scale (pow10 p), .display d, .scaled (pow10 d), .scaledd (pow10 (p - d)),
        .scaledr (pow10 (p - d) / 2), .epsilon 1, .dfmt d, .info (fixedInfo p d)] := by
  revert h
  fun_cases fixedTrace o <;> intro h
  -- the one exit that returns `.ok`: precision `p ≥ 0`, display clamped into `0 .. p`
  case case9 p _ hp _ _ d0 _ =>
    simp only [Bool.or_eq_true, decide_eq_true_eq, not_or, not_lt] at hp
    generalize hd : (if d0 < 0 || d0 > p then p else d0) = d at h ⊢
    have hd' : 0 ≤ d ∧ d ≤ p := by
      rw [← hd]
      split <;> simp_all
    obtain ⟨p, rfl⟩ := Int.eq_ofNat_of_zero_le hp.1
    obtain ⟨d, rfl⟩ := Int.eq_ofNat_of_zero_le hd'.1
    exact ⟨_, p, d, _, by omega, (Except.ok.inj h).symm, by rw [ipow10_sub]; rfl⟩
  all_goals cases h

theorem guardedTrace_ok (o : Options) (r : Options × ArithCfg) (h : (guardedTrace o).2 = .ok r) :
    ∃ (p g d0 : Nat) (o2 : Options), r = (o2, .guarded p g (if d0 > p + g then p + g else d0)) ∧
      (guardedTrace o).1 = [.precision p, .guard g, .display d0] ++ guardedTail p g d0 := by
  revert h
  fun_cases guardedTrace o <;> intro h
  case case7 => exact ⟨_, _, _, _, (Except.ok.inj h).symm, rfl⟩
  all_goals cases h

theorem rationalTrace_ok (o : Options) (r : Options × ArithCfg) (h : (rationalTrace o).2 = .ok r) :
    ∃ (n : Int) (o1 : Options), 0 ≤ n ∧ r = (o1, .rational n.toNat) ∧
      (rationalTrace o).1 = [.dp (some n), .dps (some (ipow10 n)), .dfmt n] := by
  revert h
  fun_cases rationalTrace o <;> intro h
  case case3 n _ hn => exact ⟨n, _, by omega, (Except.ok.inj h).symm, rfl⟩
  all_goals cases h

/-- **Fixed**: a successful initialize overwrites every class attribute -/
theorem fixed_state_indep (o : Options) (st1 st2 : FixedSt) (r : Options × ArithCfg)
    (h : (fixedInitS o st1).2 = .ok r) : (fixedInitS o st1).1 = (fixedInitS o st2).1 := by
  obtain ⟨_, _, _, _, -, -, ht⟩ := fixedTrace_ok o r h
  unfold fixedInitS
  rw [ht]
  rfl

/-- **Rational**: a successful initialize overwrites every class attribute -/
theorem rational_state_indep (o : Options) (st1 st2 : RationalSt) (r : Options × ArithCfg)
    (h : (rationalInitS o st1).2 = .ok r) : (rationalInitS o st1).1 = (rationalInitS o st2).1 := by
  obtain ⟨_, _, -, -, ht⟩ := rationalTrace_ok o r h
  unfold rationalInitS
  rw [ht]
  rfl

/-- two Guarded class states that no operation can tell apart: every attribute agrees, except that `__scaledg` need only
    agree when `display > precision` (the only case in which `__str__` reads it) and `epsilon` need only agree when the
    arithmetic is not exact (the only case in which a rule reads it) -/
structure GObsEq (a b : GuardedSt) : Prop where
  precision : a.precision = b.precision
  guard : a.guard = b.guard
  display : a.display = b.display
  scalep : a.scalep = b.scalep
  scaleg : a.scaleg = b.scaleg
  scale : a.scale = b.scale
  scaledd : a.scaledd = b.scaledd
  scaledr : a.scaledr = b.scaledr
  scaled : a.scaled = b.scaled
  geps : a.geps = b.geps
  maxDiff : a.maxDiff = b.maxDiff
  minDiff : a.minDiff = b.minDiff
  dfmtP : a.dfmtP = b.dfmtP
  dfmtG : a.dfmtG = b.dfmtG
  info : a.info = b.info
  quasiExact : a.quasiExact = b.quasiExact
  exact : a.exact = b.exact
  scaledg : ∀ p d, a.precision = some p → a.display = some d → p < d → a.scaledg = b.scaledg
  epsilon : a.exact = false → a.epsilon = b.epsilon

/-- **Guarded**: after a successful initialize no operation can see the previous class state -/
theorem guarded_state_indep (o : Options) (st1 st2 : GuardedSt) (r : Options × ArithCfg)
    (h : (guardedInitS o st1).2 = .ok r) : GObsEq (guardedInitS o st1).1 (guardedInitS o st2).1 := by
  obtain ⟨p, g, d0, _, -, ht⟩ := guardedTrace_ok o r h
  unfold guardedInitS
  rw [ht]
  unfold guardedTail
  generalize (if d0 > p + g then p + g else d0) = d
  by_cases hd : d > p <;> by_cases hg : (g == 0) = true <;>
    simp only [hd, hg, if_true, if_false, Bool.false_eq_true, List.cons_append, List.nil_append, List.append_nil,
      List.foldl_cons, List.foldl_nil, GuardedSt.write] <;>
    constructor <;> try rfl
  -- left in each of the four cases: `__scaledg` and `epsilon`, either just written or not readable
  · intro _ _ _ _ _; rfl
  · intro _; rfl
  · intro _ _ _ _ _; rfl
  · intro h; cases h
  · intro _ _ hp hd' hlt; cases hp; cases hd'; omega
  · intro _; rfl
  · intro _ _ hp hd' hlt; cases hp; cases hd'; omega
  · intro h; cases h

/-- `__str__` reads the same attributes from observationally equal states -/
theorem strGuardedS_obs (a b : GuardedSt) (h : GObsEq a b) (v : Int) : strGuardedS a v = strGuardedS b v := by
  unfold strGuardedS
  rw [← h.precision, ← h.display]
  cases hp : a.precision with
  | none => rfl
  | some p =>
    cases hd : a.display with
    | none => rfl
    | some d =>
      rw [← h.scaledr, ← h.scaledd, ← h.scaled, ← h.dfmtP, ← h.dfmtG]
      by_cases hle : d ≤ p
      · simp only [Option.bind_some, bind, hle, if_true]
      · rw [← h.scaledg p d hp hd (by omega)]

/-- **what a printed value looks like after a successful initialize does not depend on the history** -/
theorem guarded_str_indep (o : Options) (st1 st2 : GuardedSt) (r : Options × ArithCfg)
    (h : (guardedInitS o st1).2 = .ok r) (v : Int) :
    strGuardedS (guardedInitS o st1).1 v = strGuardedS (guardedInitS o st2).1 v :=
  strGuardedS_obs _ _ (guarded_state_indep o st1 st2 r h) v

/-- the outcome of constructing an election never depends on the class state left by earlier elections -/
theorem setup_outcome_indep (cmd : Dict) (file : List String) (cs1 cs2 : ClassState) :
    (electionSetupS cmd file cs1).2 = (electionSetupS cmd file cs2).2 := by
  have hA : ∀ o, (arithmeticClassS o cs1).2 = (arithmeticClassS o cs2).2 := by
    intro o
    unfold arithmeticClassS
    split
    · rfl
    · split
      · rfl
      · split
        · rfl
        · split <;> rfl
  unfold electionSetupS
  dsimp only
  split
  · rfl
  · split
    · split
      · rfl
      · split
        · rfl
        · rename_i o2 rp _
          have := hA o2
          revert this
          cases arithmeticClassS o2 cs1 with
          | mk a b =>
            cases arithmeticClassS o2 cs2 with
            | mk c d =>
              intro hbd
              simp only at hbd
              subst hbd
              cases b <;> rfl
    · rfl

/-- the same after any two histories -/
theorem session_outcome_indep (cmd : Dict) (file : List String) (cs1 cs2 : ClassState) (h1 h2 : List (Dict × List String)) :
    (electionSetupS cmd file (runSession cs1 h1)).2 = (electionSetupS cmd file (runSession cs2 h2)).2 :=
  setup_outcome_indep cmd file _ _

/-- non-vacuity: a guarded election initialises successfully from the pristine state -/
example : ((guardedInitS { cmd := [("arithmetic", .s "guarded"), ("precision", .i 4), ("guard", .i 2)] } {}).2.toOption.isSome) = true := by
  decide

end Droop.C20
