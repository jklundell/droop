import DroopModel
import DroopProofs
import Mathlib.Tactic.Linarith
/-!
# C08 — Meek / Warren iterations

* `distributeVotes_sum` (DroopProofs/MeekDist.lean): after a distribution over strict ballots, votes credited plus the
  residual equal what was there at the start plus the ballots — with no hypothesis on keep factors, precision or omega.
* the keep-factor update `kf' = ⌈⌈kf·q⌉ / v⌉` (both roundings up) keeps an elected candidate's keep factor in (0, 1]
  as long as that candidate holds at least the quota. That hypothesis is what the code relies on; it is *not* a theorem
  of the code (findings M1/M2: outside the numerical range an elected tally falls to 0), so the global range claim stays
  `kf_range_partial`: one step, under the hypothesis.
* hopeful candidates start with keep factor 1 and excluded ones are set to 0 by construction of the model
  (`meekCount`, `meekDefeatOne`), which is compared with the code action by action.
-/
namespace Droop.C08
open Droop

/-- rounding up: the least integer `r` with `num ≤ r·den` -/
theorem divUp_spec (num den : Int) (hd : 0 < den) :
    num ≤ divmodRound .up num den * den ∧ divmodRound .up num den * den < num + den := by
  have hne : (den == 0) = false := by simpa using (ne_of_gt hd)
  have hb := fmod_bounds_pos num hd
  have hid : den * num.fdiv den + num.fmod den = num := Int.mul_fdiv_add_fmod num den
  unfold divmodRound
  simp only [hne, Bool.false_eq_true, if_false]
  by_cases hz : pmod num den = 0
  · have : (pmod num den != 0) = false := by simp [hz]
    simp only [this, Bool.and_false, Bool.false_eq_true, if_false]
    unfold pdiv; unfold pmod at hz
    constructor <;> linarith
  · have : (pmod num den != 0) = true := by simp [hz]
    simp only [this, Bool.and_true, beq_self_eq_true, if_true]
    unfold pdiv; unfold pmod at hz
    have hpos : 0 < num.fmod den := lt_of_le_of_ne hb.1 (Ne.symm hz)
    constructor <;> linarith [hb.2]

/-- **one keep-factor update keeps the keep factor in (0, 1]** when the elected candidate holds at least the quota -/
theorem kf_range_partial (p : Nat) (kf q v : Int) (hk0 : 0 < kf) (hk1 : kf ≤ pow10 p) (hq : 0 < q) (hqv : q ≤ v) :
    0 < (fixedArith p).div .up ((fixedArith p).mul .up kf q) v ∧
    (fixedArith p).div .up ((fixedArith p).mul .up kf q) v ≤ (fixedArith p).one := by
  have hS := pow10_pos p
  have hv : 0 < v := lt_of_lt_of_le hq hqv
  show 0 < divmodRound .up (divmodRound .up (kf * q) (pow10 p) * pow10 p) v
    ∧ divmodRound .up (divmodRound .up (kf * q) (pow10 p) * pow10 p) v ≤ pow10 p
  obtain ⟨h1a, h1b⟩ := divUp_spec (kf * q) (pow10 p) hS
  obtain ⟨h2a, h2b⟩ := divUp_spec (divmodRound .up (kf * q) (pow10 p) * pow10 p) v hv
  set r1 := divmodRound .up (kf * q) (pow10 p) with hr1
  set r2 := divmodRound .up (r1 * pow10 p) v with hr2
  have hkq : 0 < kf * q := mul_pos hk0 hq
  have hr1pos : 0 < r1 := by
    by_contra hle
    have : r1 * pow10 p ≤ 0 := mul_nonpos_of_nonpos_of_nonneg (not_lt.1 hle) (le_of_lt hS)
    linarith
  have hr1q : r1 ≤ q := by
    by_contra hgt
    have hge : q + 1 ≤ r1 := by omega
    have : (q + 1) * pow10 p ≤ r1 * pow10 p := mul_le_mul_of_nonneg_right hge (le_of_lt hS)
    have : kf * q ≤ pow10 p * q := mul_le_mul_of_nonneg_right hk1 (le_of_lt hq)
    linarith
  constructor
  · by_contra hle
    have : r2 * v ≤ 0 := mul_nonpos_of_nonpos_of_nonneg (not_lt.1 hle) (le_of_lt hv)
    have : 0 < r1 * pow10 p := mul_pos hr1pos hS
    linarith
  · by_contra hgt
    have hge : pow10 p + 1 ≤ r2 := by omega
    have h3 : (pow10 p + 1) * v ≤ r2 * v := mul_le_mul_of_nonneg_right hge (le_of_lt hv)
    have h4 : r1 * pow10 p ≤ q * pow10 p := mul_le_mul_of_nonneg_right hr1q (le_of_lt hS)
    have h5 : q * pow10 p ≤ v * pow10 p := mul_le_mul_of_nonneg_right hqv (le_of_lt hS)
    linarith

/-- non-vacuity: kf = 1, quota 3.3334, vote 5.0000 at four places → 0.6667 (rounded up) -/
example : (fixedArith 4).div .up ((fixedArith 4).mul .up 10000 33334) 50000 = 6667 := by decide

/-- nothing is created or lost by a Meek / Warren distribution -/
theorem distribution_conserves {α : Type} [CommRing α] [LinearOrder α] [IsStrictOrderedRing α] (A : Arith α)
    (hA : LawfulArith A) (warren : Bool) (s : St α) (hwf : s.WF) (hq : s.ballotsEq = []) :
    (distributeVotes A warren s).sumVotes + (distributeVotes A warren s).residual
      = (startDist A s).sumVotes + (s.ballots.map (fun b => A.ofInt b.mult)).sum :=
  distributeVotes_sum A hA warren s hwf hq

/-- **every snapshot of a Meek / Warren count over strict ballots shows votes + residual = ballots, exactly** — begin,
    every round, every iterate, every election, tie and exclusion, up to the last candidate decided — for every input that
    `Election.__init__` hands over (`MInit`), every lawful arithmetic, whatever the keep factors, precision and omega are.
    (`SnapM` is the conservation clause of the predicate `okC08cons` evaluated on implementation records; the final `end`
    snapshot, whose residual is *defined* as ballots − elected votes, and equal-rank ballots are covered by the
    correspondence and the oracle only: `_partial` in that sense.) -/
theorem meek_record_identity_partial {α : Type} [CommRing α] [LinearOrder α] [IsStrictOrderedRing α] (A : Arith α)
    (hA : LawfulArith A) (hz : A.isZero A.zero = true) (o : MeekOpts) (omega : α) (iterFuel fuel : Nat)
    (s0 t : St α) (h0 : MInit A s0)
    (hl : loopN (fun s => !meekCountComplete s) (meekBody A o omega iterFuel) fuel (meekInit A s0) = some t) :
    ∀ a ∈ (t.hopeful.foldl (meekRemainingStep A o) t).acts, ∀ sn, a.snap = some sn →
      ((sn.cs.filter (fun e => e.2.1 != "W")).map (fun e => e.2.2.1)).sum + sn.x1
        = A.ofInt (t.hopeful.foldl (meekRemainingStep A o) t).nballots :=
  meek_identity A hA hz o omega iterFuel fuel s0 t h0 hl

example : (fixedArith 9).isZero (fixedArith 9).zero = true := rfl
example : (guardedArith 9 9).isZero (guardedArith 9 9).zero = true := rfl

/-- **the cap of `meek.py`** (`if c.kf >= V1: c.kf = V1`, fix F13): whatever the tally, the updated keep factor of meek / warren
    does not exceed one under fixed-point arithmetic; with `kf_range_partial` it stays positive as long as the elected
    candidate holds the quota -/
theorem kf_capped (p : Nat) (k : Int) : kfCap (fixedArith p) true k ≤ (fixedArith p).one := by
  unfold kfCap
  by_cases h : (fixedArith p).ge k (fixedArith p).one = true
  · simp [h]
  · have hf : (fixedArith p).ge k (fixedArith p).one = false := by simpa using h
    simp only [hf, Bool.and_false, Bool.false_eq_true, if_false]
    rw [fixed_ge] at hf
    exact le_of_lt (not_le.1 (of_decide_eq_false hf))

theorem kf_cap_id (p : Nat) (k : Int) (h : k < (fixedArith p).one) : kfCap (fixedArith p) true k = k := by
  unfold kfCap
  have hf : (fixedArith p).ge k (fixedArith p).one = false := by
    rw [fixed_ge]
    exact decide_eq_false (not_le.2 h)
  simp [hf]

/-! ## nothing negative, keep factors in [0, 1] (run level)

`meek_sign` (`DroopProofs/MeekSign.lean`), restated for fixed-point arithmetic: in every snapshot of the record of a meek or
warren count on strict ballots — from `begin` to the last exclusion or election — the votes credited plus the residual equal the
ballots, no tally and no residual is negative, and every keep factor lies between 0 and 1. The upper bound rests on the cap of the
keep-factor update (fix F13); strict positivity of an elected candidate's keep factor is *not* a theorem (findings M1/M2). -/
theorem meek_warren_sign_fixed (p : Nat) (o : MeekOpts) (omega : Int) (iterFuel fuel : Nat) (s0 t : St Int)
    (h0 : MInit (fixedArith p) s0)
    (hl : loopN (fun s => !meekCountComplete s) (meekBody (fixedArith p) o omega iterFuel) fuel (meekInit (fixedArith p) s0) = some t) :
    RecM (fixedArith p) (t.hopeful.foldl (meekRemainingStep (fixedArith p) o) t)
    ∧ RecK (fixedArith p) (t.hopeful.foldl (meekRemainingStep (fixedArith p) o) t)
    ∧ KState (fixedArith p) (t.hopeful.foldl (meekRemainingStep (fixedArith p) o) t) :=
  meek_sign _ (fixed_lawful p) (fixed_lawfulMeek p) (by simp [fixedArith]) o omega iterFuel fuel s0 t h0 hl

/-- what `RecK` says about one snapshot -/
theorem recK_unfolded (p : Nat) (s : St Int) (h : RecK (fixedArith p) s) :
    ∀ a ∈ s.acts, ∀ sn, a.snap = some sn →
      (∀ e ∈ sn.cs, 0 ≤ e.2.2.1 ∧ ∀ k, e.2.2.2.1 = some k → 0 ≤ k ∧ k ≤ pow10 p) ∧ 0 ≤ sn.x1 :=
  h

/-- non-vacuity of `MInit`: two hopeful candidates, two strict ballot lines, nothing counted yet -/
def tinyMeek : St Int :=
  { method := Method.meek, seats := 1, nballots := 3
    cands := [{ cid := 1, order := 1, tie := 1, undeclared := false, st := .hopeful, pending := false, vote := 0, kf := none, quotient := none, tc := 0 },
              { cid := 2, order := 2, tie := 2, undeclared := false, st := .hopeful, pending := false, vote := 0, kf := none, quotient := none, tc := 0 }]
    ballots := [{ mult := 2, rank := [1, 2], idx := 0, w := 10000, residual := 0 }, { mult := 1, rank := [2], idx := 0, w := 10000, residual := 0 }]
    ballotsEq := [], quota := 0, surplus := 0, votes := 0, exhausted := 0, residual := 0, round := 0, rounds := [], acts := [], crash := none }

example : MInit (fixedArith 4) tinyMeek :=
  { meth := rfl, noActs := rfl
    wf := by unfold St.WF; decide
    noEq := rfl
    tops := by
      intro b hb; simp [tinyMeek] at hb
      rcases hb with rfl | rfl
      · exact ⟨1, rfl, tinyMeek.cands[0], by simp [tinyMeek], rfl, rfl⟩
      · exact ⟨2, rfl, tinyMeek.cands[1], by simp [tinyMeek], rfl, rfl⟩
    fresh := by intro c hc; simp [tinyMeek] at hc; rcases hc with rfl | rfl <;> exact ⟨rfl, rfl, Or.inl rfl⟩
    residual0 := rfl
    nb := by simp [tinyMeek, fixedArith]; ring }

end Droop.C08
