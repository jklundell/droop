import DroopProofs.PermBPrf
/-!
# C04 for mpls: a candidate at the threshold is elected before anybody is excluded singly, and before a further round is opened

The Minneapolis rule elects one candidate per round (the one with the largest surplus), so a hopeful candidate may stay at the
threshold for a round or two; what the ordinance forbids is read off `mplsBody` / `mplsRound`:

* `mpls_no_new_round_when_seats_can_be_filled`: when the elected candidates and the declared hopefuls at the threshold fill every
  seat, no further round is opened — they are all declared elected (167.70(c)(1)a);
* `mplsRound_cases`: the lowest candidate is excluded (167.70(c)(1)e) only in a round in which no
  hopeful candidate is at the threshold and no certain-loser batch was found.
-/
namespace Droop.C04
open Droop
variable {α : Type} [CommRing α] [LinearOrder α] [IsStrictOrderedRing α] (A : Arith α)

theorem mpls_no_new_round_when_seats_can_be_filled (s : St α)
    (h : (mplsCountVotes A s).elected.length + (mplsAtThreshold A (mplsCountVotes A s)).length ≥ (mplsCountVotes A s).seats) :
    mplsBody A s = mplsElectThreshold A (mplsCountVotes A s) := by
  unfold mplsBody
  rw [if_pos h]

theorem mpls_new_round_only_with_open_seat (s : St α)
    (h : ¬ (mplsCountVotes A s).elected.length + (mplsAtThreshold A (mplsCountVotes A s)).length ≥ (mplsCountVotes A s).seats) :
    mplsBody A s = mplsRound A ((mplsCountVotes A s).newRound A) := by
  unfold mplsBody
  rw [if_neg h]

/-- every member of the threshold list is elected by `mplsElectThreshold` -/
theorem mpls_threshold_all_elected (s : St α) (w : Cand α) (hw : w ∈ mplsAtThreshold A s) :
    ∀ x ∈ (mplsElectThreshold A s).1.cands, x.cid = w.cid → x.st = .elected := by
  unfold mplsElectThreshold
  exact foldElect_all A _ (fun _ => "Candidate at threshold") (fun _ => false) s w hw

/-- the only call of `mplsDefeatLow` in a round: no certain-loser batch, and nobody at the threshold -/
theorem mplsRound_cases (s : St α) :
    ((mplsDefeatSet A s).isEmpty = false ∧ mplsRound A s = mplsDefeatMany A s (mplsDefeatSet A s))
    ∨ ((mplsDefeatSet A s).isEmpty = true ∧ ∃ h hs, (byVote A true s.hopeful).filter (hasQuotaGE A s) = h :: hs
        ∧ mplsRound A s = mplsElectSurplus A s (h :: hs) (A.pyMax h.vote (hs.map (·.vote))))
    ∨ ((mplsDefeatSet A s).isEmpty = true ∧ (∀ c ∈ s.hopeful, hasQuotaGE A s c = false)
        ∧ mplsRound A s = mplsFinish (mplsDefeatLow A s)) := by
  unfold mplsRound
  by_cases he : (mplsDefeatSet A s).isEmpty = true
  · right
    simp only [he, Bool.not_true, Bool.false_eq_true, if_false]
    cases hf : (byVote A true s.hopeful).filter (hasQuotaGE A s) with
    | nil =>
      right
      refine ⟨trivial, ?_, rfl⟩
      intro c hc
      have hm : c ∈ byVote A true s.hopeful := (mem_pySorted _ _ _ _).2 hc
      by_contra hq
      have : c ∈ (byVote A true s.hopeful).filter (hasQuotaGE A s) := List.mem_filter.2 ⟨hm, by simpa using hq⟩
      rw [hf] at this; cases this
    | cons h hs => left; exact ⟨trivial, h, hs, rfl, rfl⟩
  · left
    have he' : (mplsDefeatSet A s).isEmpty = false := by simpa using he
    simp only [he', Bool.not_false, if_true]
    exact ⟨trivial, trivial⟩

end Droop.C04
