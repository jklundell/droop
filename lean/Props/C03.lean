import DroopProofs
/-!
# C03 — statutory rules carry out their published procedure (clause theorems)

* the parametric WIGM rule configured with the reference rule's parameters *is* the reference rule;
* the transfer value is the statute's: two truncations (PRF D.4, Minneapolis, CfER) or one (Scottish order).
-/
namespace Droop.C03
open Droop
variable {α : Type}

/-- `wigm` with an inexact arithmetic, no integer quota and no zero batch runs the same count, action for action,
    as `wigm-prf`: same quota, same election test, same steps. In particular `wigm arithmetic=fixed precision=4`
    yields the history of `wigm-prf`. -/
theorem wigm_configured_as_prf_is_prf (A : Arith α) (hex : A.exact = false) (s0 : St α) :
    wigmCount A { integerQuota := false, batchZero := false, prf := false, prfBatch := false } s0
      = wigmCount A { integerQuota := false, batchZero := false, prf := true, prfBatch := false } s0 := by
  have hq : ∀ s : St α, wigmQuota A { integerQuota := false, batchZero := false, prf := false, prfBatch := false } s
      = wigmQuota A { integerQuota := false, batchZero := false, prf := true, prfBatch := false } s := by
    intro s; simp [wigmQuota, hex]
  have hX : hasQuotaX A = hasQuotaGE A := by
    funext s c; simp [hasQuotaX, hasQuotaGE, hex]
  have hE : ∀ s : St α, wigmElect A { integerQuota := false, batchZero := false, prf := false, prfBatch := false } s
      = wigmElect A { integerQuota := false, batchZero := false, prf := true, prfBatch := false } s := by
    intro s; simp [wigmElect, hX]
  have hA : ∀ s : St α, wigmAfterElect A { integerQuota := false, batchZero := false, prf := false, prfBatch := false } s
      = wigmAfterElect A { integerQuota := false, batchZero := false, prf := true, prfBatch := false } s := by
    intro s; simp [wigmAfterElect, wigmSure, wigmDefeatStep]
  have hB : wigmBody A { integerQuota := false, batchZero := false, prf := false, prfBatch := false }
      = wigmBody A { integerQuota := false, batchZero := false, prf := true, prfBatch := false } := by
    funext s; simp [wigmBody, hE, hA]
  simp [wigmCount, wigmInit, hq, hB]

example : (fixedArith 4).exact = false := rfl

/-- PRF D.4 / Minneapolis 167.20 / CfER: the new ballot value is `w·s` truncated to `p` places, divided by the
    candidate's vote and truncated again (surplus fraction "calculated to four decimal places, ignoring any remainder") -/
theorem transfer_value_two_truncations (p : Nat) (w s v : Int) (hv : v ≠ 0) :
    rewMulDiv (fixedArith p) w s v
      = ⌊((⌊((w * s : Int) : ℚ) / (pow10 p : ℚ)⌋ * pow10 p : Int) : ℚ) / (v : ℚ)⌋ := by
  have hS : pow10 p ≠ 0 := ne_of_gt (pow10_pos p)
  have hv0 : (v == 0) = false := by simpa using hv
  show (if (v == 0) = true then 0 else pdiv (pdiv (w * s) (pow10 p) * pow10 p) v) = _
  simp only [hv0, Bool.false_eq_true, if_false]
  rw [pdiv_eq_floor _ _ hv, pdiv_eq_floor _ _ hS]

/-- Scottish order rule 48(3): the transfer value is `w·s/v` truncated once (fused multiply-divide, no intermediate rounding) -/
theorem scottish_transfer_value_one_truncation (p : Nat) (w s v : Int) (hv : v ≠ 0) :
    rewMuldivDown (fixedArith p) w s v = ⌊((w * s : Int) : ℚ) / (v : ℚ)⌋ := by
  have hv0 : (v == 0) = false := by simpa using hv
  show divmodRound .down (w * s) v = _
  simp only [divmodRound, hv0, Bool.false_eq_true, if_false]
  simp
  have := pdiv_eq_floor (w * s) v hv
  rw [this]; push_cast; rfl

/-- non-vacuity: a transfer at four places: weight 1, surplus 1.5, vote 7.5 → 0.2 exactly -/
example : rewMulDiv (fixedArith 4) 10000 15000 75000 = 2000 := by decide
example : rewMuldivDown (fixedArith 5) 100000 100000 300000 = 33333 := by decide

end Droop.C03
