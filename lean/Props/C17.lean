import DroopModel
import DroopProofs
/-!
# C17 — statutory rules cannot be reconfigured: the table of forced options, tied to the source by a translator

`harness/gen_options.py` regenerates from `droop/rules/*.py` (Python `ast`) the list of `setopt(name, default=…, force=…)`
calls each statutory rule's `options()` performs, and emits a Lean file stating `Gen.statutory = C17.modelTable`, which the
kernel checks by `decide` on every run of the C17 check.  About `modelTable`: for every entry and every `Options` value the option model `ruleOptions` (the one the `OPTS` correspondence
compares with `Election.__init__`) returns the replay of the entry's `setopt` calls (`TableAgrees`), and the replay followed by
`values.ArithmeticClass` yields one configuration whatever the layers hold (`TableImmune`: fixed-point p/p, guarded 9/9/9 for QPQ).
-/
namespace Droop.C17
open Droop Options

def modelTable : List (String × List (String × OV × Bool)) := [
  ("cfer", [("arithmetic", .s "fixed", true), ("precision", .i 5, true), ("display", .i 5, true)]),
  ("cfer-batch", [("arithmetic", .s "fixed", true), ("precision", .i 5, true), ("display", .i 5, true)]),
  ("meek-prf", [("arithmetic", .s "fixed", true), ("precision", .i 9, true), ("display", .i 9, true), ("omega", .i 6, true)]),
  ("mpls", [("arithmetic", .s "fixed", true), ("precision", .i 4, true), ("display", .i 4, true)]),
  ("qpq", [("arithmetic", .s "guarded", true), ("precision", .i 9, true), ("guard", .i 9, true), ("display", .i 9, true)]),
  ("scotland", [("arithmetic", .s "fixed", true), ("precision", .i 5, true), ("display", .i 5, true)]),
  ("wigm-prf", [("arithmetic", .s "fixed", true), ("precision", .i 4, true), ("display", .i 4, true)]),
  ("wigm-prf-batch", [("arithmetic", .s "fixed", true), ("precision", .i 4, true), ("display", .i 4, true)])]

/-- the meaning of a straight-line `options()` body: the `setopt` calls in program order -/
def replay (o : Options) (l : List (String × OV × Bool)) : Except OErr Options :=
  l.foldlM (fun o e => (o.setopt e.1 e.2.1 (force := e.2.2)).map (·.1)) o

def TableAgrees (t : List (String × List (String × OV × Bool))) : Prop :=
  ∀ e ∈ t, ∀ o : Options, (ruleOptions e.1 o).map (·.1) = replay o e.2

def TableImmune (t : List (String × List (String × OV × Bool))) : Prop :=
  ∀ e ∈ t, ∃ cfg : ArithCfg, ∀ o : Options, ∃ o', (replay o e.2 >>= arithmeticClass) = .ok (o', cfg)

theorem exceptMap_eq_bind {ε α β} (f : α → β) (x : Except ε α) : Except.map f x = x >>= fun a => pure (f a) := by
  cases x <;> rfl

theorem forceFixed_eq_replay (o : Options) (p : Nat) :
    forceFixed o p = replay o [("arithmetic", .s "fixed", true), ("precision", .i p, true), ("display", .i p, true)] := by
  simp [forceFixed, replay, exceptMap_eq_bind]

theorem model_table_agrees : TableAgrees modelTable := by
  intro e he o
  simp only [modelTable, List.mem_cons, List.not_mem_nil, or_false] at he
  rcases he with rfl | rfl | rfl | rfl | rfl | rfl | rfl | rfl
  all_goals simp [ruleOptions, forceFixed_eq_replay, exceptMap_eq_bind]
  -- left: meek-prf (one more forced key after `forceFixed`) and qpq (its four calls written out): the same chain of `setopt` calls
  all_goals simp [replay, exceptMap_eq_bind]

theorem normalize_i (n : Int) : (OV.i n).normalize = .i n := rfl

/-- with arithmetic, precision, guard and display forced to guarded / p / g / d, `ArithmeticClass` configures guarded p/g/d -/
theorem guarded_config_of_forced (o1 : Options) (p g d : Nat) (hd : d ≤ p + g) (fa : forced o1 "arithmetic" (.s "guarded"))
    (fp : forced o1 "precision" (.i p)) (fg : forced o1 "guard" (.i g)) (fd : forced o1 "display" (.i d)) :
    ∃ o', arithmeticClass o1 = .ok (o', .guarded p g d) := by
  obtain ⟨o2, h2, hforce⟩ := setopt_forced_value o1 "arithmetic" (.s "guarded") (.s "guarded") fa
  have fa2 := forced_of_force_eq hforce fa
  have fp2 := forced_of_force_eq hforce fp
  have fg2 := forced_of_force_eq hforce fg
  have fd2 := forced_of_force_eq hforce fd
  refine ⟨o2, ?_⟩
  unfold arithmeticClass
  simp only [h2, bind, Except.bind]
  have e1 : (OV.s "guarded").pyEq (.s "rational") = false := by decide
  have e2 : (OV.s "guarded").pyEq (.s "fixed") = false := by decide
  have e3 : (OV.s "guarded").pyEq (.s "integer") = false := by decide
  have e4 : (OV.s "guarded").pyEq (.s "guarded") = true := by decide
  simp only [e1, e2, e3, e4, Bool.false_eq_true, if_false, Bool.or_self, if_true]
  unfold guardedInitialize
  have hs : ∀ n : Nat, strictNat (.i (n : Int)) = .ok n := by
    intro n
    unfold strictNat pyInt OV.pyStr
    simp
  simp only [getopt_of_forced fa2, getopt_of_forced fp2, getopt_of_forced fg2, getopt_of_forced fd2, e4, Bool.not_true,
    Bool.false_eq_true, if_false, bind, Except.bind, pure, Except.pure, hs]
  have : ¬ (d > p + g) := by omega
  simp [this]

/-- a straight-line body of forcing `setopt` calls on distinct keys cannot fail, and leaves every key forced to its (normalised) value -/
theorem replay_forces (l : List (String × OV × Bool)) (hf : ∀ e ∈ l, e.2.2 = true) (hk : (l.map (·.1)).Nodup) (o : Options) :
    ∃ o', replay o l = .ok o' ∧ (∀ e ∈ l, forced o' e.1 e.2.1.normalize)
      ∧ ∀ k w, k ∉ l.map (·.1) → forced o k w → forced o' k w := by
  induction l generalizing o with
  | nil => exact ⟨o, rfl, fun _ h => (nomatch h), fun _ _ _ h => h⟩
  | cons e l ih =>
    obtain ⟨k, v, f⟩ := e
    obtain rfl : f = true := hf _ List.mem_cons_self
    rw [List.map_cons, List.nodup_cons] at hk
    obtain ⟨o1, h1, f1, k1⟩ := setopt_force o k v
    obtain ⟨o2, h2, f2, k2⟩ := ih (fun e he => hf e (List.mem_cons_of_mem _ he)) hk.2 o1
    refine ⟨o2, ?_, ?_, ?_⟩
    · unfold replay at h2 ⊢
      rw [List.foldlM_cons, h1]
      exact h2
    · intro e he
      rcases List.mem_cons.1 he with rfl | he
      · exact k2 _ _ hk.1 f1
      · exact f2 e he
    · intro k' w hk' hw
      rw [List.map_cons, List.mem_cons, not_or] at hk'
      exact k2 _ _ hk'.2 (k1 _ _ hk'.1 hw)

/-- what the forced keys imply for `ArithmeticClass` holds after the replay, from every starting `Options` -/
theorem immune_of_forces (l : List (String × OV × Bool)) (cfg : ArithCfg) (hf : ∀ e ∈ l, e.2.2 = true) (hk : (l.map (·.1)).Nodup)
    (h : ∀ o1, (∀ e ∈ l, forced o1 e.1 e.2.1.normalize) → ∃ o', arithmeticClass o1 = .ok (o', cfg)) (o : Options) :
    ∃ o', (replay o l >>= arithmeticClass) = .ok (o', cfg) := by
  obtain ⟨o1, h1, f1, -⟩ := replay_forces l hf hk o
  rw [h1]
  exact h o1 f1

theorem immune_fixed (p : Nat) (l : List (String × OV × Bool)) (hf : ∀ e ∈ l, e.2.2 = true) (hk : (l.map (·.1)).Nodup)
    (ha : ("arithmetic", .s "fixed", true) ∈ l) (hp : ("precision", .i p, true) ∈ l) (hd : ("display", .i p, true) ∈ l) (o : Options) :
    ∃ o', (replay o l >>= arithmeticClass) = .ok (o', .fixed p p) :=
  immune_of_forces l _ hf hk (fun o1 h => fixed_config_of_forced o1 p (h _ ha) (h _ hp) (h _ hd)) o

theorem TableImmune.nil : TableImmune [] := fun _ h => nomatch h

theorem TableImmune.cons {e t} (h : ∃ cfg : ArithCfg, ∀ o : Options, ∃ o', (replay o e.2 >>= arithmeticClass) = .ok (o', cfg))
    (ht : TableImmune t) : TableImmune (e :: t) := by
  intro x hx
  rcases List.mem_cons.1 hx with rfl | hx
  · exact h
  · exact ht x hx

/-- a row that is the three calls of `forceFixed`: `statutory_fixed_config` -/
theorem immune_forceFixed (p : Nat) :
    ∃ cfg : ArithCfg, ∀ o : Options, ∃ o', (replay o [("arithmetic", .s "fixed", true), ("precision", .i p, true), ("display", .i p, true)]
      >>= arithmeticClass) = .ok (o', cfg) :=
  ⟨.fixed p p, fun o => forceFixed_eq_replay o p ▸ statutory_fixed_config o p⟩

theorem model_table_immune : TableImmune modelTable :=
  .cons (immune_forceFixed 5) <| .cons (immune_forceFixed 5) <|
  -- meek-prf forces `omega` as well; qpq forces guarded arithmetic
  .cons ⟨.fixed 9 9, immune_fixed 9 _ (by decide) (by decide) (by simp) (by simp) (by simp)⟩ <|
  .cons (immune_forceFixed 4) <|
  .cons ⟨.guarded 9 9 9, immune_of_forces _ _ (by decide) (by decide) fun o1 h =>
      guarded_config_of_forced o1 9 9 9 (by omega) (h ("arithmetic", .s "guarded", true) (by simp)) (h ("precision", .i 9, true) (by simp))
        (h ("guard", .i 9, true) (by simp)) (h ("display", .i 9, true) (by simp))⟩ <|
  .cons (immune_forceFixed 5) <| .cons (immune_forceFixed 4) <| .cons (immune_forceFixed 4) .nil

/-- non-vacuity: a hostile set of layers does not move the Scottish configuration -/
example : ∃ o', (replay { cmd := [("arithmetic", .s "rational"), ("precision", .i 2), ("display", .i 1)],
                          file := [("arithmetic", .s "guarded"), ("guard", .i 7)] }
      [("arithmetic", .s "fixed", true), ("precision", .i 5, true), ("display", .i 5, true)] >>= arithmeticClass)
    = .ok (o', .fixed 5 5) := immune_fixed 5 _ (by decide) (by decide) (by simp) (by simp) (by simp) _

end Droop.C17
