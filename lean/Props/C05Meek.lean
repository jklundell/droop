import DroopProofs.CaseInitMeek
import DroopProofs.MeekFirst
import DroopProofs.MeekMon
import Props.C04Meek
import Props.C05Run
/-!
# C05, one seat, for meek and warren: a candidate ranked first by more than half of the ballots is elected

For every case with strict rankings inside `caseOK`, one seat, fixed-point arithmetic with at least one digit, every omega and
both settings of `defeat_batch`: if the count returns, the majority candidate is elected in the state it returns
(`meek_majority`).  Termination itself is not provable for the Meek family (M1/M2 are non-terminating inputs).

At the first distribution every standing candidate keeps everything, so the distribution is the first-preference count; the
majority candidate's tally `f·10^p` is at least `⌊V/2⌋ + 1` for the active total `V ≤ n·10^p`; the first iteration therefore elects
it and ends with the `iterate` action whose snapshot shows it elected, and whoever a snapshot shows elected is elected in every
later state of a forward-only, append-only record.  When the loop is not entered at all (a single standing candidate) the epilogue
elects it.
-/
namespace Droop.C05
open Droop

/-- the quota arithmetic: a tally of `f` whole votes, `2f > n`, reaches `⌊V/2⌋ + 1` whenever the active total is at most `n` votes -/
theorem quota_reached (S V : Int) (n f : Nat) (hS : 2 ≤ S) (hV : V ≤ (n : Int) * S) (hmaj : n < 2 * f) :
    pdiv (V * S) (2 * S) + 1 ≤ (f : Int) * S := by
  have hS0 : (0 : Int) < S := by omega
  have h2S : (0 : Int) < 2 * S := by omega
  have h1 := pdiv_mul_le (V * S) (2 * S) h2S
  have h2 : (2 * pdiv (V * S) (2 * S)) * S ≤ V * S := by nlinarith
  have h3 : 2 * pdiv (V * S) (2 * S) ≤ V := le_of_mul_le_mul_right h2 hS0
  have h4 : ((n : Int) + 1) * S ≤ (2 * (f : Int)) * S := by
    apply mul_le_mul_of_nonneg_right _ (le_of_lt hS0)
    exact_mod_cast hmaj
  nlinarith

theorem freshBallots_initState (p : Nat) (c : Case) (hk : CaseOK c) : FreshBallots p (initState (fixedArith p) c) := by
  intro b hb
  obtain ⟨k, hkm, _, hr, hi, hw⟩ := mem_initState_ballots (fixedArith p) hb
  obtain ⟨hne, hall⟩ := hk.ballots k hkm
  refine ⟨hi, hw, by rw [hr]; exact hne, ?_⟩
  intro cid hc
  rw [hr] at hc
  obtain ⟨kc, hkc, hkcid, hkw⟩ := hall cid hc
  obtain ⟨x, hx, hxc, hxs⟩ := initState_cand_of (fixedArith p) hkc
  refine ⟨x, hx, hxc.trans hkcid, ?_⟩
  rw [hxs, hkw]; rfl

/-- the majority candidate is a standing candidate of the case -/
theorem majority_stands (p : Nat) (c : Case) (hk : CaseOK c) (w : Nat) (hpos : 0 < firstPrefs c w) :
    ∃ x ∈ (initState (fixedArith p) c).cands, x.cid = w ∧ x.st = .hopeful := by
  have hex : ∃ b ∈ c.ballots, b.2.head? = some w := by
    by_contra hno
    have : c.ballots.filter (fun b => b.2.head? == some w) = [] := by
      rw [List.filter_eq_nil_iff]
      intro b hb hbw
      exact hno ⟨b, hb, by simpa using hbw⟩
    unfold firstPrefs at hpos; rw [this] at hpos; simp at hpos
  obtain ⟨b, hb, hbw⟩ := hex
  have hwr : w ∈ b.2 := List.mem_of_mem_head? (by rw [hbw]; rfl)
  obtain ⟨k, hkc, hkw, hkwd⟩ := (hk.ballots b hb).2 w hwr
  obtain ⟨x, hx, hxc, hxs⟩ := initState_cand_of (fixedArith p) hkc
  exact ⟨x, hx, hxc.trans hkw, by rw [hxs, hkwd]; rfl⟩

/-- in the first iteration a candidate whose first preferences are more than half of the ballots passes the quota test:
    the first distribution is the first-preference count, so it holds `f·10^p` of an active total of at most `n·10^p` -/
theorem majority_wins_first_iteration (p : Nat) (hp : p ≠ 0) (o : MeekOpts) (s0 : St Int) (h0 : MInit (fixedArith p) s0)
    (hf : FreshBallots p s0) (hseats : s0.seats = 1) (w f : Nat) (hst : ∃ x ∈ s0.cands, x.cid = w ∧ x.st = .hopeful)
    (htally : (s0.ballots.map (fun b => if b.top = some w then bvote (fixedArith p) b else 0)).sum = (f : Int) * pow10 p)
    (hmaj : s0.nballots < 2 * f) :
    ∃ w2 ∈ (meekS3 (fixedArith p) o ((meekInit (fixedArith p) s0).newRound (fixedArith p))).hopeful,
      w2.cid = w ∧ hasQuotaX (fixedArith p) (meekS3 (fixedArith p) o ((meekInit (fixedArith p) s0).newRound (fixedArith p))) w2 = true := by
  obtain ⟨x, hx, hxc, hxh⟩ := hst
  obtain ⟨hvote, hsk2, hV, hseat2, hs1sk⟩ := first_distribution p o.warren s0 h0 hf
  unfold meekS3
  generalize distributeVotes (fixedArith p) o.warren ((meekInit (fixedArith p) s0).newRound (fixedArith p)) = D at *
  obtain ⟨w2, hw2, hw2s⟩ := mem_of_skel_eq (hsk2.trans hs1sk).symm hx
  have hcid : w2.cid = w := (skel_cid hw2s).trans hxc
  have hv : w2.vote = (f : Int) * pow10 p := by
    rw [← voteOf_of_mem (WF_of_skel (hsk2.trans hs1sk).symm h0.wf) hw2, hcid, hvote, htally]
  refine ⟨w2, mem_hopeful.2 ⟨hw2, by rw [(skel_st hw2s).1]; exact hxh⟩, hcid, ge_of_le p _ _ ?_⟩
  rw [hv, C04.meekQuota_fixed]
  show pdiv (activeVotes (fixedArith p) D * pow10 p) (((D.seats : Int) + 1) * pow10 p) + 1 ≤ _
  rw [hseat2, hseats]
  have hS2 : (2 : Int) ≤ pow10 p := by
    obtain ⟨k, rfl⟩ : ∃ k, p = k + 1 := ⟨p - 1, by omega⟩
    have : pow10 (k + 1) = 10 * pow10 k := by simp [pow10, pow_succ, mul_comm]
    have hk := pow10_pos k
    omega
  exact quota_reached (pow10 p) (activeVotes (fixedArith p) D) s0.nballots f hS2 hV hmaj

/-- the first round of the loop, when entered, ends with the majority candidate shown elected in the newest snapshot -/
theorem first_round_shows (p : Nat) (hp : p ≠ 0) (o : MeekOpts) (omega : Int) (n : Nat) (s0 : St Int) (h0 : MInit (fixedArith p) s0)
    (hf : FreshBallots p s0) (hseats : s0.seats = 1) (w f : Nat) (hst : ∃ x ∈ s0.cands, x.cid = w ∧ x.st = .hopeful)
    (htally : (s0.ballots.map (fun b => if b.top = some w then bvote (fixedArith p) b else 0)).sum = (f : Int) * pow10 p)
    (hmaj : s0.nballots < 2 * f) :
    Shown w (meekBody (fixedArith p) o omega (n + 1) (meekInit (fixedArith p) s0)).1 := by
  obtain ⟨w2, hw2, hcid, hq⟩ := majority_wins_first_iteration p hp o s0 h0 hf hseats w f hst htally hmaj
  unfold meekBody
  generalize (meekInit (fixedArith p) s0).newRound (fixedArith p) = s1 at hw2 hq ⊢
  have hwin : w2 ∈ meekWinners (fixedArith p) (meekS3 (fixedArith p) o s1) := List.mem_filter.2 ⟨hw2, hq⟩
  have hel : meekIterElected (fixedArith p) o s1 = true := by
    rw [meekIterElected_eq, List.isEmpty_eq_false_iff.2 (List.ne_nil_of_mem hwin)]
    rfl
  rw [meekIterate_elected (fixedArith p) o omega n _ s1 hel]
  have hall := C04.meek_reaches_quota_is_elected (fixedArith p) o s1 w2 hw2 hq
  rw [hcid] at hall
  have hhas : ∃ x ∈ (meekIterCore (fixedArith p) o s1).cands, x.cid = w := by
    rw [meekIterCore_eq]
    unfold meekS4
    exact foldElect_has (fixedArith p) (meekWinners (fixedArith p) (meekS3 (fixedArith p) o s1)) (fun _ => "Elect") (fun _ => false)
      (meekS3 (fixedArith p) o s1) w ⟨w2, (mem_hopeful.1 hw2).1, hcid⟩
  exact ⟨_, head_snap_logAct (fixedArith p) _ _ _ _, allEl_mkSnap (fixedArith p) hall, hasC_mkSnap (fixedArith p) hhas⟩

/-- a fresh start with one seat whose count is complete before the first round: nobody is elected and the standing candidate
    is the only hopeful -/
theorem sole_standing {α : Type} [CommRing α] [LinearOrder α] [IsStrictOrderedRing α] (A : Arith α) {s0 sI : St α}
    (h0 : MInit A s0) (hsk : sI.skel = s0.skel) (hseat : sI.seats = 1)
    (hdone : (sI.hopeful.length : Int) ≤ sI.seatsLeft ∨ sI.seatsLeft ≤ 0) {xI : Cand α} (hxI : xI ∈ sI.hopeful) :
    sI.elected = [] ∧ sI.hopeful = [xI] := by
  have hnoel : sI.elected = [] := by
    unfold St.elected
    rw [List.filter_eq_nil_iff]
    intro y hy hye
    obtain ⟨y0, hy0, hys⟩ := mem_of_skel_eq hsk hy
    have := (h0.fresh y0 hy0).2.2
    rw [(skel_st hys).1, (by simpa using hye : y.st = .elected)] at this
    rcases this with h | h <;> cases h
  refine ⟨hnoel, ?_⟩
  unfold St.seatsLeft at hdone
  rw [hnoel, hseat] at hdone
  have hlen : sI.hopeful.length ≤ 1 := by
    simp only [List.length_nil, Nat.cast_one, Nat.cast_zero, sub_zero] at hdone
    omega
  cases hh : sI.hopeful with
  | nil => rw [hh] at hxI; cases hxI
  | cons a l =>
    rw [hh] at hlen hxI
    cases l with
    | nil => rw [List.mem_singleton.1 hxI]
    | cons b l' => simp at hlen

/-- one seat, meek and warren: the majority candidate is elected in whatever state the count returns -/
theorem meek_majority (p : Nat) (hp : p ≠ 0) (c : Case) (hr : c.rule = "meek" ∨ c.rule = "warren") (hok : caseOK c = true)
    (hseats : c.seats = 1) (w : Nat) (hmaj : c.nballots < 2 * firstPrefs c w)
    (t : St Int) (h : runRuleSt (fixedArith p) c = some t) :
    ∃ x ∈ t.cands, x.cid = w ∧ x.st = .elected := by
  have hA := fixed_lawful p
  have hk := caseOK_iff c hok
  have hm : methodOf c.rule = .meek := by rcases hr with hr | hr <;> rw [hr] <;> rfl
  have h0 := initState_minit (fixedArith p) hA c hm hk
  have hz : (fixedArith p).isZero (fixedArith p).zero = true := rfl
  have hst := majority_stands p c hk w (by omega)
  obtain ⟨o, ho⟩ := runRuleSt_meek (fixedArith p) c hr
  have hcount : meekCount (fixedArith p) o 100000 (initState (fixedArith p) c) = some t := ho ▸ h
  have hMon := meek_record_monotone (fixedArith p) hA hz o 100000 _ t h0 hcount
  have hsh := first_round_shows p hp o ((fixedArith p).divV (fixedArith p).one ((fixedArith p).ofInt (10 ^ o.omega10))) 99999
    (initState (fixedArith p) c) h0 (freshBallots_initState p c hk) hseats w (firstPrefs c w) hst (tally_initState p c w) hmaj
  have hII : MInv (fixedArith p) (meekInit (fixedArith p) (initState (fixedArith p) c)) := MInv.meekInit (fixedArith p) hA h0
  have hcr : (meekInit (fixedArith p) (initState (fixedArith p) c)).crash = none := by rw [(meekInit_sc p _ h0.noEq).2]; rfl
  have hseatI : (meekInit (fixedArith p) (initState (fixedArith p) c)).seats = 1 := by rw [(meekInit_sc p _ h0.noEq).1]; exact hseats
  have hskI := meekInit_skel p (initState (fixedArith p) c) h0.noEq
  unfold meekCount at hcount
  have hn : ((fixedArith p).name == "integer") = false := by
    have : (fixedArith p).name = if p == 0 then "integer" else "fixed" := rfl
    rw [this, (by simpa using hp : (p == 0) = false)]
    decide
  rw [hn] at hcount
  simp only [Bool.false_eq_true, if_false] at hcount
  obtain ⟨nf, hnf⟩ : ∃ nf, 2 * (initState (fixedArith p) c).cands.length + 3 = nf + 1 := ⟨_, rfl⟩
  rw [hnf] at hcount
  -- from here on the start of the loop is a variable
  generalize meekInit (fixedArith p) (initState (fixedArith p) c) = sI at *
  generalize (fixedArith p).divV (fixedArith p).one ((fixedArith p).ofInt (10 ^ o.omega10)) = om at *
  cases hl : loopN (fun s => !meekCountComplete s) (meekBody (fixedArith p) o om 100000) (nf + 1) sI with
  | none => rw [hl] at hcount; cases hcount
  | some s7 =>
    rw [hl] at hcount
    obtain rfl : meekEpilogue (fixedArith p) o s7 = t := Option.some.inj hcount
    by_cases hg : (!meekCountComplete sI) = true
    · -- the loop is entered: the first round shows the candidate elected
      have hx1 := loopN_first (MInv (fixedArith p)) Ext Ext.refl Ext.trans
        (fun s hs _ _ => hs.meekBody (fixedArith p) hA hz o _ 100000)
        (fun s hs _ => ext_meekBody (fixedArith p) hA hz o _ 100000 s hs) hII hcr hg hl
      have hI7 := (meek_loop_identity (fixedArith p) hA hz o _ 100000 _ _ s7 hII hl).1
      exact hsh.final (hx1.trans (ext_meekEpilogue (fixedArith p) hA hz o s7 hI7)) hMon
    · -- a single standing candidate: the epilogue elects it
      have hgf : (!meekCountComplete sI) = false := by simpa using hg
      obtain rfl : s7 = sI := loopN_guard_false _ _ nf sI s7 hcr hgf hl
      obtain ⟨x, hx, hxc, hxh⟩ := hst
      obtain ⟨xI, hxI, hxIs⟩ := mem_of_skel_eq hskI.symm hx
      have hxIc : xI.cid = w := (skel_cid hxIs).trans hxc
      have hxIhop : xI ∈ s7.hopeful := mem_hopeful.2 ⟨hxI, by rw [(skel_st hxIs).1]; exact hxh⟩
      obtain ⟨hnoel, hone⟩ := sole_standing (fixedArith p) h0 hskI hseatI
        (by simpa only [meekCountComplete, Bool.not_eq_false', Bool.or_eq_true, decide_eq_true_eq] using hgf) hxIhop
      unfold meekEpilogue
      rw [if_neg (by rw [hcr]; simp), hone]
      simp only [List.foldl_cons, List.foldl_nil]
      unfold meekRemainingStep
      rw [if_pos (by rw [hnoel, hseatI]; decide)]
      -- elected by the epilogue; distribution and the final figures keep ids and statuses
      have hIe := hII.elect (fixedArith p) xI.cid "Elect remaining" false
      have hskD := distributeVotes_skel (fixedArith p) o.warren (s7.elect (fixedArith p) xI.cid "Elect remaining" false) hIe.wf hIe.noEq hA
      obtain ⟨y, hy, hyc⟩ := elect_has (fixedArith p) s7 xI.cid "Elect remaining" false xI.cid ⟨xI, hxI, rfl⟩
      have hyel := elect_sets (fixedArith p) s7 xI.cid "Elect remaining" false y hy hyc
      obtain ⟨z, hz', hzs⟩ := mem_of_skel_eq hskD.symm hy
      exact ⟨z, hz', ((skel_cid hzs).trans hyc).trans hxIc, by rw [(skel_st hzs).1]; exact hyel⟩

end Droop.C05

namespace Droop.C05
/-- non-vacuity: the sample profile under meek has one seat and a first-preference majority for candidate 1 -/
example : caseOK { Driver.sample with rule := "meek" } = true ∧ ({ Driver.sample with rule := "meek" } : Case).seats = 1
    ∧ ({ Driver.sample with rule := "meek" } : Case).nballots < 2 * firstPrefs { Driver.sample with rule := "meek" } 1 := by decide
end Droop.C05
