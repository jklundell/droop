import Props.Driver
/-!
# C05 — Droop proportionality at run level, about the function the compiled driver runs

For every case inside the domain `caseOK`, every fixed-point precision `p`, every list `S` of candidate ids and every `k`:
if the ballots that rank exactly the members of `S` (in any order) in their first `|S|` places are worth more than `k`
quotas plus the rounding allowance of two units in the last place per ballot per candidate, then the returned state has at
least `min k (standing members of S)` members of `S` elected, unless the crash flag is up.

Proved for the Scottish rule (`scotland_coalition`) and for wigm / wigm-prf with single exclusions
(`wigm_coalition_fixed`: every option combination without `defeat_batch=zero`; wigm-prf-batch, cfer, mpls and the Meek
family are explored by the oracle `okC05` only).

The proof follows the coalition's ballots through the count: positions only pass over non-hopeful candidates, every paper
rests on a continuing candidate between steps, so while a member of `S` is hopeful the coalition's papers rest on members of `S`;
a surplus transfer from a member costs them at most the quota it keeps plus the rounding, anything else costs nothing; a lowest
candidate excluded in a round with no surplus pending and nobody above the quota cannot be one of the last `k` members, and when
all seats are taken `k` members are among the elected.
-/
namespace Droop.C05
open Droop

/-- ballots (with multipliers) that rank exactly the members of `S` in their first `|S|` places -/
def coalitionBallots (c : Case) (S : List Nat) : Nat :=
  ((c.ballots.filter (fun b => isVb S S.length b.2)).map (·.1)).sum

/-- members of `S` standing (listed and not withdrawn) -/
def standing (c : Case) (S : List Nat) : Nat := (c.cands.filter (fun k => S.contains k.1 && !k.2.2.1)).length

theorem fixed_quotaComplete (p : Nat) : QuotaComplete (fixedArith p) :=
  ⟨fun a b h => by rw [fixed_ge, decide_eq_false_iff_not] at h; exact (not_le.1 h).le,
   fun a b h => by rw [fixed_gt, decide_eq_false_iff_not] at h; exact not_lt.1 h⟩

theorem Vmult_initState (p : Nat) (c : Case) (S : List Nat) :
    Vmult S S.length (initState (fixedArith p) c) = (coalitionBallots c S : Int) := by
  unfold Vmult coalitionBallots initState
  simp only [List.map_map]
  generalize c.ballots = l
  induction l with
  | nil => simp
  | cons b l ih =>
    obtain ⟨mu, r⟩ := b
    simp only [List.map_cons, List.sum_cons, Function.comp, List.filter_cons]
    rw [ih]
    by_cases hv : isVb S S.length r = true
    · simp [hv]
    · simp [hv]

theorem hopS_initState (p : Nat) (c : Case) (S : List Nat) : hopS S (initState (fixedArith p) c) = standing c S := by
  unfold hopS standing initState
  simp only
  rw [List.filter_map, List.length_map]
  congr 1
  apply List.filter_congr
  rintro ⟨a, b, d, e⟩ _
  simp only [Function.comp]
  cases d <;> simp

/-- the coalition hypotheses of the run-level theorems hold for the state the driver builds -/
theorem cstart_of_case (p : Nat) (c : Case) (hk : CaseOK c) (S : List Nat) (k : Nat) (q : Int) (hq1 : pow10 p ≤ q)
    (hbig : (k : Int) * q + (c.cands.length : Int) * (2 * (coalitionBallots c S : Int)) < (coalitionBallots c S : Int) * pow10 p) :
    CStart (fixedArith p) S S.length (min k (standing c S)) k 2 q (initState (fixedArith p) c) := by
  refine ⟨?_, ?_, initState_fresh _ c, Nat.min_le_left _ _, by rw [hopS_initState]; exact Nat.min_le_right _ _, hq1, ?_⟩
  · intro b hb d hd
    obtain ⟨kb, hkb, _, hr, hi, _⟩ := mem_initState_ballots (fixedArith p) hb
    have hne := (hk.ballots kb hkb).1
    have hdm : d ∈ kb.2 := by
      unfold Ballot.top at hd
      rw [hi, hr] at hd
      exact List.mem_of_getElem? hd
    obtain ⟨kc, hkc, hkcid, hkwd⟩ := (hk.ballots kb hkb).2 d hdm
    obtain ⟨x, hx, hxc, hxs⟩ := initState_cand_of (fixedArith p) hkc
    rw [hkwd] at hxs
    exact isHopeful_iff.2 ⟨x, hx, hxc.trans hkcid, by simpa using hxs⟩
  · intro b hb
    obtain ⟨_, _, _, _, hi, hw⟩ := mem_initState_ballots (fixedArith p) hb
    exact ⟨hi, hw⟩
  · rw [Vmult_initState]
    have hlen : (initState (fixedArith p) c).cands.length = c.cands.length := by
      unfold initState; simp
    rw [hlen]
    show (k : Int) * q + (c.cands.length : Int) * (2 * (coalitionBallots c S : Int)) < (coalitionBallots c S : Int) * pow10 p
    exact hbig

/-- **Droop proportionality, Scottish rule.** The quota in `hbig` is the rule's, `(⌊ballots/(seats+1)⌋ + 1)` in units of `10^-p`. -/
theorem scotland_coalition (p : Nat) (c : Case) (hr : c.rule = "scotland") (hok : caseOK c = true) (S : List Nat) (k : Nat)
    (hbig : (k : Int) * ((pdiv (c.nballots : Int) ((c.seats : Int) + 1) + 1) * pow10 p)
        + (c.cands.length : Int) * (2 * (coalitionBallots c S : Int)) < (coalitionBallots c S : Int) * pow10 p) :
    ∃ t, runRuleSt (fixedArith p) c = some t ∧ (t.crash = none → min k (standing c S) ≤ elS S t) := by
  have hk := caseOK_iff c hok
  have hS := pow10_pos p
  have hnn : 0 ≤ pdiv (c.nballots : Int) ((c.seats : Int) + 1) := pdiv_nonneg _ _ (by positivity) (by positivity)
  have hst := Driver.scotStart_of_case p c hr hok
  obtain ⟨t, ht⟩ := C01.scotland_terminates p _ hst
  have hrun := runRuleSt_scotland (fixedArith p) c hr
  have hq1 : pow10 p ≤ (pdiv (c.nballots : Int) ((c.seats : Int) + 1) + 1) * pow10 p := by nlinarith
  exact ⟨t, hrun ▸ ht, scot_coalition (fixedArith p) (fixed_lawful p) rfl (fixed_quotaComplete p) (by norm_num)
    (fixed_rewLower_muldiv p) _ t hst (cstart_of_case p c hk S k _ hq1 hbig) ht⟩

/-- what the driver runs for `wigm` and `wigm-prf`, and the two batch options of that configuration -/
theorem wigm_configured {α : Type} (A : Arith α) (c : Case) (hr : c.rule = "wigm" ∨ c.rule = "wigm-prf")
    (hz : c.rule = "wigm" → c.batch ≠ "zero") (o : WigmOpts)
    (ho : o = (if c.rule = "wigm" then { integerQuota := c.intq, batchZero := c.batch == "zero" } else { prf := true })) :
    runRuleSt A c = wigmCount A o (initState A c) ∧ o.batchZero = false ∧ o.prfBatch = false := by
  rcases hr with hr | hr
  · rw [ho, if_pos hr]
    exact ⟨by simp only [runRuleSt, runRuleSt', hr], by simpa using hz hr, rfl⟩
  · rw [ho, if_neg (by rw [hr]; decide)]
    exact ⟨by simp only [runRuleSt, runRuleSt', hr], rfl, rfl⟩

/-- **Droop proportionality, wigm and wigm-prf with single exclusions** (every option combination of wigm except
    `defeat_batch=zero`); the quota in `hbig` is the configured rule's, `C01.wigmQuota_fixed` gives its value. -/
theorem wigm_coalition_fixed (p : Nat) (c : Case) (hr : c.rule = "wigm" ∨ c.rule = "wigm-prf") (hok : caseOK c = true)
    (hz : c.rule = "wigm" → c.batch ≠ "zero") (hmore : c.seats < c.nballots) (S : List Nat) (k : Nat)
    (o : WigmOpts) (ho : o = (if c.rule = "wigm" then { integerQuota := c.intq, batchZero := c.batch == "zero" } else { prf := true }))
    (hbig : (k : Int) * wigmQuota (fixedArith p) o (initState (fixedArith p) c)
        + (c.cands.length : Int) * (2 * (coalitionBallots c S : Int)) < (coalitionBallots c S : Int) * pow10 p) :
    ∃ t, runRuleSt (fixedArith p) c = some t ∧ (t.crash = none → min k (standing c S) ≤ elS S t) := by
  obtain ⟨hk, _, hI⟩ := Driver.start_of_case p c (by rcases hr with hr | hr <;> rw [hr] <;> simp) hok
  have hS := pow10_pos p
  obtain ⟨hrunEq, hoz, hob⟩ := wigm_configured (fixedArith p) c hr hz o ho
  have hG := C01.wigm_start p o _ hI (initState_fresh _ c) (initState_enough _ c hk) rfl
  obtain ⟨t, ht⟩ := wigmCount_terminates' (fixedArith p) (fixed_lawful p) o hoz (fun _ => rfl) _ hG
  have hq1 : pow10 p ≤ wigmQuota (fixedArith p) o (initState (fixedArith p) c) := by
    rw [C01.wigmQuota_fixed]
    split
    · have hnn : 0 ≤ pdiv ((initState (fixedArith p) c).nballots : Int) (((initState (fixedArith p) c).seats : Int) + 1) :=
        pdiv_nonneg _ _ (by positivity) (by positivity)
      nlinarith
    · exact C02.fractional_quota_ge_one p _ hmore
  have hcs := cstart_of_case p c hk S k _ hq1 hbig
  exact ⟨t, hrunEq ▸ ht, wigm_coalition (fixedArith p) (fixed_lawful p) (fixed_quotaComplete p)
    (by norm_num) (fixed_rewLower_mulDiv p) o hoz hob (fun _ => rfl) _ t hG hcs ht⟩

/-! non-vacuity: a two-seat case in which a coalition of two candidates holds more than two quotas plus the allowance -/

def sample2 : Case :=
  { rule := "scotland", arith := "fixed", p := 5, g := 0, intq := false, batch := "none", omega := 0, seats := 2, nballots := 100,
    cands := [(1, 1, false, false), (2, 2, false, false), (3, 3, false, false), (4, 4, false, false)],
    ballots := [(40, [1, 2, 3]), (30, [2, 1]), (20, [3, 4]), (10, [4])], ballotsEq := [] }

example : caseOK sample2 = true := by decide
example : coalitionBallots sample2 [1, 2] = 70 ∧ standing sample2 [1, 2] = 2 := by decide
/-- 70 ballots against two quotas of 34 and an allowance of 4 candidates x 2 units x 70 ballots (units of 10^-5) -/
example : ((2 : Nat) : Int) * ((pdiv ((sample2.nballots : Nat) : Int) (((sample2.seats : Nat) : Int) + 1) + 1) * pow10 5)
    + ((sample2.cands.length : Nat) : Int) * (2 * ((coalitionBallots sample2 [1, 2] : Nat) : Int))
    < ((coalitionBallots sample2 [1, 2] : Nat) : Int) * pow10 5 := by decide

end Droop.C05
