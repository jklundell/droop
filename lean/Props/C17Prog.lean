import Props.C17
/-!
# C17 — the option defaults of the configurable rules (wigm, meek, warren), tied to the source by a translator

The `options()` methods of `droop/rules/wigm.py` and `droop/rules/meek.py` are not straight-line: they branch on what `setopt`
returns and compute defaults from other options (`precision // 2`, `precision * 2 // 3`).  `harness/gen_options.py` translates
those bodies (Python `ast`) into the small program language below and emits a Lean file stating
`Gen.wigmProg = C17.wigmProg` and `Gen.meekProg = C17.meekProg` (checked by the kernel, `rfl`, on every run of C17).

The interpreter's primitives are the `Options` model's own (`setopt`, `getopt`, Python `==`, `//`); the option model `ruleOptions`
(the one the `OPTS` correspondence compares with `Election.__init__`) is the interpretation of those programs for every `Options` value.
-/
namespace Droop.C17
open Droop Options

/-- expressions of an `options()` body -/
inductive PEx
  | lit (v : OV)
  | var (x : String)
  | getopt (k : String)
  | setopt (k : String) (dflt : PEx) (allowed : List OV)
  | fdiv (a : PEx) (n : Int)            -- `a // n`
  | mulfdiv (a : PEx) (m n : Int)       -- `a * m // n`
  | eq (a : PEx) (v : OV)               -- `a == literal`

mutual
  /-- statements: assignment (to a local or to `self.<attr>`), expression statement, if / elif / else -/
  inductive PStmt
    | assign (x : String) (e : PEx)
    | expr (e : PEx)
    | ite (c : PEx) (thn : PBlock) (els : PBlock)
  inductive PBlock
    | nil
    | cons (s : PStmt) (b : PBlock)
end

abbrev Env := List (String × OV)

def Env.get (e : Env) (x : String) : OV := ((e.find? (·.1 == x)).map (·.2)).getD .none

def evalEx : PEx → Options × Env → Except OErr ((Options × Env) × OV)
  | .lit v, st => .ok (st, v)
  | .var x, st => .ok (st, st.2.get x)
  | .getopt k, st => .ok (st, st.1.getopt k)
  | .setopt k d al, st =>
    match evalEx d st with
    | .error e => .error e
    | .ok (st1, dv) =>
      match st1.1.setopt k dv (allowed := al) with
      | .error e => .error e
      | .ok (o2, v) => .ok ((o2, st1.2), v)
  | .fdiv a n, st =>
    match evalEx a st with
    | .error e => .error e
    | .ok (st1, v) =>
      match ovInt? v with
      | some p => .ok (st1, .i (Int.fdiv p n))
      | none => .error (.crash "TypeError")
  | .mulfdiv a m n, st =>
    match evalEx a st with
    | .error e => .error e
    | .ok (st1, v) =>
      match ovInt? v with
      | some p => .ok (st1, .i (Int.fdiv (p * m) n))
      | none => .error (.crash "TypeError")
  | .eq a v, st =>
    match evalEx a st with
    | .error e => .error e
    | .ok (st1, x) => .ok (st1, .b (x.pyEq v))

mutual
  def evalStmt : PStmt → Options × Env → Except OErr (Options × Env)
    | .assign x e, st =>
      match evalEx e st with
      | .error err => .error err
      | .ok (st1, v) => .ok (st1.1, (x, v) :: st1.2)
    | .expr e, st =>
      match evalEx e st with
      | .error err => .error err
      | .ok (st1, _) => .ok st1
    | .ite c thn els, st =>
      match evalEx c st with
      | .error err => .error err
      | .ok (st1, v) => if v.pyEq (.b true) then evalBlock thn st1 else evalBlock els st1
  def evalBlock : PBlock → Options × Env → Except OErr (Options × Env)
    | .nil, st => .ok st
    | .cons s b, st =>
      match evalStmt s st with
      | .error err => .error err
      | .ok st1 => evalBlock b st1
end

def runProg (p : PBlock) (o : Options) : Except OErr (Options × Env) := evalBlock p (o, [])

/-! ## the interpreter's equations, in `Except`'s monad

`evalEx` / `evalStmt` / `evalBlock` thread errors by hand; said with `>>=` they are the same shape as the `do` blocks of `ruleOptions`,
and the monad laws bring a program's interpretation to one chain of `setopt` calls. -/

theorem evalBlock_cons (s b) : evalBlock (.cons s b) = fun st => evalStmt s st >>= evalBlock b := by
  funext st; rw [evalBlock]; cases evalStmt s st <;> rfl
theorem evalStmt_assign (x e st) : evalStmt (.assign x e) st = evalEx e st >>= fun r => pure (r.1.1, (x, r.2) :: r.1.2) := by
  rw [evalStmt]; cases evalEx e st <;> rfl
theorem evalStmt_expr (e st) : evalStmt (.expr e) st = evalEx e st >>= fun r => pure r.1 := by
  rw [evalStmt]; cases evalEx e st <;> rfl
theorem evalStmt_ite (c thn els st) : evalStmt (.ite c thn els) st =
    evalEx c st >>= fun r => if r.2.pyEq (.b true) then evalBlock thn r.1 else evalBlock els r.1 := by
  rw [evalStmt]; cases evalEx c st <;> rfl
theorem evalEx_setopt (k d al st) : evalEx (.setopt k d al) st =
    evalEx d st >>= fun r => r.1.1.setopt k r.2 (allowed := al) >>= fun q => pure ((q.1, r.1.2), q.2) := by
  rw [evalEx]
  cases evalEx d st with
  | error e => rfl
  | ok r =>
    show (match r.1.1.setopt k r.2 (allowed := al) with
      | Except.error e => Except.error e
      | Except.ok (o2, v) => Except.ok ((o2, r.1.2), v)) =
        (r.1.1.setopt k r.2 (allowed := al) >>= fun q => pure ((q.1, r.1.2), q.2))
    cases r.1.1.setopt k r.2 (allowed := al) <;> rfl
theorem evalEx_fdiv (a n st) : evalEx (.fdiv a n) st =
    evalEx a st >>= fun r => match ovInt? r.2 with
      | some p => pure (r.1, .i (Int.fdiv p n))
      | none => throw (.crash "TypeError") := by
  rw [evalEx]; cases evalEx a st <;> rfl
theorem evalEx_mulfdiv (a m n st) : evalEx (.mulfdiv a m n) st =
    evalEx a st >>= fun r => match ovInt? r.2 with
      | some p => pure (r.1, .i (Int.fdiv (p * m) n))
      | none => throw (.crash "TypeError") := by
  rw [evalEx]; cases evalEx a st <;> rfl
theorem evalEx_eq (a v st) : evalEx (.eq a v) st = evalEx a st >>= fun r => pure (r.1, .b (r.2.pyEq v)) := by
  rw [evalEx]; cases evalEx a st <;> rfl

theorem evalBlock_nil : evalBlock .nil = pure := rfl
theorem evalEx_lit (v st) : evalEx (.lit v) st = pure (st, v) := rfl
theorem evalEx_var (x st) : evalEx (.var x) st = pure (st, st.2.get x) := rfl
theorem evalEx_getopt (k st) : evalEx (.getopt k) st = pure (st, st.1.getopt k) := rfl

theorem Env.get_cons (k : String) (v : OV) (e : Env) (x : String) :
    Env.get ((k, v) :: e) x = if k == x then v else e.get x := by
  unfold Env.get
  rw [List.find?_cons]
  cases k == x <;> rfl

theorem exceptThrow_bind {ε α β} (e : ε) (f : α → Except ε β) : (throw e : Except ε α) >>= f = throw e := rfl

/-- `droop/rules/wigm.py`, `Rule.options` -/
def wigmProg : PBlock :=
  .cons (.ite (.eq (.setopt "arithmetic" (.lit (.s "guarded")) []) (.s "guarded"))
          (.cons (.expr (.setopt "precision" (.lit (.i 18)) []))
            (.cons (.expr (.setopt "guard" (.fdiv (.getopt "precision") 2) [])) .nil))
          (.cons (.ite (.eq (.getopt "arithmetic") (.s "fixed"))
                    (.cons (.expr (.setopt "precision" (.lit (.i 9)) [])) .nil)
                    .nil) .nil))
  (.cons (.assign "self.integer_quota" (.setopt "integer_quota" (.lit (.b false)) [.b true, .b false]))
  (.cons (.assign "self.defeat_batch" (.setopt "defeat_batch" (.lit (.s "none")) [.s "none", .s "zero"])) .nil))

/-- `droop/rules/meek.py`, `Rule.options` (meek and warren) -/
def meekProg : PBlock :=
  .cons (.assign "self.name" (.getopt "rule"))
  (.cons (.assign "self.warren" (.eq (.var "self.name") (.s "warren")))
  (.cons (.assign "arithmetic" (.setopt "arithmetic" (.lit (.s "guarded")) []))
  (.cons (.ite (.eq (.var "arithmetic") (.s "guarded"))
          (.cons (.assign "precision" (.setopt "precision" (.lit (.i 18)) []))
            (.cons (.expr (.setopt "guard" (.fdiv (.var "precision") 2) []))
              (.cons (.assign "self.omega10" (.setopt "omega" (.fdiv (.var "precision") 2) [])) .nil)))
          (.cons (.ite (.eq (.var "arithmetic") (.s "fixed"))
                    (.cons (.assign "precision" (.setopt "precision" (.lit (.i 9)) []))
                      (.cons (.assign "self.omega10" (.setopt "omega" (.mulfdiv (.var "precision") 2 3) [])) .nil))
                    (.cons (.ite (.eq (.var "arithmetic") (.s "rational"))
                              (.cons (.assign "self.omega10" (.setopt "omega" (.lit (.i 10)) [])) .nil)
                              .nil) .nil)) .nil))
  (.cons (.assign "self.defeat_batch" (.setopt "defeat_batch" (.lit (.s "safe")) [.s "none", .s "safe"])) .nil))))

/-- what the rule keeps of the run: the options object and the attributes it stored on `self` -/
def wigmResult (r : Options × Env) : Options × RuleParams :=
  (r.1, { integerQuota := r.2.get "self.integer_quota", defeatBatch := r.2.get "self.defeat_batch" })

def meekResult (r : Options × Env) : Options × RuleParams :=
  (r.1, { omega10 := r.2.get "self.omega10", defeatBatch := r.2.get "self.defeat_batch" })

theorem pyEq_btrue (b : Bool) : (OV.b b).pyEq (.b true) = b := by cases b <;> rfl

/-- **the option model of wigm is the interpretation of the translated `options()`**, for every options object -/
theorem wigm_options_are_the_program (o : Options) :
    ruleOptions "wigm" o = (runProg wigmProg o).map wigmResult := by
  unfold ruleOptions runProg wigmProg
  simp only [beq_self_eq_true, if_true, evalBlock_cons, evalStmt_assign, evalStmt_expr, evalStmt_ite, evalEx_setopt, evalEx_fdiv,
    evalEx_eq, evalEx_lit, evalEx_getopt, evalBlock_nil, pyEq_btrue, exceptMap_eq_bind, bind_assoc, pure_bind, bind_pure]
  -- both sides are now `setopt "arithmetic" … >>= …`; below it the branches are straight chains
  refine bind_congr fun x => ?_
  by_cases hg : x.2.pyEq (.s "guarded") = true
  · simp only [hg, if_true, bind_assoc]
    refine bind_congr fun y => ?_
    cases ovInt? (y.1.getopt "precision") <;> simp [exceptThrow_bind, wigmResult, Env.get]
  · by_cases hf : (x.1.getopt "arithmetic").pyEq (.s "fixed") = true <;>
      simp [hg, hf, wigmResult, Env.get]

/-- **the option model of meek / warren is the interpretation of the translated `options()`**, for every options object -/
theorem meek_options_are_the_program (rule : String) (hr : rule = "meek" ∨ rule = "warren") (o : Options) :
    ruleOptions rule o = (runProg meekProg o).map meekResult := by
  have hrule : ruleOptions rule o = ruleOptions "meek" o := by
    rcases hr with rfl | rfl
    · rfl
    · unfold ruleOptions; simp
  rw [hrule]
  unfold ruleOptions runProg meekProg
  simp only [show ("meek" == "wigm") = false from by decide, Bool.false_eq_true, beq_self_eq_true, Bool.true_or,
    evalBlock_cons, evalStmt_assign, evalStmt_expr, evalStmt_ite, evalEx_setopt, evalEx_fdiv, evalEx_mulfdiv, evalEx_eq, evalEx_lit,
    evalEx_var, evalEx_getopt, evalBlock_nil, pyEq_btrue, exceptMap_eq_bind, bind_assoc, pure_bind, bind_pure,
    Env.get_cons, String.reduceBEq, ↓reduceIte]
  refine bind_congr fun x => ?_
  by_cases hg : x.2.pyEq (.s "guarded") = true
  · simp only [hg, if_true, bind_assoc]
    refine bind_congr fun y => ?_
    cases hp : ovInt? y.2 <;> simp [hp, exceptThrow_bind, meekResult, Env.get_cons]
  · by_cases hf : x.2.pyEq (.s "fixed") = true
    · simp only [hg, hf, if_true, if_false, Bool.false_eq_true, bind_assoc]
      refine bind_congr fun y => ?_
      cases ovInt? y.2 <;> simp [exceptThrow_bind, meekResult, Env.get_cons]
    · by_cases hq : x.2.pyEq (.s "rational") = true <;> simp [hg, hf, hq, meekResult, Env.get]

end Droop.C17
