import Props.C01
import DroopProofs

/-! # C02, lower half: none lost beyond rounding

`LInv A u s` (DroopProofs/Lower.lean): `ballots·1 ≤ Σ tallies + non-transferable + u·ballots·T`, where `T` is the number of
surplus transfers logged so far — for the state, and (`recl`) for **every snapshot of the record with `T` counted up to that
snapshot's own action**. With `u` = two units in the last place this is the shortfall the property allows. Exclusions,
elections and tie-breaks lose nothing (`defeatedCore_total`: an exclusion transfer leaves the total *unchanged*); a surplus
transfer loses less than two units per ballot that moves (`fixed_rewLower_mulDiv`, `fixed_rewLower_muldiv`), provided the
tally being reduced is at least one vote — which holds whenever the quota is at least one vote, i.e. there are more ballots
than seats (for the integer quotas of the Scottish and Minneapolis rules: always). -/
namespace Droop.C02
open Droop

/-- what `LInv` says about the record, spelled out -/
theorem lower_unfolded {α : Type} [CommRing α] [LinearOrder α] [IsStrictOrderedRing α] (A : Arith α) (u : α) (s : St α)
    (h : LInv A u s) :
    ∀ (l : List (Act α)) (a : Act α), (a :: l) <:+ s.acts → ∀ sn, a.snap = some sn →
      ((s.nballots : Int) : α) * A.one ≤ snapTot sn + u * ((s.nballots : Int) : α) * (nST (a :: l) : α) :=
  h.recl

theorem start_of_init (p : Nat) (q : Int) (s0 : St Int) (h0 : Init (fixedArith p) s0) (hq1 : pow10 p ≤ q)
    (hnoW : ∀ b ∈ s0.ballots, ∀ c ∈ s0.cands, c.st = .withdrawn → b.top ≠ some c.cid) : LStart (fixedArith p) q s0 :=
  ⟨h0, hq1, hnoW⟩

theorem scotland_lower_fixed (p : Nat) (s0 t : St Int) (h0 : Init (fixedArith p) s0)
    (hnoW : ∀ b ∈ s0.ballots, ∀ c ∈ s0.cands, c.st = .withdrawn → b.top ≠ some c.cid)
    (h : scotCount (fixedArith p) s0 = some t) :
    LInv (fixedArith p) 2 (t.logAct (fixedArith p) "end" "Count Complete" []) := by
  exact scot_lower _ (fixed_lawful p) 2 (by norm_num) (fixed_rewLower_muldiv p) rfl s0 t h0
    (start_of_init p _ s0 h0 (integer_quota_ge_one p _ _) hnoW) (integer_quota_pos p s0.nballots s0.seats) h

/-- the fractional quota `⌊n/(s+1)⌋ + ε` is at least one vote when there are more ballots than seats -/
theorem fractional_quota_ge_one (p : Nat) (s0 : St Int) (hmore : s0.seats < s0.nballots) :
    pow10 p ≤ cferQuota (fixedArith p) s0 := by
  have hS := pow10_pos p
  rw [C01.cferQuota_fixed]
  have hk : (0 : Int) < ((s0.seats + 1 : Nat) : Int) * pow10 p := by positivity
  have hle : pow10 p * (((s0.seats + 1 : Nat) : Int) * pow10 p) ≤ (s0.nballots : Int) * pow10 p * pow10 p := by
    have h1 : ((s0.seats + 1 : Nat) : Int) ≤ (s0.nballots : Int) := by exact_mod_cast hmore
    have h2 : ((s0.seats + 1 : Nat) : Int) * (pow10 p * pow10 p) ≤ (s0.nballots : Int) * (pow10 p * pow10 p) :=
      mul_le_mul_of_nonneg_right h1 (by positivity)
    calc pow10 p * (((s0.seats + 1 : Nat) : Int) * pow10 p) = ((s0.seats + 1 : Nat) : Int) * (pow10 p * pow10 p) := by ring
      _ ≤ (s0.nballots : Int) * (pow10 p * pow10 p) := h2
      _ = (s0.nballots : Int) * pow10 p * pow10 p := by ring
  have : pow10 p ≤ pdiv ((s0.nballots : Int) * pow10 p * pow10 p) (((s0.seats + 1 : Nat) : Int) * pow10 p) := by
    unfold pdiv
    rw [Int.fdiv_eq_ediv_of_nonneg _ (le_of_lt hk)]
    exact Int.le_ediv_of_mul_le hk hle
  omega

theorem cfer_lower_fixed (p : Nat) (batch : Bool) (s0 t : St Int) (h0 : Init (fixedArith p) s0)
    (hnoW : ∀ b ∈ s0.ballots, ∀ c ∈ s0.cands, c.st = .withdrawn → b.top ≠ some c.cid)
    (hmore : s0.seats < s0.nballots) (h : cferCount (fixedArith p) batch s0 = some t) :
    LInv (fixedArith p) 2 (t.logAct (fixedArith p) "end" "Count Complete" []) := by
  have hq1 := fractional_quota_ge_one p s0 hmore
  have hS := pow10_pos p
  exact cfer_lower _ (fixed_lawful p) 2 (by norm_num) (fixed_rewLower_mulDiv p) rfl batch s0 t h0
    (start_of_init p _ s0 h0 hq1 hnoW) (lt_of_lt_of_le hS hq1) h

theorem wigm_prf_lower_fixed (p : Nat) (batch : Bool) (s0 t : St Int) (h0 : Init (fixedArith p) s0)
    (hnoW : ∀ b ∈ s0.ballots, ∀ c ∈ s0.cands, c.st = .withdrawn → b.top ≠ some c.cid)
    (hmore : s0.seats < s0.nballots)
    (h : wigmCount (fixedArith p) { prf := true, prfBatch := batch } s0 = some t) :
    LInv (fixedArith p) 2 (t.logAct (fixedArith p) "end" "Count Complete" []) := by
  have hq : wigmQuota (fixedArith p) { prf := true, prfBatch := batch } s0 = cferQuota (fixedArith p) s0 := by
    rw [C01.wigmQuota_fixed]; simp
  have hq1 := fractional_quota_ge_one p s0 hmore
  have hS := pow10_pos p
  exact wigm_lower _ (fixed_lawful p) 2 (by norm_num) (fixed_rewLower_mulDiv p) _ rfl (fun _ => rfl) s0 t h0
    (by rw [hq]; exact start_of_init p _ s0 h0 hq1 hnoW) (by rw [hq]; exact lt_of_lt_of_le hS hq1) h

theorem mpls_lower_fixed (p : Nat) (s0 t : St Int) (h0 : Init (fixedArith p) s0)
    (hnoW : ∀ b ∈ s0.ballots, ∀ c ∈ s0.cands, c.st = .withdrawn → b.top ≠ some c.cid)
    (h : mplsCount (fixedArith p) s0 = some t) :
    LInv (fixedArith p) 2 (t.logAct (fixedArith p) "end" "Count Complete" []) := by
  exact mpls_lower _ (fixed_lawful p) 2 (by norm_num) (fixed_rewLower_mulDiv p) rfl s0 t h0
    (start_of_init p _ s0 h0 (integer_quota_ge_one p _ _) hnoW) (integer_quota_pos p s0.nballots s0.seats) h

/-- wigm / wigm-prf / wigm-prf-batch under fixed-point arithmetic, **every** option setting: the count returns; its final
    state — and every snapshot of its record — satisfies the conservation bundle (C02 upper half, C06 tallies = ballot values)
    and the two-units-per-ballot-per-surplus-transfer lower bound (C02 lower half); the record is forward-only and append-only
    (C09); unless the crash flag is up exactly `seats` candidates are elected and nobody is left hopeful (C01) -/
theorem wigm_every_configuration_fixed (p : Nat) (o : WigmOpts) (s0 : St Int) (h0 : Init (fixedArith p) s0)
    (hfresh : ∀ c ∈ s0.cands, c.st ≠ .elected) (henough : s0.seats ≤ nHop s0) (hround : s0.round = 0)
    (hnoW : ∀ b ∈ s0.ballots, ∀ c ∈ s0.cands, c.st = .withdrawn → b.top ≠ some c.cid)
    (hmore : s0.seats < s0.nballots) :
    ∃ t, wigmCount (fixedArith p) o s0 = some t
      ∧ Inv (fixedArith p) (t.logAct (fixedArith p) "end" "Count Complete" [])
      ∧ LInv (fixedArith p) 2 (t.logAct (fixedArith p) "end" "Count Complete" [])
      ∧ Mon t ∧ Ext s0 t ∧ (t.crash = none → nEl t = t.seats ∧ nHop t = 0) := by
  have hS := pow10_pos p
  have hG := C01.wigm_start p o s0 h0 hfresh henough hround
  have hq1 : pow10 p ≤ wigmQuota (fixedArith p) o s0 := by
    rw [C01.wigmQuota_fixed]
    split
    · have := integer_quota_ge_one p s0.nballots s0.seats
      simp only [fixedArith] at this
      linarith
    · exact fractional_quota_ge_one p s0 hmore
  have hL : LStart (fixedArith p) (wigmQuota (fixedArith p) o s0) s0 := start_of_init p _ s0 h0 hq1 hnoW
  obtain ⟨t, ht⟩ := wigmCount_terminates_all _ (fixed_lawful p) (fixed_eqRefl p) 2 (by norm_num) (fixed_rewLower_mulDiv p) o
    (fun _ => rfl) s0 hG hL
  exact ⟨t, ht, wigm_result_all _ (fixed_lawful p) (fixed_eqRefl p) 2 (by norm_num) (fixed_rewLower_mulDiv p) o
    (fun _ => rfl) s0 t hG hL ht⟩

/-- `okC02Gregory` is the compiled predicate the driver evaluates on the model's record and on the implementation's record
(actions oldest first, `units = id` for fixed-point arithmetic).  On every record whose final state satisfies `Inv` and `LInv 2`
it is `true`, so an alarm of this oracle on the implementation's record can only come from that record differing from the
model's. -/
theorem okC02_of_inv (p : Nat) (ctx : Ctx) (s : St Int) (hn : ctx.nballots = s.nballots) (hrat : ctx.isRational = false)
    (hI : Inv (fixedArith p) s) (hL : LInv (fixedArith p) 2 s) :
    okC02Gregory (fixedArith p) ctx (fun k => k) s.acts.reverse = true := by
  unfold okC02Gregory
  rw [Bool.and_eq_true]
  refine ⟨?_, recLowerB_of_LInv (fixedArith p) (fixed_lawful p) (fixed_lawfulRaw p) ctx (fun k => k) (fun k => by simp) s hn hrat hL⟩
  have := recUpperB_of_recOK (fixedArith p) (fixed_lawful p) (fixed_lawfulRaw p) s hI.recOK
  unfold recUpperB at this ⊢
  rw [hn, List.all_reverse]; exact this

theorem scotland_okC02 (p : Nat) (ctx : Ctx) (s0 t : St Int) (h0 : Init (fixedArith p) s0)
    (hnoW : ∀ b ∈ s0.ballots, ∀ c ∈ s0.cands, c.st = .withdrawn → b.top ≠ some c.cid)
    (h : scotCount (fixedArith p) s0 = some t)
    (hn : ctx.nballots = (t.logAct (fixedArith p) "end" "Count Complete" []).nballots) (hrat : ctx.isRational = false) :
    okC02Gregory (fixedArith p) ctx (fun k => k) (t.logAct (fixedArith p) "end" "Count Complete" []).acts.reverse = true :=
  okC02_of_inv p ctx _ hn hrat (scotland_fixed p s0 t h0 h).1 (scotland_lower_fixed p s0 t h0 hnoW h)

/-- non-vacuity: the two-candidate profile of `Props/C02` meets every hypothesis of `wigm_every_configuration_fixed`
    (3 ballots, 1 seat, nobody withdrawn), so the theorem speaks about real counts -/
example : (∀ b ∈ C02.tiny.ballots, ∀ c ∈ C02.tiny.cands, c.st = .withdrawn → b.top ≠ some c.cid)
    ∧ C02.tiny.seats < C02.tiny.nballots ∧ C02.tiny.seats ≤ nHop C02.tiny ∧ C02.tiny.round = 0 := by
  refine ⟨?_, by decide, by decide, rfl⟩
  intro b _ c hc hw
  simp [C02.tiny] at hc
  rcases hc with rfl | rfl <;> simp at hw

/-- non-vacuity: the count of `tiny` under wigm-prf-batch returns with the crash flag down -/
example : ((wigmCount (fixedArith 4) { prf := true, prfBatch := true } C02.tiny).map (·.crash.isNone)) = some true := by decide

end Droop.C02
