import DroopProofs.MeekRun
import DroopProofs.PermB
/-!
# C09: every place that writes a candidate's status, as read from the source

`harness/gen_status.py` scans every module of the package for an assignment to an attribute named `state` or `pending` (tuple, augmented
and annotated assignments and `setattr` with a possibly matching name are refused) and lists them, with the enclosing `Class.method` and
the source text of the assigned value; it also lists the modules that call `.unelect()`, and the assertions at the head of
`Candidate.unpend`.  The kernel checks the lists equal to the ones committed here on every C09 run.

So the only writers are the constructor and the four methods of `Candidate`, and the only caller of the backward move `unelect` is
rules/qpq.py.  The theorems below say that the model's mutators (DroopModel/Core.lean, Qpq.lean) perform exactly these writes: the run-level
C09 theorems (`Mon`, `StFwd`) quantify over all the ways the rules *call* them.
-/
namespace Droop.C09
open Droop

/-- (module, Class.method, attribute, assigned value) -/
def statusWrites : List (String × String × String × String) :=
  [("candidate.py", "Candidate.__init__", "state", "'withdrawn' if isWithdrawn else 'hopeful'"),
   ("candidate.py", "Candidate.__init__", "pending", "None"),
   ("candidate.py", "Candidate.elect", "state", "'elected'"),
   ("candidate.py", "Candidate.elect", "pending", "pending"),
   ("candidate.py", "Candidate.unpend", "pending", "False"),
   ("candidate.py", "Candidate.unelect", "state", "'hopeful'"),
   ("candidate.py", "Candidate.defeat", "state", "'defeated'")]

def unelectCallers : List String := ["rules/qpq.py"]
def unpendAsserts : List String := ["self.state == 'elected'", "self.pending"]

variable {α : Type} (A : Arith α)

/-- `Candidate.elect(msg, pending)`: `state = 'elected'`, `pending = pending`, for the one candidate; nobody else is touched -/
theorem elect_is_the_write (s : St α) (cid : Nat) (verb : String) (p : Bool) :
    (s.elect A cid verb p).cands = s.cands.map (fun c => if c.cid == cid then { c with st := .elected, pending := p } else c) := by
  unfold St.elect St.logAct; dsimp only; split <;> rfl

/-- `Candidate.defeat(msg)`: `state = 'defeated'` -/
theorem defeat_is_the_write (s : St α) (cid : Nat) (verb : String) :
    (s.defeat A cid verb).cands = s.cands.map (fun c => if c.cid == cid then { c with st := .defeated } else c) := by
  unfold St.defeat St.logAct; dsimp only; split <;> rfl

/-- `Candidate.unpend(msg)`: `pending = False`; the status itself is not written -/
theorem unpend_is_the_write (s : St α) (cid : Nat) (verb : String) :
    (s.unpendLog A cid verb).cands = s.cands.map (fun c => if c.cid == cid then { c with pending := false } else c)
    ∧ (s.unpendSilent cid).cands = s.cands.map (fun c => if c.cid == cid then { c with pending := false } else c) := by
  refine ⟨?_, rfl⟩
  unfold St.unpendLog St.logAct; dsimp only; split <;> rfl

/-- the statuses after `unpend` are the statuses before -/
theorem unpend_keeps_status (s : St α) (cid : Nat) (verb : String) :
    (s.unpendLog A cid verb).cands.map (·.st) = s.cands.map (·.st) := by
  rw [(unpend_is_the_write A s cid verb).1, List.map_map]
  apply List.map_congr_left
  intro c _
  simp only [Function.comp]
  split <;> rfl

/-- `Candidate.__init__`: `'withdrawn' if isWithdrawn else 'hopeful'`, not pending -/
theorem initial_status (c : Case) :
    (initState A c).cands.map (fun x => (x.st, x.pending))
      = c.cands.map (fun k => (if k.2.2.1 then CState.withdrawn else CState.hopeful, false)) := by
  unfold initState
  simp only [List.map_map]
  apply List.map_congr_left
  intro k _
  obtain ⟨cid, tie, wd, ud⟩ := k
  rfl

end Droop.C09
