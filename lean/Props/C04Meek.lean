import Props.C04Elect
/-!
# C04 for meek and warren: the quota of every iteration is the prescribed one, and whoever reaches it is elected

One iteration of `meek.py` (`meekIterCore`): distribute, recompute the total of the active tallies, recompute the quota from that
total, elect every hopeful candidate that passes the quota test, compute the surplus.

* `meek_quota_prescribed`: the quota the iteration leaves is `meekQuota` of the active total it has just computed — for
  fixed-point arithmetic (`meek_quota_fixed`): that total divided by seats + 1, truncated to the working precision, plus one unit
  in the last place;
* `meek_reaches_quota_is_elected`: every hopeful candidate passing the test is elected in the state the iteration returns;
* `meek_no_hopeful_holds_quota`: every candidate still hopeful afterwards failed the test with the tally and quota of this
  iteration — for fixed-point arithmetic it holds strictly less than the quota (`meek_rest_below_fixed`).
-/
namespace Droop.C04
open Droop
variable {α : Type} [CommRing α] [LinearOrder α] [IsStrictOrderedRing α] (A : Arith α)

theorem foldElect_quota (ws : List (Cand α)) (verb : String) (s : St α) :
    (ws.foldl (fun acc c => acc.elect A c.cid verb false) s).quota = s.quota := by
  induction ws generalizing s with
  | nil => rfl
  | cons w ws ih =>
    simp only [List.foldl_cons]
    rw [ih]
    unfold St.elect
    rw [logAct_quota]
    rfl

/-- the quota after an iteration is the quota formula applied to the active total of this iteration -/
theorem meek_quota_prescribed (o : MeekOpts) (s : St α) :
    (meekIterCore A o s).quota
      = meekQuota A ((distributeVotes A o.warren s).setVotes (activeVotes A (distributeVotes A o.warren s))) := by
  rw [meekIterCore_eq]
  show (meekS4 A o s).quota = _
  unfold meekS4
  rw [foldElect_quota]
  rfl

/-- fixed-point: total / (seats + 1), truncated, plus one unit in the last place -/
theorem meekQuota_fixed (p : Nat) (s : St Int) :
    meekQuota (fixedArith p) s = pdiv (s.votes * pow10 p) (((s.seats : Int) + 1) * pow10 p) + 1 := by
  have hne : ((((s.seats : Int) + 1) * pow10 p) == 0) = false := by
    have := pow10_pos p
    have : (0 : Int) < ((s.seats : Int) + 1) * pow10 p := by positivity
    simp only [beq_eq_false_iff_ne, ne_eq]
    omega
  show (if (((s.seats : Int) + 1) * pow10 p == 0) = true then 0
      else pdiv (s.votes * pow10 p) (((s.seats : Int) + 1) * pow10 p)) + 1 = _
  rw [hne]
  rfl

theorem meek_quota_fixed (p : Nat) (o : MeekOpts) (s : St Int) :
    (meekIterCore (fixedArith p) o s).quota
      = pdiv (activeVotes (fixedArith p) (distributeVotes (fixedArith p) o.warren s) * pow10 p)
          (((distributeVotes (fixedArith p) o.warren s).seats + 1 : Int) * pow10 p) + 1 := by
  rw [meek_quota_prescribed, meekQuota_fixed]
  rfl

/-- folding `elect` over a sublist of the hopefuls: who is still hopeful afterwards was hopeful before and is not in the list -/
theorem foldElect_rest (verb : String) {s : St α} (ws : List (Cand α)) (hws : ∀ w ∈ ws, w ∈ s.hopeful) :
    ∀ c ∈ (ws.foldl (fun acc c => acc.elect A c.cid verb false) s).hopeful, c ∈ s.hopeful ∧ c ∉ ws := by
  have key : ∀ (ws : List (Cand α)) (t : St α), (∀ c ∈ t.hopeful, c ∈ s.hopeful) →
      ∀ c ∈ (ws.foldl (fun acc c => acc.elect A c.cid verb false) t).hopeful, c ∈ t.hopeful ∧ ∀ w ∈ ws, c.cid ≠ w.cid := by
    intro ws
    induction ws with
    | nil => intro t _ c hc; exact ⟨hc, fun w hw => by cases hw⟩
    | cons w ws ih =>
      intro t ht c hc
      simp only [List.foldl_cons] at hc
      have hstep : ∀ c' ∈ (t.elect A w.cid verb false).hopeful, c' ∈ t.hopeful ∧ c'.cid ≠ w.cid := by
        intro c' hc'
        have hc'' := mem_hopeful.1 hc'
        unfold St.elect at hc''
        rw [logAct_cands] at hc''
        obtain ⟨x, hx, hxe⟩ := mem_upd.1 hc''.1
        by_cases hcc : (x.cid == w.cid) = true
        · rw [if_pos hcc] at hxe
          rw [hxe] at hc''; simp at hc''
        · rw [if_neg hcc] at hxe
          rw [hxe] at hc'' ⊢
          exact ⟨mem_hopeful.2 ⟨hx, hc''.2⟩, by simpa using hcc⟩
      obtain ⟨h1, h2⟩ := ih (t.elect A w.cid verb false) (fun c' hc' => ht c' (hstep c' hc').1) c hc
      refine ⟨(hstep c h1).1, ?_⟩
      intro w' hw'
      rcases List.mem_cons.1 hw' with rfl | hw''
      · exact (hstep c h1).2
      · exact h2 w' hw''
  intro c hc
  obtain ⟨h1, h2⟩ := key ws s (fun c hc => hc) c hc
  exact ⟨h1, fun hin => h2 c hin rfl⟩

/-- every hopeful candidate that passes the quota test of this iteration is elected in the state the iteration returns -/
theorem meek_reaches_quota_is_elected (o : MeekOpts) (s : St α) (w : Cand α) (hw : w ∈ (meekS3 A o s).hopeful)
    (hq : hasQuotaX A (meekS3 A o s) w = true) :
    ∀ x ∈ (meekIterCore A o s).cands, x.cid = w.cid → x.st = .elected := by
  rw [meekIterCore_eq]
  unfold meekS4
  have hm : w ∈ meekWinners A (meekS3 A o s) := by unfold meekWinners; rw [List.mem_filter]; exact ⟨hw, hq⟩
  exact foldElect_all A _ (fun _ => "Elect") (fun _ => false) (meekS3 A o s) w hm

/-- whoever is still hopeful after the iteration failed the quota test with this iteration's tally and quota -/
theorem meek_no_hopeful_holds_quota (o : MeekOpts) (s : St α) :
    ∀ c ∈ (meekIterCore A o s).hopeful, c ∈ (meekS3 A o s).hopeful ∧ hasQuotaX A (meekS3 A o s) c = false := by
  intro c hc
  rw [meekIterCore_eq] at hc
  have hc' : c ∈ (meekS4 A o s).hopeful := hc
  unfold meekS4 at hc'
  obtain ⟨h1, h2⟩ := foldElect_rest A "Elect" (meekWinners A (meekS3 A o s))
    (fun w hw => by unfold meekWinners at hw; exact (List.mem_filter.1 hw).1) c hc'
  refine ⟨h1, ?_⟩
  by_contra hq
  apply h2
  unfold meekWinners
  rw [List.mem_filter]
  exact ⟨h1, by simpa using hq⟩

/-- fixed-point: whoever is still hopeful after the iteration holds strictly less than its quota -/
theorem meek_rest_below_fixed (p : Nat) (o : MeekOpts) (s : St Int) :
    ∀ c ∈ (meekIterCore (fixedArith p) o s).hopeful, c.vote < (meekS3 (fixedArith p) o s).quota := by
  intro c hc
  have h := (meek_no_hopeful_holds_quota (fixedArith p) o s c hc).2
  have hx : hasQuotaX (fixedArith p) (meekS3 (fixedArith p) o s) c = (fixedArith p).ge c.vote (meekS3 (fixedArith p) o s).quota := rfl
  rw [hx] at h
  exact lt_of_ge_false p _ _ h

end Droop.C04
