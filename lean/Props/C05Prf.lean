import DroopProofs.PrfFirst
import Props.C05Meek
/-!
# C05, one seat, for meek-prf: a candidate ranked first by more than half of the ballots is elected

Same statement and the same proof shape as for meek and warren (`Props/C05Meek.lean`), for the reference rule: if the count
returns, the majority candidate is elected in the state it returns (`prf_majority`; every case with strict rankings inside
`caseOK`, one seat, at least one digit of precision).  The first distribution is the first-preference count
(`prf_first_figures`), the majority tally reaches `⌊V/2⌋ + 1`, the first iteration elects and logs it, and the record is
forward-only (`prf_record_monotone`) and append-only (`ext_prfBody`).
-/
namespace Droop.C05
open Droop

theorem prf_majority_wins_first_iteration (p : Nat) (hp : p ≠ 0) (c : Case) (hm : methodOf c.rule = .meek) (hk : CaseOK c)
    (hseats : c.seats = 1) (w : Nat) (hmaj : c.nballots < 2 * firstPrefs c w) :
    ∃ w2 ∈ prfWinners (fixedArith p) ((prfStart (fixedArith p) (initState (fixedArith p) c)).newRound (fixedArith p)), w2.cid = w := by
  have hA := fixed_lawful p
  have h0 := initState_minit (fixedArith p) hA c hm hk
  have hf := freshBallots_initState p c hk
  obtain ⟨x, hx, hxc, hxh⟩ := majority_stands p c hk w (by omega)
  obtain ⟨hvote, hsk2, hV, hseat2⟩ := prf_first_figures p (initState (fixedArith p) c) h0 hf
  set s1 := (prfStart (fixedArith p) (initState (fixedArith p) c)).newRound (fixedArith p) with hs1
  obtain ⟨w2, hw2, hw2s⟩ := mem_of_skel_eq hsk2.symm hx
  have hcid : w2.cid = w := (skel_cid hw2s).trans hxc
  have hst : w2.st = .hopeful := by rw [(skel_st hw2s).1]; exact hxh
  have hwf2 : (prfS2 (fixedArith p) s1).WF := WF_of_skel hsk2.symm h0.wf
  have hv : w2.vote = (firstPrefs c w : Int) * pow10 p := by
    rw [← voteOf_of_mem hwf2 hw2, hcid, hvote]
    exact tally_initState p c w
  refine ⟨w2, ?_, hcid⟩
  unfold prfWinners
  rw [List.mem_filter]
  refine ⟨?_, ?_⟩
  · unfold prfS4
    exact mem_hopeful.2 ⟨hw2, hst⟩
  · apply ge_of_le
    rw [hv]
    have hS := pow10_pos p
    have hS2 : (2 : Int) ≤ pow10 p := by
      obtain ⟨k, rfl⟩ : ∃ k, p = k + 1 := ⟨p - 1, by omega⟩
      have : pow10 (k + 1) = 10 * pow10 k := by simp [pow10, pow_succ, mul_comm]
      have hk := pow10_pos k
      omega
    have hse : ((prfS2 (fixedArith p) s1).seats : Int) + 1 = 2 := by
      rw [hseat2]
      show (((c.seats : Nat)) : Int) + 1 = 2
      rw [hseats]; norm_num
    show (if ((((prfS2 (fixedArith p) s1).seats : Int) + 1) * pow10 p == 0) = true then 0
        else pdiv (activeVotes (fixedArith p) (prfS2 (fixedArith p) s1) * pow10 p) ((((prfS2 (fixedArith p) s1).seats : Int) + 1) * pow10 p)) + 1
        ≤ (firstPrefs c w : Int) * pow10 p
    rw [hse]
    have hne : ((2 : Int) * pow10 p == 0) = false := by
      simp only [beq_eq_false_iff_ne, ne_eq]; omega
    rw [hne]
    simp only [Bool.false_eq_true, if_false]
    exact quota_reached (pow10 p) (activeVotes (fixedArith p) (prfS2 (fixedArith p) s1)) c.nballots (firstPrefs c w) hS2 hV hmaj

theorem prf_first_round_shows (p : Nat) (hp : p ≠ 0) (omega : Int) (n : Nat) (c : Case) (hm : methodOf c.rule = .meek)
    (hk : CaseOK c) (hseats : c.seats = 1) (w : Nat) (hmaj : c.nballots < 2 * firstPrefs c w) :
    Shown w (prfBody (fixedArith p) omega (n + 1) (prfStart (fixedArith p) (initState (fixedArith p) c))).1 := by
  obtain ⟨w2, hw2, hcid⟩ := prf_majority_wins_first_iteration p hp c hm hk hseats w hmaj
  unfold prfBody
  generalize (prfStart (fixedArith p) (initState (fixedArith p) c)).newRound (fixedArith p) = s1 at hw2 ⊢
  simp only [prfIterate_elected (fixedArith p) omega n _ s1 (List.isEmpty_eq_false_iff.2 (List.ne_nil_of_mem hw2)), beq_self_eq_true,
    if_true, apply_ite Prod.fst, ite_self]
  -- the election step logs a snapshot in which the candidate is elected
  have hsh : Shown w2.cid (prfS5 (fixedArith p) s1) := by
    unfold prfS5
    have hw4 : w2 ∈ (prfS4 (fixedArith p) s1).hopeful := by
      unfold prfWinners at hw2; exact (List.mem_filter.1 hw2).1
    exact shown_foldElect (fixedArith p) (prfWinners (fixedArith p) s1) (fun _ => "Elect") (fun _ => false) (prfS4 (fixedArith p) s1) w2 hw2
      ⟨w2, (mem_hopeful.1 hw4).1, rfl⟩
  rw [hcid] at hsh
  exact hsh

/-- one seat, meek-prf: the majority candidate is elected in whatever state the count returns -/
theorem prf_majority (p : Nat) (hp : p ≠ 0) (c : Case) (hr : c.rule = "meek-prf") (hok : caseOK c = true)
    (hseats : c.seats = 1) (w : Nat) (hmaj : c.nballots < 2 * firstPrefs c w)
    (t : St Int) (h : runRuleSt (fixedArith p) c = some t) :
    ∃ x ∈ t.cands, x.cid = w ∧ x.st = .elected := by
  have hA := fixed_lawful p
  have hk := caseOK_iff c hok
  have hm : methodOf c.rule = .meek := by rw [hr]; rfl
  have h0 := initState_minit (fixedArith p) hA c hm hk
  have hcount : prfCount (fixedArith p) 100000 (initState (fixedArith p) c) = some t := by
    rw [← runRuleSt_prf (fixedArith p) c hr]; exact h
  have hMon := prf_record_monotone (fixedArith p) hA 100000 _ t h0.noActs h0.wf hcount
  rw [prfCount_eq] at hcount
  set sI := prfStart (fixedArith p) (initState (fixedArith p) c) with hsI
  set om := (fixedArith p).divV ((fixedArith p).ofInt 1) ((fixedArith p).ofInt (10 ^ 6)) with hom
  have hcr : sI.crash = none := by
    rw [hsI, prfStart_eq, (logAct_sc p _ _ _ _).2, (foldl_mfcStep_sc p _ _).2]; rfl
  obtain ⟨nf, hnf⟩ : ∃ nf, 2 * (initState (fixedArith p) c).cands.length + 3 = nf + 1 := ⟨_, rfl⟩
  rw [hnf] at hcount
  cases hl : loopN stdGuard (prfBody (fixedArith p) om 100000) (nf + 1) sI with
  | none => rw [hl] at hcount; cases hcount
  | some s6 =>
    rw [hl] at hcount
    have ht : t = prfFinish (fixedArith p) s6 := (Option.some.inj hcount).symm
    by_cases hg : stdGuard sI = true
    · have hsh := prf_first_round_shows p hp om 99999 c hm hk hseats w hmaj
      have hx1 := loopN_first (fun _ => True) Ext Ext.refl Ext.trans (fun _ _ _ _ => trivial) (fun s _ _ => ext_prfBody p om 100000 s) trivial hcr hg hl
      have hx2 := ext_prfFinish p s6
      rw [ht] at hMon ⊢
      exact hsh.final (hx1.trans hx2) hMon
    · have hgf : stdGuard sI = false := by simpa using hg
      have h6 : s6 = sI := loopN_guard_false _ _ nf sI s6 hcr hgf hl
      obtain ⟨x, hx, hxc, hxh⟩ := majority_stands p c hk w (by omega)
      have hskI : sI.skel = (initState (fixedArith p) c).skel := prfStart_skel p _
      obtain ⟨xI, hxI, hxIs⟩ := mem_of_skel_eq hskI.symm hx
      have hxIc : xI.cid = w := (skel_cid hxIs).trans hxc
      have hseatI : sI.seats = 1 := by
        rw [hsI, prfStart_eq, (logAct_sc p _ _ _ _).1, (foldl_mfcStep_sc p _ _).1]; exact hseats
      obtain ⟨hnoel, hone⟩ := sole_standing (fixedArith p) h0 hskI hseatI
        (by simpa only [stdGuard, Bool.and_eq_false_iff, decide_eq_false_iff_not, not_lt] using hgf)
        (mem_hopeful.2 ⟨hxI, by rw [(skel_st hxIs).1]; exact hxh⟩)
      rw [ht, h6, prfFinish_eq]
      rw [if_neg (by rw [hcr]; simp)]
      rw [hone]
      simp only [List.foldl_cons, List.foldl_nil]
      have hlt : sI.elected.length < sI.seats := by rw [hnoel, hseatI]; decide
      have hstep : prfFinishStep (fixedArith p) sI xI = sI.elect (fixedArith p) xI.cid "Elect remaining" false := by
        unfold prfFinishStep; rw [if_pos hlt]
      rw [hstep]
      obtain ⟨y, hy, hyc⟩ := elect_has (fixedArith p) sI xI.cid "Elect remaining" false xI.cid ⟨xI, hxI, rfl⟩
      have hyel := elect_sets (fixedArith p) sI xI.cid "Elect remaining" false y hy hyc
      exact ⟨y, hy, hyc.trans hxIc, hyel⟩

end Droop.C05
