import DroopModel.Qpq
import DroopProofs
/-!
# C06: where a ballot comes to rest (`transfer(ballot)` of the rule modules), extracted from the source

Every Gregory rule and QPQ moves a ballot with the same loop: `while not ballot.exhausted and ballot.topCand not in <continuing>:
ballot.advance()`, then (Gregory) credits the ballot's value to the exhausted total or to the candidate reached.  `harness/gen_transfer.py`
recognises that shape and extracts, per rule, which selectors make up `<continuing>` and whether the value is credited; the kernel checks
the extracted table equal to `transferTable` on every C06 run.  Here: the model's `transferBallot` / `qAdvance` are that loop with
"continuing = hopeful", and for the one rule whose source says "hopeful or pending" (mpls) the two predicates agree on every state with no
pending candidate (`contPred_mpls`). That the Minneapolis rule never marks anybody pending is a remark in the model (`DroopModel/Gregory.lean`,
at `transferBallot`), not a theorem.
-/
namespace Droop.C06
open Droop

inductive ContSet | hopeful | pending
deriving DecidableEq, Repr

structure TransferSpec where
  rule : String
  continuing : List ContSet
  credits : Bool                  -- `E.exhausted += ballot.vote` / `ballot.topCand.vote += ballot.vote` after the loop
deriving DecidableEq, Repr

def transferTable : List TransferSpec :=
  [ { rule := "wigm", continuing := [.hopeful], credits := true },
    { rule := "wigm_prf", continuing := [.hopeful], credits := true },
    { rule := "cfer", continuing := [.hopeful], credits := true },
    { rule := "scotland", continuing := [.hopeful], credits := true },
    { rule := "mpls", continuing := [.hopeful, .pending], credits := true },
    { rule := "qpq", continuing := [.hopeful], credits := false } ]

variable {α : Type}

def isPending (s : St α) (cid : Nat) : Bool := s.cands.any (fun c => c.cid == cid && c.st == .elected && c.pending)

/-- "`ballot.topCand in <continuing>`" -/
def contPred (sets : List ContSet) (s : St α) (cid : Nat) : Bool :=
  sets.any (fun k => match k with | .hopeful => s.isHopeful cid | .pending => isPending s cid)

/-- the loop of the source: advance to the first ranked candidate in `<continuing>`, or to the end -/
def loopAdvance (sets : List ContSet) (s : St α) (b : Ballot α) : Ballot α := advanceTo (contPred sets s) b

theorem contPred_hopeful (s : St α) : contPred [.hopeful] s = fun cid => s.isHopeful cid := by
  funext cid; simp [contPred]

/-- Gregory rules whose source says "hopeful": the model's `transferBallot` is the extracted loop followed by the credit -/
theorem transferBallot_is_loop (A : Arith α) (s : St α) (b : Ballot α) :
    transferBallot A s b =
      match (loopAdvance [.hopeful] s b).top with
      | some c => (s.addVote A c (bvote A (loopAdvance [.hopeful] s b)), loopAdvance [.hopeful] s b)
      | none => ({ s with exhausted := A.add s.exhausted (bvote A (loopAdvance [.hopeful] s b)) }, loopAdvance [.hopeful] s b) := by
  unfold transferBallot loopAdvance
  rw [contPred_hopeful]
  cases (advanceTo (fun cid => s.isHopeful cid) b).top <;> rfl

/-- QPQ: advance only -/
theorem qAdvance_is_loop (s : St α) (b : Ballot α) : qAdvance s b = loopAdvance [.hopeful] s b := by
  unfold qAdvance loopAdvance
  rw [contPred_hopeful]

/-- mpls: "hopeful or pending" is "hopeful" wherever nobody is pending -/
theorem contPred_mpls (s : St α) (h : s.pendingL = []) : contPred [.hopeful, .pending] s = fun cid => s.isHopeful cid := by
  funext cid
  have hp : isPending s cid = false := by
    unfold isPending
    rw [List.any_eq_false]
    intro c hc hcc
    have : c ∈ s.pendingL := by
      unfold St.pendingL
      rw [List.mem_filter]
      simp only [Bool.and_eq_true] at hcc ⊢
      exact ⟨hc, hcc.1.2, hcc.2⟩
    rw [h] at this; cases this
  simp [contPred, hp]

end Droop.C06
