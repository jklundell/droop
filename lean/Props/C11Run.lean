import Props.C11
import Props.Driver
/-!
# C11, second clause at run level: marking candidates withdrawn = deleting them (the seven Gregory rule names)

For every case inside `caseOK` (the reader has already removed withdrawn candidates from the rankings: `Props/C11.lean`,
`Props/C15.lean`) and every fixed-point precision: the state returned for the case with the withdrawn candidates *deleted from
the candidate list* is exactly the state returned for the full case with the withdrawn candidates deleted afterwards (`dropW`:
from the candidate list, from the saved round snapshots and from every snapshot of the record) — same actions in the same order,
same tallies, quota, totals, winners.

`dropW` commutes with every step of the driver: selectors are blind to withdrawn candidates, vote and pending updates keep every
status, and `elect` / `defeat` are only addressed to ids of hopeful candidates.  Scotland: the tie-break by prior stages reads the
saved stages, which the deletion edits too; every saved stage lists the current candidates with the same ones withdrawn, so the
look-back never reads a withdrawn entry.  Minneapolis (profiles without undeclared write-ins): its reporting surplus is summed
over all candidates, withdrawn ones included; their terms are zero because a withdrawn candidate holds no votes and the quota is
positive.  The Meek family and QPQ: `Props/C11Meek.lean`, `C11Prf.lean`, `C11Qpq.lean`.
-/
namespace Droop.C11
open Droop

/-- the case with the withdrawn candidates deleted from the candidate list -/
def deleteWithdrawn (c : Case) : Case := { c with cands := c.cands.filter (fun k => !k.2.2.1) }

theorem initState_deleteWithdrawn {α : Type} [CommRing α] [LinearOrder α] [IsStrictOrderedRing α] (A : Arith α) (c : Case) :
    initState A (deleteWithdrawn c) = Droop.dropW (initState A c) := by
  unfold initState deleteWithdrawn Droop.dropW
  simp only [List.map_nil]
  congr 1
  rw [List.filter_map]
  congr 1
  apply List.filter_congr
  rintro ⟨a, b, d, e⟩ _
  simp only [Function.comp, nonW]
  cases d <;> simp

theorem caseOK_deleteWithdrawn (c : Case) (h : CaseOK c) : CaseOK (deleteWithdrawn c) := by
  obtain ⟨h1, h2, h3, h4, h5⟩ := h
  refine ⟨?_, ?_, h3, ?_, h5⟩
  · exact List.Nodup.sublist (List.Sublist.map _ List.filter_sublist) h1
  · intro b hb
    obtain ⟨hne, hall⟩ := h2 b hb
    refine ⟨hne, ?_⟩
    intro cid hcid
    obtain ⟨k, hk, hkc, hkw⟩ := hall cid hcid
    refine ⟨k, ?_, hkc, hkw⟩
    unfold deleteWithdrawn
    simp only [List.mem_filter]
    exact ⟨hk, by simp [hkw]⟩
  · unfold deleteWithdrawn
    simp only [List.filter_filter]
    have : (c.cands.filter (fun k => (!k.2.2.1) && (!k.2.2.1))) = c.cands.filter (fun k => !k.2.2.1) := by
      apply List.filter_congr; intro k _; cases k.2.2.1 <;> rfl
    show c.seats ≤ _
    rw [this]; exact h4

theorem caseOK_bool_of (c : Case) (h : CaseOK c) : caseOK c = true := by
  obtain ⟨h1, h2, h3, h4, h5⟩ := h
  unfold caseOK
  simp only [Bool.and_eq_true, decide_eq_true_eq, List.all_eq_true, beq_iff_eq, List.isEmpty_iff,
    Bool.not_eq_true', List.any_eq_true]
  refine ⟨⟨⟨⟨h1, ?_⟩, h3⟩, ?_⟩, h5⟩
  · intro b hb
    obtain ⟨hne, hall⟩ := h2 b hb
    refine ⟨by cases hb2 : b.2 with
      | nil => exact absurd hb2 hne
      | cons x xs => rfl, ?_⟩
    intro cid hcid
    obtain ⟨k, hk, hkc, hkw⟩ := hall cid hcid
    obtain ⟨k1, k2, k3, k4⟩ := k
    exact ⟨_, hk, hkc, hkw⟩
  · convert h4 using 3

theorem wigm_withdrawn_is_absent (p : Nat) (c : Case) (hr : c.rule = "wigm" ∨ c.rule = "wigm-prf" ∨ c.rule = "wigm-prf-batch")
    (hok : caseOK c = true) (hmore : c.seats < c.nballots) :
    ∃ t t', runRuleSt (fixedArith p) c = some t ∧ runRuleSt (fixedArith p) (deleteWithdrawn c) = some t'
      ∧ t' = Droop.dropW t := by
  have hk := caseOK_iff c hok
  have hk' := caseOK_deleteWithdrawn c hk
  have hok' := caseOK_bool_of _ hk'
  obtain ⟨t, ⟨hrun, _, _⟩, _⟩ := Driver.wigm p c hr hok hmore
  obtain ⟨t', ⟨hrun', _, _⟩, _⟩ := Driver.wigm p (deleteWithdrawn c) hr hok' hmore
  refine ⟨t, t', hrun, hrun', ?_⟩
  obtain ⟨_, _, hI⟩ := Driver.start_of_case p c (by rcases hr with hr | hr | hr <;> rw [hr] <;> simp) hok
  have hS := pow10_pos p
  obtain ⟨o, he, he'⟩ : ∃ o, runRuleSt (fixedArith p) c = wigmCount (fixedArith p) o (initState (fixedArith p) c)
      ∧ runRuleSt (fixedArith p) (deleteWithdrawn c) = wigmCount (fixedArith p) o (initState (fixedArith p) (deleteWithdrawn c)) := by
    rcases hr with hr | hr | hr
    · exact ⟨{ integerQuota := c.intq, batchZero := c.batch == "zero" }, by simp only [runRuleSt, runRuleSt', hr],
        by simp only [runRuleSt, runRuleSt', deleteWithdrawn, hr]⟩
    · exact ⟨{ prf := true }, by simp only [runRuleSt, runRuleSt', hr], by simp only [runRuleSt, runRuleSt', deleteWithdrawn, hr]⟩
    · exact ⟨{ prf := true, prfBatch := true }, by simp only [runRuleSt, runRuleSt', hr],
        by simp only [runRuleSt, runRuleSt', deleteWithdrawn, hr]⟩
  rw [he] at hrun
  rw [he', initState_deleteWithdrawn] at hrun'
  have hG := C01.wigm_start p o _ hI (initState_fresh _ c) (initState_enough _ c hk) rfl
  have hq1 : pow10 p ≤ wigmQuota (fixedArith p) o (initState (fixedArith p) c) := by
    rw [C01.wigmQuota_fixed]
    split
    · have hnn : 0 ≤ pdiv ((initState (fixedArith p) c).nballots : Int) (((initState (fixedArith p) c).seats : Int) + 1) :=
        pdiv_nonneg _ _ (by positivity) (by positivity)
      nlinarith
    · exact C02.fractional_quota_ge_one p _ hmore
  have hL : LStart (fixedArith p) (wigmQuota (fixedArith p) o (initState (fixedArith p) c)) (initState (fixedArith p) c) :=
    C02.start_of_init p _ _ hI hq1 (initState_noW _ c hk)
  exact wigm_dropW (fixedArith p) (fixed_lawful p) (fixed_eqRefl p) 2 (by norm_num) (fixed_rewLower_mulDiv p) o (fun _ => rfl)
    _ t t' hG hL hrun hrun'

theorem cfer_withdrawn_is_absent (p : Nat) (c : Case) (hr : c.rule = "cfer" ∨ c.rule = "cfer-batch") (hok : caseOK c = true) :
    ∃ t t', runRuleSt (fixedArith p) c = some t ∧ runRuleSt (fixedArith p) (deleteWithdrawn c) = some t'
      ∧ t' = Droop.dropW t := by
  have hk := caseOK_iff c hok
  have hk' := caseOK_deleteWithdrawn c hk
  have hok' := caseOK_bool_of _ hk'
  obtain ⟨t, ⟨hrun, _, _⟩, _⟩ := Driver.cfer p c hr hok
  obtain ⟨t', ⟨hrun', _, _⟩, _⟩ := Driver.cfer p (deleteWithdrawn c) hr hok'
  refine ⟨t, t', hrun, hrun', ?_⟩
  obtain ⟨_, _, hI⟩ := Driver.start_of_case p c (by rcases hr with hr | hr <;> rw [hr] <;> simp) hok
  obtain ⟨batch, he, he'⟩ : ∃ batch, runRuleSt (fixedArith p) c = cferCount (fixedArith p) batch (initState (fixedArith p) c)
      ∧ runRuleSt (fixedArith p) (deleteWithdrawn c) = cferCount (fixedArith p) batch (initState (fixedArith p) (deleteWithdrawn c)) := by
    rcases hr with hr | hr
    · exact ⟨false, by simp [runRuleSt, runRuleSt', hr], by simp [runRuleSt, runRuleSt', deleteWithdrawn, hr]⟩
    · exact ⟨true, by simp [runRuleSt, runRuleSt', hr], by simp [runRuleSt, runRuleSt', deleteWithdrawn, hr]⟩
  rw [he] at hrun
  rw [he', initState_deleteWithdrawn] at hrun'
  have hG := C01.cfer_start p _ hI (initState_fresh _ c) (initState_enough _ c hk) rfl
  exact cfer_dropW (fixedArith p) (fixed_lawful p) rfl batch _ t t' hG hrun hrun'

theorem scotland_withdrawn_is_absent (p : Nat) (c : Case) (hr : c.rule = "scotland") (hok : caseOK c = true) :
    ∃ t t', runRuleSt (fixedArith p) c = some t ∧ runRuleSt (fixedArith p) (deleteWithdrawn c) = some t'
      ∧ t' = Droop.dropW t := by
  have hk := caseOK_iff c hok
  have hk' := caseOK_deleteWithdrawn c hk
  have hok' := caseOK_bool_of _ hk'
  obtain ⟨t, ⟨hrun, _, _⟩, _⟩ := Driver.scotland p c hr hok
  obtain ⟨t', ⟨hrun', _, _⟩, _⟩ := Driver.scotland p (deleteWithdrawn c) hr hok'
  refine ⟨t, t', hrun, hrun', ?_⟩
  rw [runRuleSt_scotland _ c hr] at hrun
  rw [runRuleSt_scotland _ (deleteWithdrawn c) hr, initState_deleteWithdrawn] at hrun'
  exact scot_dropW (fixedArith p) (fixed_lawful p) rfl _ t t' (Driver.scotStart_of_case p c hr hok) rfl hrun hrun'

theorem fixed_lt_exact (p : Nat) (a b : Int) : (fixedArith p).lt a b = true ↔ a < b := by
  rw [fixed_lt, decide_eq_true_eq]

/-- profiles without undeclared write-ins -/
theorem mpls_withdrawn_is_absent (p : Nat) (c : Case) (hr : c.rule = "mpls") (hok : caseOK c = true)
    (hnu : ∀ k ∈ c.cands, k.2.2.2 = false) :
    ∃ t t', runRuleSt (fixedArith p) c = some t ∧ runRuleSt (fixedArith p) (deleteWithdrawn c) = some t'
      ∧ t' = Droop.dropW t := by
  have hk := caseOK_iff c hok
  have hk' := caseOK_deleteWithdrawn c hk
  have hok' := caseOK_bool_of _ hk'
  have hnu' : ∀ k ∈ (deleteWithdrawn c).cands, k.2.2.2 = false := fun k hk => hnu k (List.mem_filter.1 hk).1
  obtain ⟨t, ⟨hrun, _, _⟩, _⟩ := Driver.mpls p c hr hok hnu
  obtain ⟨t', ⟨hrun', _, _⟩, _⟩ := Driver.mpls p (deleteWithdrawn c) hr hok' hnu'
  refine ⟨t, t', hrun, hrun', ?_⟩
  obtain ⟨_, _, hI⟩ := Driver.start_of_case p c (by rw [hr]; simp) hok
  rw [runRuleSt_mpls _ c hr] at hrun
  rw [runRuleSt_mpls _ (deleteWithdrawn c) hr, initState_deleteWithdrawn] at hrun'
  have hS := pow10_pos p
  have hG := C01.mpls_start p _ hI (initState_fresh _ c) (initState_enough _ c hk) rfl
  have hnn : 0 ≤ pdiv ((initState (fixedArith p) c).nballots : Int) (((initState (fixedArith p) c).seats : Int) + 1) :=
    pdiv_nonneg _ _ (by positivity) (by positivity)
  have hq1 : pow10 p ≤ (fixedArith p).ofInt (pdiv (initState (fixedArith p) c).nballots ((initState (fixedArith p) c).seats + 1) + 1) := by
    show pow10 p ≤ (pdiv ((initState (fixedArith p) c).nballots : Int) (((initState (fixedArith p) c).seats : Int) + 1) + 1) * pow10 p
    nlinarith
  have hL := C02.start_of_init p _ _ hI hq1 (initState_noW _ c hk)
  exact mpls_dropW (fixedArith p) (fixed_lawful p) (fixed_lt_exact p) rfl 2 (by norm_num) (fixed_rewLower_mulDiv p) _ t t'
    hG (initState_noUnd _ c hnu) hL hrun hrun'

/-- what the driver prints for the two runs differs only by the withdrawn candidates' rows -/
theorem finish_dropW {α : Type} [CommRing α] [LinearOrder α] [IsStrictOrderedRing α] (A : Arith α) (t : St α) :
    finish A (some (Droop.dropW t)) = match finish A (some t) with
      | .ok acts => .ok (acts.map dropAct)
      | .crash k => .crash k
      | .fuel => .fuel := by
  unfold finish
  dsimp only
  rw [show (Droop.dropW t).crash = t.crash from rfl]
  cases hc : t.crash with
  | some k => rfl
  | none =>
    dsimp only
    rw [← dropW_logAct]
    generalize t.logAct A "end" "Count Complete" [] = s'
    have e1 : (Droop.dropW s').elected = s'.elected := Droop.elected_dropW s'
    have e2 : (Droop.dropW s').eligible = s'.eligible := Droop.eligible_dropW s'
    have e3 : (Droop.dropW s').method = s'.method := rfl
    have e4 : (Droop.dropW s').acts = s'.acts.map dropAct := rfl
    have e5 : (Droop.dropW s').seats = s'.seats := rfl
    rw [e1, e2, e3, e4, e5]
    by_cases hcond : (s'.elected.length == s'.seats || decide (s'.elected.length < s'.seats) && s'.elected.length == s'.eligible.length) = true
    · rw [if_pos hcond, if_pos hcond]
      simp only
      congr 1
      rw [← List.map_reverse, List.filter_map, List.map_map, List.map_map]
      have hp : ((fun a : Act α => a.snap.isSome) ∘ dropAct) = (fun a : Act α => a.snap.isSome) := by
        funext a; simp [dropAct]
      rw [hp]
      apply List.map_congr_left
      intro a _
      simp only [Function.comp]
      split <;> rfl
    · rw [if_neg hcond, if_neg hcond]

end Droop.C11
