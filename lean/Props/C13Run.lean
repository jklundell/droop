import DroopProofs.NameIrrel
import Props.Driver
import DroopProofs
/-!
# C13, second clause at run level: guarded arithmetic with zero guard digits counts as fixed-point arithmetic does

* `guard0_count_is_fixed_renamed` (every rule name, every case): the state returned under `guarded` with guard = 0 is the state
  returned under the fixed-point dictionary of the same precision carrying the name "guarded" — every operation the count performs
  is the fixed-point operation (`guarded_g0_eq_fixed`).
* `wigm_guard0_count_is_fixed` (wigm in every configuration, wigm-prf, wigm-prf-batch; every case): ... and the name is never read,
  so it is the state returned under fixed-point arithmetic itself — same actions, tallies, quota, winners, and the same printed
  record.  (scotland: `scotland_guard0_count_is_fixed`; meek and warren with a precision of at least one digit:
  `meek_guard0_count_is_fixed` — with precision 0 the fixed-point class is the integer arithmetic, which meek.py refuses.)  For the other rules
  (they force their arithmetic, so the question does not arise in a deployed count) the name-irrelevance is not proved; the real code is
  compared (C13 check: guard = 0 against fixed on every operation and on whole counts under wigm, meek, warren).
-/
namespace Droop.C13
open Droop

theorem guard0_count_is_fixed_renamed (p : Nat) (c : Case) :
    runRuleSt (guardedArith p 0) c = runRuleSt ((fixedArith p).rename "guarded") c := by
  rw [guarded_g0_rename]

theorem initState_rename {α : Type} (A : Arith α) (x : String) (c : Case) : initState (A.rename x) c = initState A c := rfl

theorem wigm_guard0_count_is_fixed (p : Nat) (c : Case) (hr : c.rule = "wigm" ∨ c.rule = "wigm-prf" ∨ c.rule = "wigm-prf-batch") :
    runRuleSt (guardedArith p 0) c = runRuleSt (fixedArith p) c := by
  rw [guard0_count_is_fixed_renamed]
  unfold runRuleSt
  rw [initState_rename]
  rcases hr with hr | hr | hr <;> simp only [runRuleSt', hr] <;> exact wigmCount_rename _ _ _ _

theorem scotland_guard0_count_is_fixed (p : Nat) (c : Case) (hr : c.rule = "scotland") :
    runRuleSt (guardedArith p 0) c = runRuleSt (fixedArith p) c := by
  rw [guard0_count_is_fixed_renamed]
  unfold runRuleSt
  rw [initState_rename]
  simp only [runRuleSt', hr]
  exact scotCount_rename _ _ _

/-- the driver's output under guard = 0 is its output under fixed point -/
theorem wigm_guard0_output_is_fixed (p : Nat) (c : Case) (hr : c.rule = "wigm" ∨ c.rule = "wigm-prf" ∨ c.rule = "wigm-prf-batch") :
    finish (guardedArith p 0) (runRuleSt (guardedArith p 0) c) = finish (fixedArith p) (runRuleSt (fixedArith p) c) := by
  rw [wigm_guard0_count_is_fixed p c hr, guarded_g0_rename]
  rfl

theorem fixed_name_not_integer (p : Nat) (hp : p ≠ 0) : ((fixedArith p).name == "integer") = false := by
  have : (fixedArith p).name = if p == 0 then "integer" else "fixed" := rfl
  rw [this]
  have h0 : (p == 0) = false := by simpa using hp
  rw [h0]
  decide

theorem meek_guard0_count_is_fixed (p : Nat) (hp : p ≠ 0) (c : Case) (hr : c.rule = "meek" ∨ c.rule = "warren") :
    runRuleSt (guardedArith p 0) c = runRuleSt (fixedArith p) c := by
  rw [guard0_count_is_fixed_renamed]
  unfold runRuleSt
  rw [initState_rename]
  rcases hr with hr | hr <;> simp only [runRuleSt', hr] <;>
    exact meekCount_rename _ "guarded" (by decide) (fixed_name_not_integer p hp) _ _ _

end Droop.C13
