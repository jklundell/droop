import DroopModel
import DroopProofs
import Mathlib.Tactic.Linarith
/-!
# C05 — Droop proportionality: the election step with one seat

In any counting state that satisfies the conservation bundle `Inv`, with a quota that satisfies the Droop condition and one
seat: if a hopeful candidate `w` holds more than half of the ballots, the Gregory election step under fixed-point arithmetic
elects `w` and elects nobody else (`majority_elected_partial`); and more than half of the ballots is at least the fixed-point
Droop quota for one seat (`majority_has_quota`).

The run-level theorems are elsewhere: the one-seat majority claim about `runRuleSt` for the seven Gregory rule names in
`Props/C05Run.lean`, for meek and warren in `Props/C05Meek.lean`, for meek-prf in `Props/C05Prf.lean`, for QPQ in
`Props/C05Qpq.lean`; solid coalitions in `Props/C05Coalition.lean`.  On every generated election the claim is also explored by
the compiled predicate `okC05` (every candidate subset).
-/
namespace Droop.C05
open Droop

/-- folding `elect` over a list: a candidate whose id is not in the list keeps its status -/
theorem foldElect_others (A : Arith Int) (ws : List (Cand Int)) (verb : Cand Int → String) (pend : Cand Int → Bool) (s : St Int)
    (c : Cand Int) (hc : c ∈ s.cands) (hne : ∀ w ∈ ws, c.cid ≠ w.cid) :
    c ∈ (ws.foldl (fun acc x => acc.elect A x.cid (verb x) (pend x)) s).cands := by
  induction ws generalizing s with
  | nil => exact hc
  | cons w ws ih =>
    simp only [List.foldl_cons]
    apply ih
    · unfold St.elect; rw [logAct_cands]; exact mem_upd_of_ne hc (hne w (by simp))
    · intro w' hw'; exact hne w' (by simp [hw'])

/-- ... and a candidate of the list ends up elected -/
theorem foldElect_member (A : Arith Int) (ws : List (Cand Int)) (verb : Cand Int → String) (pend : Cand Int → Bool) (s : St Int)
    (w : Cand Int) (hw : w ∈ ws) (hws : ∃ x ∈ s.cands, x.cid = w.cid) :
    ∃ x ∈ (ws.foldl (fun acc x => acc.elect A x.cid (verb x) (pend x)) s).cands, x.cid = w.cid ∧ x.st = .elected := by
  obtain ⟨x, hx, hxc⟩ := foldElect_has A ws verb pend s w.cid hws
  exact ⟨x, hx, hxc, foldElect_all A ws verb pend s w hw x hx hxc⟩

/-- **one seat, a hopeful with more than half of the ballots: the election step elects that candidate and no other** -/
theorem majority_elected_partial (p : Nat) (s : St Int) (hI : Inv (fixedArith p) s) (hD : DroopQuota (fixedArith p) s)
    (hseats : s.seats = 1) (w : Cand Int) (hw : w ∈ s.hopeful) (hmaj : (s.nballots : Int) * pow10 p < 2 * w.vote)
    (hq : s.quota ≤ w.vote) :
    (∃ x ∈ (scotElect (fixedArith p) s).cands, x.cid = w.cid ∧ x.st = .elected)
    ∧ ∀ c ∈ s.hopeful, c.cid ≠ w.cid → c ∈ (scotElect (fixedArith p) s).cands := by
  have hwc := mem_hopeful.1 hw
  -- w passes the quota test
  have hwq : hasQuotaGE (fixedArith p) s w = true := by
    unfold hasQuotaGE
    rw [fixed_ge]
    exact decide_eq_true hq
  constructor
  · unfold scotElect electWinners
    apply foldElect_member
    · rw [List.mem_filter]
      exact ⟨(mem_pySorted _ _ _ _).2 hw, hwq⟩
    · exact ⟨w, hwc.1, rfl⟩
  · intro c hc hne
    have hcc := mem_hopeful.1 hc
    -- c cannot hold a quota: votes are non-negative and bounded by the ballots, and two quotas exceed the ballots
    have hcons := hI.cons
    have hle : c.vote + w.vote ≤ (s.nballots : Int) * pow10 p := by
      have h2 : c.vote + w.vote ≤ s.sumVotes := by
        unfold St.sumVotes
        have hnd := hI.wf
        have : ∀ (l : List (Cand Int)), (l.map (·.cid)).Nodup → c ∈ l → w ∈ l → (∀ d ∈ l, 0 ≤ d.vote) →
            c.vote + w.vote ≤ (l.map (·.vote)).sum := by
          intro l
          induction l with
          | nil => intro _ h; cases h
          | cons d ds ih =>
            intro hnd hc' hw' hpos
            simp only [List.map_cons, List.sum_cons]
            simp only [List.map_cons, List.nodup_cons, List.mem_map, not_exists, not_and] at hnd
            have hrest : 0 ≤ (ds.map (·.vote)).sum := List.sum_nonneg (by
              intro x hx; obtain ⟨y, hy, rfl⟩ := List.mem_map.1 hx; exact hpos y (by simp [hy]))
            rcases List.mem_cons.1 hc' with rfl | hcd <;> rcases List.mem_cons.1 hw' with rfl | hwd
            · exact absurd rfl hne
            · have : w.vote ≤ (ds.map (·.vote)).sum := List.single_le_sum (by
                intro x hx; obtain ⟨y, hy, rfl⟩ := List.mem_map.1 hx; exact hpos y (by simp [hy])) _ (List.mem_map.2 ⟨w, hwd, rfl⟩)
              omega
            · have : c.vote ≤ (ds.map (·.vote)).sum := List.single_le_sum (by
                intro x hx; obtain ⟨y, hy, rfl⟩ := List.mem_map.1 hx; exact hpos y (by simp [hy])) _ (List.mem_map.2 ⟨c, hcd, rfl⟩)
              omega
            · have := ih hnd.2 hcd hwd (fun x hx => hpos x (by simp [hx]))
              have := hpos d (by simp)
              omega
        exact this s.cands hnd hcc.1 hwc.1 hI.vpos
      have h3 : s.sumVotes ≤ (s.nballots : Int) * pow10 p := by
        have := hI.epos
        unfold St.total at hcons
        have h1 : (fixedArith p).one = pow10 p := rfl
        rw [h1] at hcons
        simp only [Int.cast_id] at hcons
        omega
      omega
    have hnq : hasQuotaGE (fixedArith p) s c = false := by
      unfold hasQuotaGE
      rw [fixed_ge]
      have hd : (s.nballots : Int) * pow10 p < 2 * s.quota := by
        unfold DroopQuota at hD
        rw [hseats] at hD
        have h1 : (fixedArith p).one = pow10 p := rfl
        rw [h1] at hD
        simp only [Int.cast_id] at hD
        push_cast at hD
        linarith
      exact decide_eq_false (by omega)
    unfold scotElect electWinners
    apply foldElect_others _ _ _ _ _ c hcc.1
    intro x hx e
    rw [List.mem_filter] at hx
    have hxh := mem_hopeful.1 ((mem_pySorted _ _ _ _).1 hx.1)
    have : x = c := nodup_cid_eq hI.wf hxh.1 hcc.1 e.symm
    rw [this, hnq] at hx
    exact absurd hx.2 (by simp)

/-- more than half of the ballots is at least the fixed-point Droop quota for one seat -/
theorem majority_has_quota (p n : Nat) (v : Int) (hmaj : (n : Int) * pow10 p < 2 * v) :
    pdiv ((n : Int) * pow10 p * pow10 p) (((1 + 1 : Nat) : Int) * pow10 p) + 1 ≤ v := by
  have hS := pow10_pos p
  have h2 : (0 : Int) < ((1 + 1 : Nat) : Int) * pow10 p := by positivity
  have hle := pdiv_mul_le ((n : Int) * pow10 p * pow10 p) (((1 + 1 : Nat) : Int) * pow10 p) h2
  -- q * (2S) ≤ n S S  and  n S < 2 v  ⇒ q < v
  by_contra hlt
  have hv : v ≤ pdiv ((n : Int) * pow10 p * pow10 p) (((1 + 1 : Nat) : Int) * pow10 p) := by omega
  have : v * (((1 + 1 : Nat) : Int) * pow10 p) ≤ (n : Int) * pow10 p * pow10 p :=
    le_trans (mul_le_mul_of_nonneg_right hv (le_of_lt h2)) hle
  have h3 : 2 * v * pow10 p ≤ (n : Int) * pow10 p * pow10 p := by push_cast at this; linarith
  have h4 : (n : Int) * pow10 p * pow10 p < 2 * v * pow10 p := mul_lt_mul_of_pos_right hmaj hS
  omega

end Droop.C05
