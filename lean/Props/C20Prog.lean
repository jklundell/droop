import Props.C20
/-!
# C20 — the class-attribute assignments of `initialize`, as read from the source

`harness/gen_initwrites.py` walks the body of `Fixed.initialize`, `Guarded.initialize` and `Rational.initialize`
(droop/values/*.py) and lists every assignment to a class attribute (`cls.<attr> = ...`, `cls.<attr>._value = ...`) in
program order, each with its *path condition*: the `if` tests (named by the inductive `T`, with polarity) under which it is executed.
(`try:` bodies are walked; `raise` ends a path, so a test whose true branch only raises contributes nothing.)
The generated file states `Gen.<class>Writes = C20.<class>Writes` (kernel-checked `by rfl` on every run).

On every successful `initialize` the set of attributes the model's trace (`DroopModel/Session.lean`) writes is the set the source
program writes, for every truth assignment of the tests that gives the two tests that matter their real value
(`cls.display > cls.precision` for `__scaledg`, `cls.guard == 0` for `epsilon`).
-/
namespace Droop.C20
open Droop

/-- the `if` tests that guard an assignment in the three `initialize` bodies (the extractor maps the test's source text to these
    names and refuses any other test) -/
inductive T
  | nameIsInteger     -- cls.name == 'integer'
  | dispNePrec        -- cls.display != cls.precision
  | dispGtPrecGuard   -- cls.display > cls.precision + cls.guard
  | dispGtPrec        -- cls.display > cls.precision
  | gepsZero          -- cls.__geps == 0
  | dispLePrec        -- cls.display <= cls.precision
  | guardZero         -- cls.guard == 0
deriving DecidableEq, Repr

/-- one assignment: (path condition as (test, polarity) list, attribute name) -/
abbrev WProg := List (List (T × Bool) × String)

def evalW (env : T → Bool) (p : WProg) : List String :=
  p.filterMap (fun ga => if ga.1.all (fun tb => env tb.1 == tb.2) then some ga.2 else none)

def sameSet (l1 l2 : List String) : Bool := l1.all (l2.contains ·) && l2.all (l1.contains ·)

def FW.tag : FW → String
  | .name _ => "name" | .precision _ => "precision" | .display _ => "display" | .scale _ => "__scale"
  | .scaled _ => "__scaled" | .scaledd _ => "__scaledd" | .scaledr _ => "__scaledr" | .epsilon _ => "epsilon"
  | .dfmt _ => "__dfmt" | .info _ => "info"

def GW.tag : GW → String
  | .precision _ => "precision" | .guard _ => "guard" | .display _ => "display" | .scalep _ => "__scalep"
  | .scaleg _ => "__scaleg" | .scale _ => "__scale" | .scaledd _ => "__scaledd" | .scaledr _ => "__scaledr"
  | .scaled _ => "__scaled" | .scaledg _ => "__scaledg" | .geps _ => "__geps" | .maxDiff _ => "maxDiff"
  | .minDiff _ => "minDiff" | .dfmt _ _ => "__dfmt" | .info _ => "info" | .quasiExact _ => "quasi_exact"
  | .exact _ => "exact" | .epsilon _ => "epsilon"

def RW.tag : RW → String
  | .dp _ => "dp" | .dps _ => "_dps" | .dfmt _ => "_dfmt"

def fixedWrites : WProg :=
  [([], "name"), ([], "precision"), ([], "__scale"), ([], "display"), ([], "__scaled"), ([], "__scaledd"), ([], "__scaledr"),
   ([], "epsilon"), ([], "epsilon"), ([], "__dfmt"),
   ([(.nameIsInteger, true)], "info"),
   ([(.nameIsInteger, false), (.dispNePrec, true)], "info"),
   ([(.nameIsInteger, false), (.dispNePrec, false)], "info")]

def guardedWrites : WProg :=
  [([], "precision"), ([], "guard"), ([], "display"), ([], "__scalep"), ([], "__scaleg"), ([], "__scale"),
   ([(.dispGtPrecGuard, true)], "display"),
   ([], "__scaledd"), ([], "__scaledr"), ([], "__scaled"),
   ([(.dispGtPrec, true)], "__scaledg"),
   ([], "__geps"), ([(.gepsZero, true)], "__geps"), ([], "maxDiff"), ([], "minDiff"),
   ([(.dispLePrec, true)], "__dfmt"), ([(.dispLePrec, false)], "__dfmt"),
   ([(.dispNePrec, true)], "info"), ([(.dispNePrec, false)], "info"),
   ([(.guardZero, true)], "quasi_exact"), ([(.guardZero, true)], "exact"),
   ([(.guardZero, true)], "epsilon"), ([(.guardZero, true)], "epsilon"),
   ([(.guardZero, false)], "quasi_exact"), ([(.guardZero, false)], "exact")]

/-- Rational: `_dpr` and `__default_denominator` are not class *configuration* read by the modelled operations (`_dpr` is a
    function of `_dps`; the default denominator is a property of the interpreter): listed here so that the extractor's list is
    complete, and named in `rationalUnmodelled` -/
def rationalWrites : WProg :=
  [([], "dp"), ([], "_dps"), ([], "_dpr"), ([], "_dfmt"), ([], "__default_denominator")]

def rationalUnmodelled : List String := ["_dpr", "__default_denominator"]

/-- every assignment to a class attribute (`cls.<a> = ...` / `<Class>.<a> = ...`) in a method *other than* `initialize`, as
    (method, attribute): only Guarded's comparison statistics, which `initialize` resets (`maxDiff`, `minDiff` are in
    `guardedWrites` unconditionally) and which the session correspondence therefore leaves out of the state comparison.
    A new entry here is class state that outlives an election without the model knowing about it. -/
def fixedWritesElsewhere : List (String × String) := []
def guardedWritesElsewhere : List (String × String) := [("__cmp__", "maxDiff"), ("__cmp__", "minDiff")]
def rationalWritesElsewhere : List (String × String) := []

/-- every module-level or class-body-level name of the package bound to a mutable container (and every `global` statement): the rule registry
    of droop/__init__.py, filled once at import and read-only afterwards.  Nothing else in the package can hold data from one election to
    the next outside the objects an `Election` owns (the profile object excepted: C20's same-profile-twice probes) and the class attributes
    modelled in `DroopModel/Session.lean`. -/
def processContainers : List (String × String × String) :=
  [("__init__.py", "<module>", "ruleByName"), ("__init__.py", "<module>", "ruleClasses")]

/-- stores to a class attribute from inside a function, in any class but the three value classes: none -/
def classWritesOutsideValues : List (String × String × String) := []

def holds (env : T → Bool) (c : List (T × Bool)) : Bool := c.all (fun tb => env tb.1 == tb.2)

/-- `a` is assigned iff one of its assignments has a path condition that holds -/
theorem contains_evalW (env : T → Bool) (p : WProg) (a : String) :
    (evalW env p).contains a = p.any (fun ga => holds env ga.1 && a == ga.2) := by
  induction p with
  | nil => rfl
  | cons ga p ih =>
    unfold evalW at ih ⊢
    rw [List.filterMap_cons, List.any_cons, ← ih]
    unfold holds
    cases ga.1.all (fun tb => env tb.1 == tb.2)
    · rfl
    · exact List.contains_cons

theorem all_evalW (env : T → Bool) (p : WProg) (f : String → Bool) :
    (evalW env p).all f = p.all (fun ga => !holds env ga.1 || f ga.2) := by
  induction p with
  | nil => rfl
  | cons ga p ih =>
    unfold evalW at ih ⊢
    rw [List.filterMap_cons, List.all_cons, ← ih]
    unfold holds
    cases ga.1.all (fun tb => env tb.1 == tb.2)
    · rfl
    · exact List.all_cons

/-- the statistics written outside `initialize` are reset by every successful `initialize`, whatever the tests evaluate to -/
theorem elsewhere_is_reset (env : T → Bool) :
    guardedWritesElsewhere.all (fun ma => (evalW env guardedWrites).contains ma.2) = true := by
  simp only [contains_evalW]
  -- both are assigned under the empty path condition
  simp [guardedWritesElsewhere, guardedWrites, holds]

/-! In the three proofs below `contains_evalW` / `all_evalW` turn the comparison into a lookup in the committed table, attribute by
attribute; `simp` does the lookups and leaves the condition under which an attribute that is not assigned unconditionally is assigned. -/

/-- **Fixed**: on success, whatever the tests evaluate to, the source program and the model's trace write the same attributes -/
theorem fixed_writes_are_source (o : Options) (r : Options × ArithCfg) (h : (fixedTrace o).2 = .ok r) (env : T → Bool) :
    sameSet ((fixedTrace o).1.map FW.tag) (evalW env fixedWrites) = true := by
  obtain ⟨_, _, _, _, -, -, ht⟩ := fixedTrace_ok o r h
  rw [ht]
  unfold sameSet
  simp only [contains_evalW, all_evalW, List.map_cons, List.map_nil, FW.tag]
  simp [fixedWrites, holds]
  -- `info`: its three path conditions are exhaustive
  generalize env .nameIsInteger = a
  generalize env .dispNePrec = b
  revert a b
  decide

/-- **Guarded**: on success with configuration `guarded p g d`, for every truth assignment that gives the two tests that guard
    `__scaledg` and `epsilon` their real value, the source program and the model's trace write the same attributes -/
theorem guarded_writes_are_source (o : Options) (o' : Options) (p g d : Nat) (h : (guardedTrace o).2 = .ok (o', .guarded p g d))
    (env : T → Bool) (e1 : env .dispGtPrec = decide (d > p)) (e2 : env .guardZero = (g == 0)) :
    sameSet ((guardedTrace o).1.map GW.tag) (evalW env guardedWrites) = true := by
  obtain ⟨p', g', d0, _, hr, ht⟩ := guardedTrace_ok o _ h
  simp only [Prod.mk.injEq, ArithCfg.guarded.injEq] at hr
  obtain ⟨-, rfl, rfl, rfl⟩ := hr
  rw [ht]
  unfold sameSet guardedTail
  simp only [contains_evalW, all_evalW, List.map_append, List.map_cons, List.map_nil, GW.tag, apply_ite (List.map GW.tag)]
  simp [guardedWrites, holds, e1, e2]
  -- left: the tags after `info` (they depend on `g = 0`), and `d ≤ p ∨ p < d` for `__scaledg`
  by_cases hg : g = 0 <;> simp [hg]
  all_goals omega

/-- **Rational**: on success the model's trace writes the source program's attributes, except the two named in `rationalUnmodelled` -/
theorem rational_writes_are_source (o : Options) (r : Options × ArithCfg) (h : (rationalTrace o).2 = .ok r) (env : T → Bool) :
    sameSet ((rationalTrace o).1.map RW.tag ++ rationalUnmodelled) (evalW env rationalWrites) = true := by
  obtain ⟨_, _, -, -, ht⟩ := rationalTrace_ok o r h
  rw [ht]
  unfold sameSet
  simp only [contains_evalW, all_evalW]
  simp [rationalWrites, rationalUnmodelled, holds, RW.tag]

/-- non-vacuity: a successful Guarded initialize, and the write sets agree on it -/
example : sameSet ((guardedTrace { cmd := [("arithmetic", .s "guarded"), ("precision", .i 4), ("guard", .i 0), ("display", .i 6)] }).1.map GW.tag)
    (evalW (fun t => t == T.guardZero || t == T.dispGtPrecGuard || t == T.gepsZero || t == T.dispNePrec) guardedWrites) = true := by
  decide +kernel

end Droop.C20
