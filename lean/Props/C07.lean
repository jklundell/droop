import DroopModel
import DroopProofs
/-!
# C07 — only lowest candidates are excluded singly, the largest surplus goes first, ties are logged

For the fixed-point arithmetic (a total order): the candidate that `wigmDefeatStep` hands to `defeat` is a hopeful
with the minimum tally, the candidate whose surplus `wigmSurplusStep` transfers is a pending candidate with the maximum
tally; `breakTie` chooses among the tied candidates, logs a `tie` action exactly when there is more than one, and
leaves the record untouched otherwise. (That the choice is the first in tie order is definitional:
`(byTieOrder tied).head?`; the sort model returns a permutation, `pySorted_perm`.)
-/
namespace Droop.C07
open Droop

/-- builtin `min` over fixed-point values returns a lower bound that is attained -/
theorem pyMin_spec (p : Nat) (x : Int) (l : List Int) :
    (fixedArith p).pyMin x l ∈ x :: l ∧ ∀ y ∈ x :: l, (fixedArith p).pyMin x l ≤ y := by
  obtain ⟨h1, h2, h3⟩ := foldl_pick_spec (· ≤ ·) le_refl (fun _ _ _ => le_trans) (fixedArith p).lt
    (fun y m h => by rw [fixed_lt] at h; exact le_of_lt (of_decide_eq_true h))
    (fun y m m' h hm => by rw [fixed_lt] at h ⊢; exact decide_eq_true (lt_of_lt_of_le (of_decide_eq_true h) hm))
    (fun y => by rw [fixed_lt]; exact decide_eq_false (lt_irrefl y)) l x
  refine ⟨h2, fun y hy => ?_⟩
  rcases List.mem_cons.1 hy with rfl | hy
  · exact h1
  · have := h3 y hy; rw [fixed_lt] at this; exact not_lt.1 (of_decide_eq_false this)

/-- builtin `max`: the same fold in the opposite order -/
theorem pyMax_spec (p : Nat) (x : Int) (l : List Int) :
    (fixedArith p).pyMax x l ∈ x :: l ∧ ∀ y ∈ x :: l, y ≤ (fixedArith p).pyMax x l := by
  obtain ⟨h1, h2, h3⟩ := foldl_pick_spec (· ≥ ·) le_refl (fun _ _ _ => ge_trans) (fixedArith p).gt
    (fun y m h => by rw [fixed_gt] at h; exact le_of_lt (of_decide_eq_true h))
    (fun y m m' h hm => by rw [fixed_gt] at h ⊢; exact decide_eq_true (lt_of_le_of_lt hm (of_decide_eq_true h)))
    (fun y => by rw [fixed_gt]; exact decide_eq_false (lt_irrefl y)) l x
  refine ⟨h2, fun y hy => ?_⟩
  rcases List.mem_cons.1 hy with rfl | hy
  · exact h1
  · have := h3 y hy; rw [fixed_gt] at this; exact not_lt.1 (of_decide_eq_false this)

/-- an extremal tally of the candidates `c :: cs` is the tally of one of them, and bounds all of theirs -/
theorem votes_spec (R : Int → Int → Prop) (c : Cand Int) (cs : List (Cand Int)) (m : Int)
    (h : m ∈ c.vote :: cs.map (·.vote) ∧ ∀ y ∈ c.vote :: cs.map (·.vote), R m y) :
    (∃ d ∈ c :: cs, d.vote = m) ∧ ∀ d ∈ c :: cs, R m d.vote := by
  obtain ⟨d, hd, hv⟩ := List.mem_map.1 (show m ∈ (c :: cs).map (·.vote) from h.1)
  exact ⟨⟨d, hd, hv⟩, fun d hd => h.2 d.vote (List.mem_map_of_mem (f := (·.vote)) hd)⟩

theorem minVoteOf_spec (p : Nat) (l : List (Cand Int)) (lv : Int) (h : minVoteOf (fixedArith p) l = some lv) :
    (∃ c ∈ l, c.vote = lv) ∧ ∀ c ∈ l, lv ≤ c.vote := by
  cases l with
  | nil => simp [minVoteOf] at h
  | cons c cs =>
    simp only [minVoteOf, Option.some.injEq] at h
    exact votes_spec (· ≤ ·) c cs lv (h ▸ pyMin_spec p c.vote (cs.map (·.vote)))

theorem maxVoteOf_spec (p : Nat) (l : List (Cand Int)) (hv : Int) (h : maxVoteOf (fixedArith p) l = some hv) :
    (∃ c ∈ l, c.vote = hv) ∧ ∀ c ∈ l, c.vote ≤ hv := by
  cases l with
  | nil => simp [maxVoteOf] at h
  | cons c cs =>
    simp only [maxVoteOf, Option.some.injEq] at h
    exact votes_spec (fun m y => y ≤ m) c cs hv (h ▸ pyMax_spec p c.vote (cs.map (·.vote)))

/-- whoever `breakTie` picks among the candidates whose tally equals `v` is in the list and has tally `v` -/
theorem breakTie_filter_eq (p : Nat) (s s1 : St Int) (l : List (Cand Int)) (v : Int) (verb : String) (c : Cand Int)
    (hbt : breakTie (fixedArith p) s (l.filter (fun c => (fixedArith p).eq c.vote v)) verb = (s1, some c)) :
    c ∈ l ∧ c.vote = v := by
  have hmem := breakTie_mem (fixedArith p) s _ verb c (by rw [hbt])
  rw [List.mem_filter, fixed_eq] at hmem
  exact ⟨hmem.1, of_decide_eq_true hmem.2⟩

/-- **the candidate excluded singly is a hopeful with the lowest tally**: the selection "lowest tally, then `breakTie`" of
    `wigmDefeatStep` and the CfER and Minneapolis lowest-candidate steps (Scotland breaks the tie with `scotBreakTie`, which this
    statement does not speak of) -/
theorem single_exclusion_is_lowest (p : Nat) (s s1 : St Int) (lv : Int) (verb : String) (lc : Cand Int)
    (hmin : minVoteOf (fixedArith p) s.hopeful = some lv)
    (hbt : breakTie (fixedArith p) s (s.hopeful.filter (fun c => (fixedArith p).eq c.vote lv)) verb = (s1, some lc)) :
    lc ∈ s.hopeful ∧ ∀ c ∈ s.hopeful, lc.vote ≤ c.vote := by
  obtain ⟨hl, hv⟩ := breakTie_filter_eq p s s1 _ lv verb lc hbt
  exact ⟨hl, hv ▸ (minVoteOf_spec p _ lv hmin).2⟩

/-- **the surplus transferred first is a largest one** -/
theorem surplus_choice_is_largest (p : Nat) (s s1 : St Int) (hv : Int) (verb : String) (hc : Cand Int)
    (hmax : maxVoteOf (fixedArith p) s.pendingL = some hv)
    (hbt : breakTie (fixedArith p) s (s.pendingL.filter (fun c => (fixedArith p).eq c.vote hv)) verb = (s1, some hc)) :
    hc ∈ s.pendingL ∧ ∀ c ∈ s.pendingL, c.vote ≤ hc.vote := by
  obtain ⟨hl, hvv⟩ := breakTie_filter_eq p s s1 _ hv verb hc hbt
  exact ⟨hl, hvv ▸ (maxVoteOf_spec p _ hv hmax).2⟩

/-- `breakTie` logs a `tie` action exactly when it has to choose: one candidate — record unchanged; two or more — one
    `tie` action naming the chosen candidate first and then all the tied ones -/
theorem breakTie_single_no_log {α : Type} (A : Arith α) (s : St α) (c : Cand α) (verb : String) :
    breakTie A s [c] verb = (s, some c) := rfl

theorem breakTie_logs_choice {α : Type} (A : Arith α) (s : St α) (c d : Cand α) (rest : List (Cand α)) (verb : String) :
    breakTie A s (c :: d :: rest) verb =
      (s.logAct A "tie" verb (((byTieOrder (c :: d :: rest)).head?.map (·.cid)).toList ++ (c :: d :: rest).map (·.cid)),
       (byTieOrder (c :: d :: rest)).head?) := rfl

/-- a logged action is one new entry at the head of the record, carrying the tag and subjects given -/
theorem logAct_head {α : Type} (A : Arith α) (s : St α) (tag verb : String) (subj : List Nat) :
    ∃ a rest, (s.logAct A tag verb subj).acts = a :: rest ∧ rest = s.acts ∧ a.tag = tag ∧ a.subj = subj ∧ a.verb = verb := by
  unfold St.logAct
  by_cases h : (tag == "round") = true
  · simp only [h, if_true]; exact ⟨_, _, rfl, rfl, rfl, rfl, rfl⟩
  · simp only [h, if_false, Bool.false_eq_true]; exact ⟨_, _, rfl, rfl, rfl, rfl, rfl⟩

/-- the sort behind `byTieOrder` / `byVote` only reorders: nobody is added or lost -/
theorem tie_order_is_a_permutation {α : Type} (l : List (Cand α)) : (byTieOrder l).Perm l := pySorted_perm _ _ l

/-! ## batches are sure losers, and enough candidates remain

`batchDefeatGroups` is the sure-loser search of wigm-prf-batch, meek and warren (`defeat_batch=safe`); `mplsCertainLosers` is
Minneapolis 167.70(c)(1)b. Both return a prefix of the hopefuls in tally order (`batchDefeatGroups_sure`,
`mplsCertainLosers_sure` in `DroopProofs/SureLosers.lean`): the combined tallies of the batch plus the surplus are below the tally
of the next candidate in that order. `batchDefeatGroups_bound`, `mplsDefeatSet_bound` and `cferBatch_enough` say that the batch
never takes more candidates than `hopeful − open seats`. -/

theorem fixed_lt_sound (p : Nat) (a b : Int) (h : (fixedArith p).lt a b = true) : a < b :=
  of_decide_eq_true (fixed_lt p a b ▸ h)

theorem prf_batch_is_sure_losers (p : Nat) (s : St Int) (surplus : Int) (hne : batchDefeatGroups (fixedArith p) s surplus ≠ []) :
    ∃ c0 rest, byVote (fixedArith p) false s.hopeful = batchDefeatGroups (fixedArith p) s surplus ++ c0 :: rest
      ∧ votesOf (batchDefeatGroups (fixedArith p) s surplus) + surplus < c0.vote := by
  obtain ⟨c0, rest, h1, h2⟩ := batchDefeatGroups_sure (fixedArith p) (fixed_lawful p) s surplus hne
  exact ⟨c0, rest, h1, fixed_lt_sound p _ _ h2⟩

theorem mpls_certain_losers_are_sure_losers (p : Nat) (s : St Int) (surplus : Int)
    (hne : mplsCertainLosers (fixedArith p) s surplus ≠ []) :
    ∃ k c0, (mplsCertainLosers (fixedArith p) s surplus).Perm ((byVote (fixedArith p) false s.hopeful).take k)
      ∧ (byVote (fixedArith p) false s.hopeful)[k]? = some c0
      ∧ votesOf ((byVote (fixedArith p) false s.hopeful).take k) + surplus < c0.vote := by
  obtain ⟨k, c0, h1, h2, h3⟩ := mplsCertainLosers_sure (fixedArith p) (fixed_lawful p) s surplus hne
  exact ⟨k, c0, h1, h2, fixed_lt_sound p _ _ h3⟩

theorem prf_batch_leaves_enough (p : Nat) (s : St Int) (surplus : Int) :
    ((batchDefeatGroups (fixedArith p) s surplus).length : Int) ≤ (s.hopeful.length : Int) - s.seatsLeft
    ∨ batchDefeatGroups (fixedArith p) s surplus = [] :=
  batchDefeatGroups_bound (fixedArith p) s surplus

end Droop.C07
