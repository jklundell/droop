import DroopProofs
/-!
# C17: the command line (`Options.parse`)

The model of `Options.parse` (`DroopModel/Options.lean`, compared with the real function on generated command lines by the `ARGV`
verb on every C17 run): what one word does, that the only failure is the usage error for a second ballot path, and that a later
word overwrites an earlier one and nothing else.
-/
namespace Droop.C17
open Droop Droop.Options

/-- the only way `Options.parse` fails is the usage error -/
theorem parseOne_fails_only_on_second_path (acc : Dict × Option String) (rn : List String) (opt : String) (e : OErr)
    (h : parseOne acc rn opt = .error e) : ∃ p, acc.2 = some p ∧ p ≠ "" := by
  revert h
  -- the cases are the exits of `parseOne`; the one that fails: a bare word that is no arithmetic, rule or switch, with a path already seen
  fun_cases parseOne acc rn opt <;> intro h
  case case4 p hp hne => exact ⟨p, hp, by simpa using hne⟩
  all_goals cases h

/-- a word `name=value` whose value is `true` / `yes` in any letter case sets `name` to True; `false` / `no` to False; anything
    else to the text itself — and never fails -/
theorem parseOne_named (acc : Dict × Option String) (rn : List String) (opt name val : String) (rest : List String)
    (hs : opt.splitOn "=" = name :: val :: rest) :
    parseOne acc rn opt = .ok (dictSet acc.1 name
      (if val.toLower == "false" || val.toLower == "no" then .b false
       else if val.toLower == "true" || val.toLower == "yes" then .b true else .s val), acc.2) := by
  unfold parseOne
  rw [hs]
  simp only
  split
  · rfl
  · split <;> rfl

theorem dictGet_dictSet_same (d : Dict) (k : String) (v : OV) : dictGet? (dictSet d k v) k = some v := by
  unfold dictGet?; rw [find?_dictSet_same]; rfl

/-- ... and a word touches no other name -/
theorem dictGet_dictSet_other (d : Dict) (k k' : String) (v : OV) (hne : k' ≠ k) : dictGet? (dictSet d k v) k' = dictGet? d k' := by
  unfold dictGet?; rw [find?_dictSet_other d k k' v hne]

end Droop.C17
