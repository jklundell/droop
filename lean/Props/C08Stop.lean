import Props.C04Meek
/-!
# C08 — the iteration stops only when converged; C04 / C07 — who is excluded afterwards

`meekIterate` (meek.py `iterate()`) ends in one of four ways (`iterate_cases`): some hopeful candidate passed the quota test of the
last iteration; nobody passed it and the total surplus is at most omega — converged; nobody passed it, the surplus is above omega and
did not decrease against the previous iteration — the "stable state" the rule accepts as convergence, logged as such; or nobody passed
it and a non-empty safe batch was found.  In the two converged endings every candidate still hopeful holds strictly less than the
quota under fixed-point arithmetic (`converged_rest_below_fixed`), and so does the candidate excluded next, one of the hopefuls
whose tally is within the surplus of the lowest (`excluded_near_lowest`).
-/
namespace Droop.C08
open Droop
variable {α : Type} [CommRing α] [LinearOrder α] [IsStrictOrderedRing α] (A : Arith α)

/-- how the iteration ended, read off the state it was last applied to -/
theorem iterate_cases (o : MeekOpts) (omega : α) :
    ∀ (fuel : Nat) (last : α) (s t : St α) (st : IStatus), meekIterate A o omega fuel last s = (t, st) →
      match st with
      | .fuel => True
      | .crash => True
      | .elected => ∃ s', t = meekIterCore A o s' ∧ meekIterElected A o s' = true
      | .omega => ∃ s', t = meekIterCore A o s' ∧ meekIterElected A o s' = false ∧ A.le t.surplus omega = true
      | .stable => ∃ s' last', t = (meekIterCore A o s').logMsg "Stable state detected" [] (some (meekIterCore A o s').surplus)
            ∧ meekIterElected A o s' = false ∧ A.le (meekIterCore A o s').surplus omega = false
            ∧ A.ge (meekIterCore A o s').surplus last' = true
      | .batch cids => ∃ s', t = meekIterCore A o s' ∧ meekIterElected A o s' = false ∧ cids ≠ [] := by
  intro fuel last s t st h
  refine meekIterate_induct A o omega (P := fun _ => True) (Q := fun r => r = (t, st) → _) ?_ ?_
    (fun _ _ _ _ => trivial) fuel last s trivial h
  · intro s _ e
    cases e
    trivial
  · intro last s r _ he e
    subst e
    rcases meekIterExit_some A he with ⟨e, h1⟩ | ⟨e, h1, h2⟩ | ⟨e, h1, h2, h3⟩ | ⟨e, h1, h4⟩ | e
    · cases e
      exact ⟨s, rfl, h1⟩
    · cases e
      exact ⟨s, rfl, h1, h2⟩
    · cases e
      exact ⟨s, last, rfl, h1, h2, h3⟩
    · cases e
      refine ⟨s, rfl, h1, fun hm => ?_⟩
      rw [List.map_eq_nil_iff.1 hm] at h4
      cases h4
    · cases e
      trivial

/-- nobody was elected in the last iteration: the hopefuls of its result are those of its quota test, and all failed it -/
theorem no_winner_rest (o : MeekOpts) (s' : St α) (hne : meekIterElected A o s' = false) :
    ∀ c ∈ (meekIterCore A o s').hopeful, hasQuotaX A (meekS3 A o s') c = false :=
  fun c hc => (C04.meek_no_hopeful_holds_quota A o s' c hc).2

theorem meekIterCore_quota (o : MeekOpts) (s' : St α) : (meekIterCore A o s').quota = (meekS3 A o s').quota := by
  rw [C04.meek_quota_prescribed]
  rfl

/-- converged endings: every candidate still hopeful holds less than the quota (fixed-point arithmetic) -/
theorem converged_rest_below_fixed (p : Nat) (o : MeekOpts) (omega : Int) (fuel : Nat) (last : Int) (s t : St Int) (st : IStatus)
    (h : meekIterate (fixedArith p) o omega fuel last s = (t, st)) (hst : st = .omega ∨ st = .stable) :
    ∀ c ∈ t.hopeful, c.vote < t.quota := by
  have key : ∀ s', ∀ c ∈ (meekIterCore (fixedArith p) o s').hopeful, c.vote < (meekIterCore (fixedArith p) o s').quota := by
    intro s' c hc
    rw [meekIterCore_quota]
    exact C04.meek_rest_below_fixed p o s' c hc
  have hc := iterate_cases (fixedArith p) o omega fuel last s t st h
  rcases hst with rfl | rfl
  · obtain ⟨s', rfl, _⟩ := hc
    exact key s'
  · obtain ⟨s', _, rfl, _⟩ := hc
    have := key s'
    -- the "stable state" line changes neither the hopefuls nor the quota
    generalize meekIterCore (fixedArith p) o s' = d at this ⊢
    exact this

/-- the candidate excluded after a converged iteration is a hopeful whose tally is within the surplus of the lowest tally -/
theorem excluded_near_lowest (o : MeekOpts) (s : St α) (b : Bool) (hd : Cand α) (hs : List (Cand α)) (hh : s.hopeful = hd :: hs)
    (lc : Cand α)
    (hb : (breakTie A s (s.hopeful.filter (fun c => A.ge (A.add (A.vMin hd.vote (hs.map (·.vote))) s.surplus) c.vote)) "Break tie (defeat)").2 = some lc) :
    lc ∈ s.hopeful ∧ A.ge (A.add (A.vMin hd.vote (hs.map (·.vote))) s.surplus) lc.vote = true := by
  have := breakTie_mem A s _ _ lc hb
  rw [List.mem_filter] at this
  exact this

end Droop.C08
