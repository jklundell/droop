import Props.C05
import Props.Driver

/-! # The one-seat majority claim at run level, about the function the compiled driver runs

"With one seat, a candidate ranked first by more than half of the ballots always wins": for every case inside the domain
`caseOK`, every precision, and each of the seven Gregory rule names (Minneapolis without undeclared write-ins), the run
returns a state in which that candidate is elected; unless the crash flag is up it is the only candidate elected. -/
namespace Droop.C05
open Droop

/-- ballots (with multipliers) whose first preference is `w` -/
def firstPrefs (c : Case) (w : Nat) : Nat := ((c.ballots.filter (fun b => b.2.head? == some w)).map (·.1)).sum

/-- the tally over the initial ballots is the first-preference count, in units of the arithmetic -/
theorem tally_initState (p : Nat) (c : Case) (w : Nat) :
    ((initState (fixedArith p) c).ballots.map
        (fun b => if b.top = some w then bvote (fixedArith p) b else 0)).sum = (firstPrefs c w : Int) * pow10 p := by
  unfold initState firstPrefs
  simp only [List.map_map]
  have hS := pow10_pos p
  generalize c.ballots = l
  induction l with
  | nil => simp
  | cons b l ih =>
    obtain ⟨m, r⟩ := b
    simp only [List.map_cons, List.sum_cons, Function.comp, List.filter_cons]
    rw [ih]
    have hb : bvote (fixedArith p) ({ mult := m, rank := r, idx := 0, w := (fixedArith p).one, residual := (fixedArith p).zero } : Ballot Int)
        = (m : Int) * pow10 p := by
      rw [bvote_eq (fixedArith p) (fixed_lawful p)]
      show pow10 p * (((m : Nat) : Int) : Int) = _
      simp [mul_comm]
    have htop : ({ mult := m, rank := r, idx := 0, w := (fixedArith p).one, residual := (fixedArith p).zero } : Ballot Int).top
        = r.head? := by
      unfold Ballot.top; cases r <;> rfl
    rw [hb, htop]
    by_cases hh : r.head? = some w
    · simp [hh]; ring
    · have : (r.head? == some w) = false := by simpa using hh
      simp [hh, this]

def core (p : Nat) (q : Int) (c : Case) : St Int :=
  (firstCount (fixedArith p) ((initState (fixedArith p) c).setQuota q)).setExhausted (fixedArith p).zero

theorem core_skel (p : Nat) (q : Int) (c : Case) : (core p q c).skel = (initState (fixedArith p) c).skel := by
  unfold core
  show (firstCount (fixedArith p) _).skel = _
  rw [firstCount_eq]; exact foldl_fcStep_skel (fixedArith p) _ _

theorem core_ballots (p : Nat) (q : Int) (c : Case) : (core p q c).ballots = (initState (fixedArith p) c).ballots := by
  unfold core
  show (firstCount (fixedArith p) _).ballots = _
  rw [firstCount_eq, (foldl_fcStep_frame (fixedArith p) _ _).1]; rfl

/-- the majority candidate stands hopeful with its first-preference count as tally once the first preferences are counted -/
theorem majority_at_core (p : Nat) (c : Case) (hm : methodOf c.rule = .wigm) (hk : CaseOK c) (q : Int) (hq : 0 < q)
    (w : Nat) (hpos : 0 < firstPrefs c w) :
    ∃ w0 ∈ (core p q c).hopeful, w0.cid = w ∧ w0.vote = (firstPrefs c w : Int) * pow10 p := by
  have hI0 := initState_init (fixedArith p) (fixed_lawful p) c hm hk
  have hI : Inv (fixedArith p) (core p q c) := Inv.initCore (fixedArith p) (fixed_lawful p) q hI0 hq
  -- some ballot has `w` first, so `w` is a standing candidate
  have hex : ∃ b ∈ c.ballots, b.2.head? = some w := by
    by_contra hno
    have : c.ballots.filter (fun b => b.2.head? == some w) = [] := by
      rw [List.filter_eq_nil_iff]
      intro b hb hbw
      exact hno ⟨b, hb, by simpa using hbw⟩
    unfold firstPrefs at hpos; rw [this] at hpos; simp at hpos
  obtain ⟨b, hb, hbw⟩ := hex
  have hwr : w ∈ b.2 := List.mem_of_mem_head? (by rw [hbw]; rfl)
  obtain ⟨k, hkc, hkw, hkwd⟩ := (hk.ballots b hb).2 w hwr
  obtain ⟨x, hx, hxc, hxs⟩ := initState_cand_of (fixedArith p) hkc
  rw [hkwd] at hxs
  have hsk := core_skel p q c
  obtain ⟨w0, hw0, hw0s⟩ := mem_of_skel_eq hsk.symm hx
  have hcid : w0.cid = w := (skel_cid hw0s).trans (hxc.trans hkw)
  have hst : w0.st = .hopeful := by rw [(skel_st hw0s).1]; simpa using hxs
  refine ⟨w0, mem_hopeful.2 ⟨hw0, hst⟩, hcid, ?_⟩
  rw [hI.i1 w0 hw0 (Or.inl hst)]
  unfold St.tally
  rw [core_ballots, hcid]
  exact tally_initState p c w

theorem hopeful_gInit (p : Nat) (q : Int) (c : Case) :
    (gInit (fixedArith p) q (initState (fixedArith p) c)).hopeful = (core p q c).hopeful := by
  unfold gInit core St.hopeful; rw [logAct_cands]

theorem majority_at_start (p : Nat) (c : Case) (hm : methodOf c.rule = .wigm) (hk : CaseOK c) (q : Int) (hq : 0 < q)
    (w : Nat) (hpos : 0 < firstPrefs c w) :
    ∃ w0 ∈ (gInit (fixedArith p) q (initState (fixedArith p) c)).hopeful,
      w0.cid = w ∧ w0.vote = (firstPrefs c w : Int) * pow10 p := by
  rw [hopeful_gInit]; exact majority_at_core p c hm hk q hq w hpos

theorem ge_of_le (p : Nat) (a b : Int) (h : b ≤ a) : (fixedArith p).ge a b = true := by
  rw [fixed_ge]; exact decide_eq_true h

/-- more than half of `n` ballots is at least the integer Droop quota for one seat -/
theorem majority_has_integer_quota (n f : Nat) (hmaj : n < 2 * f) : pdiv (n : Int) (((1 : Nat) : Int) + 1) + 1 ≤ (f : Int) := by
  have h2 : (0 : Int) < ((1 : Nat) : Int) + 1 := by norm_num
  have hle := pdiv_mul_le (n : Int) (((1 : Nat) : Int) + 1) h2
  have : ((1 : Nat) : Int) + 1 = 2 := by norm_num
  rw [this] at hle ⊢
  omega

/-- the same for the fractional quota of fixed-point arithmetic (`majority_has_quota`, tallies in units of `10^-p`) -/
theorem majority_has_fractional_quota (p n f : Nat) (hmaj : n < 2 * f) :
    pdiv ((n : Int) * pow10 p * pow10 p) (((1 + 1 : Nat) : Int) * pow10 p) + 1 ≤ (f : Int) * pow10 p := by
  apply majority_has_quota
  have h : (n : Int) < 2 * (f : Int) := by exact_mod_cast hmaj
  rw [← mul_assoc]
  exact mul_lt_mul_of_pos_right h (pow10_pos p)

def gregoryNames : List String := ["wigm", "wigm-prf", "wigm-prf-batch", "scotland", "cfer", "cfer-batch", "mpls"]

def WinsAlone (w : Nat) (t : St Int) : Prop :=
  (∃ x ∈ t.cands, x.cid = w ∧ x.st = .elected) ∧ (t.crash = none → nEl t = 1)

theorem scotland_majority (p : Nat) (c : Case) (hr : c.rule = "scotland") (hok : caseOK c = true) (hseats : c.seats = 1)
    (w : Nat) (hmaj : c.nballots < 2 * firstPrefs c w) :
    ∃ t, runRuleSt (fixedArith p) c = some t ∧ WinsAlone w t := by
  obtain ⟨t, ⟨hrun, _, hfill⟩, _⟩ := Driver.scotland p c hr hok
  obtain ⟨hk, hm, hI⟩ := Driver.start_of_case p c (by rw [hr]; simp) hok
  have hS := pow10_pos p
  have hrun' : scotCount (fixedArith p) (initState (fixedArith p) c) = some t := by
    rw [← hrun, runRuleSt_scotland _ c hr]
  have hst := Driver.scotStart_of_case p c hr hok
  have hqpos := hst.quota_pos
  obtain ⟨w0, hw0, hcid, hv⟩ := majority_at_start p c hm hk _ hqpos w (by omega)
  have hq : hasQuotaGE (fixedArith p) (scotInit (fixedArith p) (initState (fixedArith p) c)) w0 = true := by
    unfold hasQuotaGE
    apply ge_of_le
    have hquota : (scotInit (fixedArith p) (initState (fixedArith p) c)).quota
        = (pdiv (c.nballots : Int) ((c.seats : Int) + 1) + 1) * pow10 p := by
      rw [(scotInit_frame (fixedArith p) _).2.2]; rfl
    rw [hquota, hv, hseats]
    have := majority_has_integer_quota c.nballots (firstPrefs c w) hmaj
    exact mul_le_mul_of_nonneg_right this (le_of_lt hS)
  obtain ⟨x, hx, hxc, hxe⟩ := scot_first_elected (fixedArith p) (fixed_lawful p) rfl _ t hst rfl hrun' w0 hw0 hq
  refine ⟨t, hrun, ⟨x, hx, hxc.trans hcid, hxe⟩, ?_⟩
  intro hcr
  have := (hfill hcr).1
  rw [this]
  have : t.seats = c.seats := by
    exact scot_seats (fixedArith p) _ t hrun'
  rw [this, hseats]

theorem only_winner {t : St Int} {n : Nat} (h : t.crash = none → nEl t = t.seats ∧ nHop t = 0) (hs : t.seats = n) :
    t.crash = none → nEl t = n := fun hcr => by rw [(h hcr).1, hs]

theorem cfer_majority (p : Nat) (c : Case) (hr : c.rule = "cfer" ∨ c.rule = "cfer-batch") (hok : caseOK c = true)
    (hseats : c.seats = 1) (w : Nat) (hmaj : c.nballots < 2 * firstPrefs c w) :
    ∃ t, runRuleSt (fixedArith p) c = some t ∧ WinsAlone w t := by
  obtain ⟨t, ⟨hrun, _, hfill⟩, _⟩ := Driver.cfer p c hr hok
  obtain ⟨hk, hm, hI⟩ := Driver.start_of_case p c (by rcases hr with hr | hr <;> rw [hr] <;> simp) hok
  have hS := pow10_pos p
  obtain ⟨batch, hb⟩ := runRuleSt_cfer (fixedArith p) c hr
  have hrun' : cferCount (fixedArith p) batch (initState (fixedArith p) c) = some t := by rw [← hrun, hb]
  have hG := C01.cfer_start p _ hI (initState_fresh _ c) (initState_enough _ c hk) rfl
  obtain ⟨w0, hw0, hcid, hv⟩ := majority_at_start p c hm hk _ hG.quota_pos w (by omega)
  have hq : hasQuotaGE (fixedArith p) ((cferInit (fixedArith p) (initState (fixedArith p) c)).newRound (fixedArith p)) w0 = true := by
    unfold hasQuotaGE
    apply ge_of_le
    rw [quota_newRound, cferInit_eq, (gInit_facts (fixedArith p) _ _).2.2.2.1]
    have hcq := C01.cferQuota_fixed p (initState (fixedArith p) c)
    unfold cferQuota at hcq
    rw [hcq, hv]
    have hs1 : (initState (fixedArith p) c).seats = 1 := hseats
    rw [hs1]
    exact majority_has_fractional_quota p c.nballots _ hmaj
  obtain ⟨x, hx, hxc, hxe⟩ := cfer_first_elected (fixedArith p) (fixed_lawful p) rfl batch _ t hG rfl hrun' w0
    (by rw [cferInit_eq]; exact hw0) hq
  exact ⟨t, hrun, ⟨x, hx, hxc.trans hcid, hxe⟩,
    only_winner hfill ((cfer_seats (fixedArith p) batch _ t hrun').trans hseats)⟩

theorem mpls_majority (p : Nat) (c : Case) (hr : c.rule = "mpls") (hok : caseOK c = true)
    (hnu : ∀ k ∈ c.cands, k.2.2.2 = false) (hseats : c.seats = 1) (w : Nat) (hmaj : c.nballots < 2 * firstPrefs c w) :
    ∃ t, runRuleSt (fixedArith p) c = some t ∧ WinsAlone w t := by
  obtain ⟨t, ⟨hrun, _, hfill⟩, _⟩ := Driver.mpls p c hr hok hnu
  obtain ⟨hk, hm, hI⟩ := Driver.start_of_case p c (by rw [hr]; simp) hok
  have hS := pow10_pos p
  have hrun' : mplsCount (fixedArith p) (initState (fixedArith p) c) = some t := by
    rw [← hrun, runRuleSt_mpls _ c hr]
  have hG := C01.mpls_start p _ hI (initState_fresh _ c) (initState_enough _ c hk) rfl
  obtain ⟨w0, hw0, hcid, hv⟩ := majority_at_core p c hm hk _ hG.quota_pos w (by omega)
  have hw0' : w0 ∈ (mplsInit (fixedArith p) (initState (fixedArith p) c)).hopeful := by
    unfold mplsInit; rw [hopeful_newRound]; exact hw0
  have hcrash : (mplsInit (fixedArith p) (initState (fixedArith p) c)).crash = none := by
    unfold mplsInit St.newRound
    rw [crash_logAct]
    show (firstCount (fixedArith p) _).crash = _
    rw [firstCount_eq, foldl_fcStep_crash]; rfl
  have hq : hasQuotaGE (fixedArith p) (mplsInit (fixedArith p) (initState (fixedArith p) c)) w0 = true := by
    unfold hasQuotaGE
    apply ge_of_le
    have hquota : (mplsInit (fixedArith p) (initState (fixedArith p) c)).quota
        = (pdiv (c.nballots : Int) ((c.seats : Int) + 1) + 1) * pow10 p := by
      unfold mplsInit; rw [quota_newRound]
      show (firstCount (fixedArith p) _).quota = _
      rw [firstCount_eq, (foldl_fcStep_frame (fixedArith p) _ _).2.2.1]; rfl
    rw [hquota, hv, hseats]
    have := majority_has_integer_quota c.nballots (firstPrefs c w) hmaj
    exact mul_le_mul_of_nonneg_right this (le_of_lt hS)
  obtain ⟨x, hx, hxc, hxe⟩ := mpls_first_elected (fixedArith p) (fixed_lawful p) rfl _ t hG (initState_noUnd _ c hnu) hrun'
    hcrash ((mplsInit_seats (fixedArith p) _).trans hseats) w0 hw0' hq
  exact ⟨t, hrun, ⟨x, hx, hxc.trans hcid, hxe⟩,
    only_winner hfill ((mpls_seats (fixedArith p) _ t hrun').trans hseats)⟩

/-- wigm with any option set `o` -/
theorem wigm_majority_o (p : Nat) (c : Case) (o : WigmOpts) (hm : methodOf c.rule = .wigm) (hok : caseOK c = true)
    (hseats : c.seats = 1) (hmore : o.batchZero = true → 1 < c.nballots) (w : Nat) (hmaj : c.nballots < 2 * firstPrefs c w) :
    ∃ t, wigmCount (fixedArith p) o (initState (fixedArith p) c) = some t ∧ WinsAlone w t := by
  have hk := caseOK_iff c hok
  have hI := initState_init (fixedArith p) (fixed_lawful p) c hm hk
  have hS := pow10_pos p
  have hG := C01.wigm_start p o _ hI (initState_fresh _ c) (initState_enough _ c hk) rfl
  obtain ⟨t, ht, hM, hfill⟩ : ∃ t, wigmCount (fixedArith p) o (initState (fixedArith p) c) = some t ∧ Mon t
      ∧ (t.crash = none → nEl t = t.seats ∧ nHop t = 0) := by
    by_cases hz : o.batchZero = false
    · obtain ⟨t, ht, hM, _, hfill⟩ := C01.wigm_seats_filled_fixed p o hz _ hI (initState_fresh _ c)
        (initState_enough _ c hk) rfl
      exact ⟨t, ht, hM, hfill⟩
    · have hz' : o.batchZero = true := by simpa using hz
      have hmr : (initState (fixedArith p) c).seats < (initState (fixedArith p) c).nballots := by
        show c.seats < c.nballots
        rw [hseats]; exact hmore hz'
      obtain ⟨t, ht, _, _, hM, _, hfill⟩ := C02.wigm_every_configuration_fixed p o _ hI (initState_fresh _ c)
        (initState_enough _ c hk) rfl (initState_noW _ c hk) hmr
      exact ⟨t, ht, hM, hfill⟩
  obtain ⟨_, hnel, _⟩ := hG.facts (fixedArith p) (fixed_lawful p)
  obtain ⟨w0, hw0, hcid, hv⟩ := majority_at_start p c hm hk _ hG.quota_pos w (by omega)
  have hs1 : (initState (fixedArith p) c).seats = 1 := hseats
  have hquota : (wigmInit (fixedArith p) o (initState (fixedArith p) c)).quota ≤ w0.vote := by
    rw [wigmInit_eq, (gInit_facts (fixedArith p) _ _).2.2.2.1, C01.wigmQuota_fixed, hv]
    split
    · rw [hs1]
      have := majority_has_integer_quota c.nballots (firstPrefs c w) hmaj
      have h2 : (1 + pdiv ((initState (fixedArith p) c).nballots : Int) (((1 : Nat) : Int) + 1)) ≤ (firstPrefs c w : Int) := by
        show 1 + pdiv (c.nballots : Int) _ ≤ _
        omega
      exact mul_le_mul_of_nonneg_right h2 (le_of_lt hS)
    · have hcq := C01.cferQuota_fixed p (initState (fixedArith p) c)
      rw [hcq, hs1]
      exact majority_has_fractional_quota p c.nballots _ hmaj
  have hq : (if o.prf then hasQuotaGE (fixedArith p) else hasQuotaX (fixedArith p))
      ((wigmInit (fixedArith p) o (initState (fixedArith p) c)).newRound (fixedArith p)) w0 = true := by
    have hx : ∀ (s : St Int) (x : Cand Int), hasQuotaX (fixedArith p) s x = hasQuotaGE (fixedArith p) s x := fun _ _ => rfl
    have hge : hasQuotaGE (fixedArith p) ((wigmInit (fixedArith p) o (initState (fixedArith p) c)).newRound (fixedArith p)) w0 = true := by
      unfold hasQuotaGE
      apply ge_of_le
      rw [quota_newRound]; exact hquota
    split
    · exact hge
    · rw [hx]; exact hge
  obtain ⟨x, hx, hxc, hxe⟩ := wigm_first_elected (fixedArith p) o _ t ht hM
    (by rw [wigmInit_eq, gInit_crash]; rfl) (by rw [wigmInit_eq]; exact hnel)
    (by rw [wigmInit_eq, (gInit_facts (fixedArith p) _ _).2.2.1]; exact hseats) w0 (by rw [wigmInit_eq]; exact hw0) hq
  exact ⟨t, ht, ⟨x, hx, hxc.trans hcid, hxe⟩, only_winner hfill ((wigm_seats (fixedArith p) o _ t ht).trans hseats)⟩

/-- wigm (every option combination; with `defeat_batch=zero` at least two ballots), wigm-prf, wigm-prf-batch -/
theorem wigm_majority (p : Nat) (c : Case) (hr : c.rule = "wigm" ∨ c.rule = "wigm-prf" ∨ c.rule = "wigm-prf-batch")
    (hok : caseOK c = true) (hseats : c.seats = 1) (hmore : c.rule = "wigm" → c.batch = "zero" → 1 < c.nballots)
    (w : Nat) (hmaj : c.nballots < 2 * firstPrefs c w) :
    ∃ t, runRuleSt (fixedArith p) c = some t ∧ WinsAlone w t := by
  have hm : methodOf c.rule = .wigm := Driver.methodOf_gregory (by rcases hr with hr | hr | hr <;> rw [hr] <;> simp)
  obtain ⟨o, hrun, hz⟩ := runRuleSt_wigm (fixedArith p) c hr
  obtain ⟨t, ht, hw⟩ := wigm_majority_o p c o hm hok hseats (fun h => hmore (hz h).1 (hz h).2) w hmaj
  exact ⟨t, by rw [hrun]; exact ht, hw⟩

def sample : Case :=
  { rule := "scotland", arith := "fixed", p := 4, g := 0, intq := false, batch := "none", omega := 0, seats := 1, nballots := 5,
    cands := [(1, 1, false, false), (2, 2, false, false), (3, 3, false, false)],
    ballots := [(3, [2, 1]), (1, [1, 3]), (1, [3])], ballotsEq := [] }

example : caseOK sample = true := by decide
example : sample.nballots < 2 * firstPrefs sample 2 := by decide
example : ¬ (sample.nballots < 2 * firstPrefs sample 1) := by decide

end Droop.C05
