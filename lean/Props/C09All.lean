import Props.C01All
import Props.C09
/-!
# C09 — "status only moves forward", stated once about the function the driver runs

`Mon t`: in the record of `t` every candidate's status code only ever moves forward from one snapshot to the next (hopeful → elected /
defeated, pending → elected, never back), and the newest snapshot is behind the final state. The per-rule theorems
(`Driver.scotland`, `Driver.cfer`, `Driver.wigm`, `Driver.mpls`, `C09.meek_record_forward`, `C09.prf_record_forward`) are put together
here: for every one of the ten rule names that record snapshots this way (QPQ has its own statement, `QPQ.qpq_status_forward`, because
a restart un-elects the elected), every precision and every well-formed case, *whatever* `runRuleSt` returns is forward-only.
Hypotheses are those of the per-rule theorems: Minneapolis without undeclared write-ins (open finding F7 lives there), and for the
wigm family more ballots than seats.
-/
namespace Droop.C09
open Droop

theorem record_forward_every_rule (p : Nat) (c : Case) (hok : caseOK c = true)
    (hr : c.rule ∈ ["wigm", "wigm-prf", "wigm-prf-batch", "scotland", "cfer", "cfer-batch", "mpls", "meek", "warren", "meek-prf"])
    (hw : c.rule ∈ ["wigm", "wigm-prf", "wigm-prf-batch"] → c.seats < c.nballots)
    (hm : c.rule = "mpls" → ∀ k ∈ c.cands, k.2.2.2 = false)
    (t : St Int) (h : runRuleSt (fixedArith p) c = some t) : Mon t := by
  rcases List.mem_append.1 (show c.rule ∈ ["wigm", "wigm-prf", "wigm-prf-batch", "scotland", "cfer", "cfer-batch", "mpls"]
      ++ ["meek", "warren", "meek-prf"] from hr) with hg | hr'
  · -- the run `every_gregory_rule` speaks of is the one at hand
    obtain ⟨t', ht', _⟩ := Driver.every_gregory_rule p c hok hg hw hm
    rw [← Option.some.inj (ht'.1.symm.trans h)]
    exact ht'.2.1
  · simp only [List.mem_cons, List.not_mem_nil, or_false] at hr'
    rcases hr' with hr | hr | hr
    · exact (meek_record_forward p c (Or.inl hr) hok t h).1
    · exact (meek_record_forward p c (Or.inr hr) hok t h).1
    · exact prf_record_forward p c hr (caseOK_iff c hok).nodup t h

/-- non-vacuity: the sample case meets every hypothesis for each of these names -/
example : caseOK Driver.sample = true ∧ Driver.sample.seats < Driver.sample.nballots ∧ (∀ k ∈ Driver.sample.cands, k.2.2.2 = false) := by
  decide

end Droop.C09
