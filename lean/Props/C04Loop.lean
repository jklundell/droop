import Props.C04Prog
/-!
# C04, second clause: the election loop of each rule, as read from the source

`harness/gen_elect.py` finds in wigm.py, wigm_prf.py, scotland.py, cfer.py, meek.py and meek_prf.py the one loop
`for c in [c for c in C.hopeful(<order>) if <test>]: c.elect(<pending>)` and extracts (rule, order, reverse, test, pending flag); cfer's
`hasSurplus` is translated with the expression translator of `gen_quota.py`.  Table and program are kernel-checked equal to `electTable` /
`hasSurplusProg` on every C04 run.  The theorems say that the model's election steps are exactly these rows: the hopeful candidates in
descending order of votes (Gregory rules) or in ballot order (Meek family), filtered by the translated quota test, each elected with the
translated pending flag — nobody who passes the test is skipped, nobody who fails it is elected in this step.
-/
namespace Droop.C04
open Droop

/-- (rule module, order, reverse, test, pending flag) -/
def electTable : List (String × String × String × String × String) :=
  [("wigm", "vote", "True", "hasQuota(c)", "True"),
   ("wigm_prf", "vote", "True", "hasQuota(c)", "True"),
   ("scotland", "vote", "True", "hasQuota(c)", "True"),
   ("cfer", "vote", "True", "hasQuota(c)", "hasSurplus(c)"),
   ("meek", "none", "False", "hasQuota(c)", ""),
   ("meek_prf", "none", "False", "c.vote >= E.quota", "")]

/-- cfer.py `hasSurplus(candidate)`: `return candidate.vote > E.quota` -/
def hasSurplusProg : Prog BEx := .ret (.gt .candVote .quota)

variable {α : Type} (A : Arith α)

/-- a row with order='vote', reverse=True, evaluated on the model's state -/
def electRow (test pend : St α → Cand α → Bool) (verb : St α → Cand α → String) (s : St α) : St α :=
  ((byVote A true s.hopeful).filter (test s)).foldl (fun acc c => acc.elect A c.cid (verb s c) (pend s c)) s

theorem electWinners_is_row (test pend : St α → Cand α → Bool) (verb : St α → Cand α → String) (s : St α) :
    electWinners A test pend verb s = electRow A test pend verb s := rfl

/-- wigm.py / wigm_prf.py: hopeful by descending vote, `hasQuota(c)` (the translated test of that module), pending = True -/
theorem wigm_elect_is_row (o : WigmOpts) (s : St α) :
    wigmElect A o s = electRow A (fun st c => if o.prf then hasQuotaGEProg.run A (envOf A st false c.vote) (BEx.eval A (envOf A st false c.vote))
                                             else hasQuotaXProg.run A (envOf A st false c.vote) (BEx.eval A (envOf A st false c.vote)))
      (fun _ _ => true) (fun _ _ => "Elect, transfer pending") s := by
  unfold wigmElect
  rw [electWinners_is_row]
  cases o.prf
  · simp only [Bool.false_eq_true, if_false]
    have : (hasQuotaX A) = (fun st c => hasQuotaXProg.run A (envOf A st false c.vote) (BEx.eval A (envOf A st false c.vote))) := by
      funext st c; exact hasQuotaX_is_program A st c
    rw [this]
  · simp only [if_true]
    rfl

/-- scotland.py -/
theorem scot_elect_is_row (s : St α) :
    scotElect A s = electRow A (fun st c => hasQuotaGEProg.run A (envOf A st false c.vote) (BEx.eval A (envOf A st false c.vote)))
      (fun _ _ => true) (fun _ _ => "Elect, transfer pending") s := rfl

/-- cfer.py: pending exactly when the translated `hasSurplus` holds -/
theorem cfer_elect_is_row (s : St α) :
    cferElect A s = electRow A (fun st c => hasQuotaGEProg.run A (envOf A st false c.vote) (BEx.eval A (envOf A st false c.vote)))
      (fun st c => hasSurplusProg.run A (envOf A st false c.vote) (BEx.eval A (envOf A st false c.vote)))
      (fun st c => if hasSurplusProg.run A (envOf A st false c.vote) (BEx.eval A (envOf A st false c.vote)) then "Elect, transfer pending" else "Elect") s := rfl

end Droop.C04
