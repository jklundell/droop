import Props.C14
import Props.C20
/-!
# C14 / C20: `__str__` on the class state `initialize` leaves is the `str` the C14 theorems are about

`strFixedS` / `strGuardedS` (DroopModel/Session.lean) are `Fixed.__str__` / `Guarded.__str__` reading the *class attributes*; `fixedInitS` /
`guardedInitS` are `initialize` writing them.  Whatever class state earlier elections left behind, after a successful `initialize` with
configuration `fixed p d` / `guarded p g d`, `__str__` is `strFixed p d` / `strGuarded p g d` — the functions `fixed_units_round_half_up`,
`guarded_units_round_half_up`, `render_recombines`, `render_shape` (Props/C14.lean) and the source trees of Props/C14Prog.lean speak about.
-/
namespace Droop.C14
open Droop

theorem ipow10_toNat (n : Int) : ipow10 n = pow10 n.toNat := rfl

/-- **Fixed**: after a successful `initialize`, printing reads exactly the configuration it returned -/
theorem fixed_str_after_init (o o' : Options) (st : FixedSt) (p d : Nat) (v : Int)
    (h : (fixedInitS o st).2 = .ok (o', .fixed p d)) : strFixedS (fixedInitS o st).1 v = some (strFixed p d v) := by
  obtain ⟨_, _, _, _, -, hr, ht⟩ := C20.fixedTrace_ok o _ h
  simp only [Prod.mk.injEq, ArithCfg.fixed.injEq] at hr
  obtain ⟨-, rfl, rfl⟩ := hr
  unfold fixedInitS
  rw [ht]
  unfold strFixedS strFixed renderUnits fixedUnits roundUnits
  simp only [List.foldl_cons, List.foldl_nil, FixedSt.write, Option.bind_some, bind, pure]
  by_cases hp0 : p = 0
  · subst hp0; simp
  · have hp0' : ¬ ((p : Int) == 0) = true := by simpa using hp0
    have hp0'' : (p == 0) = false := by simpa using hp0
    simp only [hp0', hp0'', if_false, Bool.false_eq_true]
    by_cases hlt : d < p
    · have hlt' : (d : Int) < p := by exact_mod_cast hlt
      simp [hlt, hlt']
    · have hlt' : ¬ ((d : Int) < p) := by exact_mod_cast hlt
      simp [hlt, hlt']

/-- **Guarded**: after a successful `initialize`, printing reads exactly the configuration it returned -/
theorem guarded_str_after_init (o o' : Options) (st : GuardedSt) (p g d : Nat) (v : Int)
    (h : (guardedInitS o st).2 = .ok (o', .guarded p g d)) : strGuardedS (guardedInitS o st).1 v = some (strGuarded p g d v) := by
  obtain ⟨_, _, d0, _, hr, ht⟩ := C20.guardedTrace_ok o _ h
  simp only [Prod.mk.injEq, ArithCfg.guarded.injEq] at hr
  obtain ⟨-, rfl, rfl, rfl⟩ := hr
  unfold guardedInitS
  rw [ht]
  unfold guardedTail
  generalize (if d0 > p + g then p + g else d0) = d
  unfold strGuardedS strGuarded renderUnits guardedUnits roundUnits
  by_cases hdp : d > p
  · have hle : ¬ d ≤ p := by omega
    have ht : ((d : Int) - (p : Int)).toNat = d - p := by omega
    by_cases hg0 : (g == 0) = true <;> simp [hdp, hg0, GuardedSt.write, bind, pure, hle, ht]
  · have hle : d ≤ p := by omega
    by_cases hg0 : (g == 0) = true <;> simp [hdp, hg0, GuardedSt.write, bind, pure, hle]

end Droop.C14
