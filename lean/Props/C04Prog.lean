import Props.C04
import Props.C04Meek
/-!
# C04: the quota formulas and the quota tests of the rules, as programs translated from the source

`harness/gen_quota.py` translates the bodies of `calcQuota()` and `hasQuota()` of every rule module (and the two inline quota
assignments of `meek_prf.py`) into the small expression language below and has the kernel check, on every run, that the translation
is the program committed here (`by rfl`).  This file proves that each committed program, evaluated over the arithmetic dictionary,
is the quota / the quota test the model uses — so the model's quota is the source's formula, not a transcription of it.

Integers (`E.nBallots`, `E.nSeats`, literals, `+`, `//`) and values (`V(int)`, `E.votes`, `E.va`, `E.tx`, `V.epsilon`, `E.quota`,
`candidate.vote`, `+`, `-`, `/`, `//`) are kept apart as Python keeps them apart; a program branches on `V.exact` and
`self.integer_quota` only.
-/
namespace Droop.C04
open Droop

inductive IEx
  | nBallots | nSeats
  | lit (n : Int)
  | add (a b : IEx)
  | floordiv (a b : IEx)
deriving DecidableEq, Repr

inductive VEx
  | ofI (i : IEx)
  | votes | va | tx | eps | quota | candVote
  | add (a b : VEx) | sub (a b : VEx) | div (a b : VEx) | fdiv (a b : VEx)
deriving DecidableEq, Repr

inductive BEx
  | gt (a b : VEx) | ge (a b : VEx)
deriving DecidableEq, Repr

inductive Prog (β : Type)
  | ret (e : β)
  | ifExact (t e : Prog β)
  | ifIntegerQuota (t e : Prog β)
deriving DecidableEq, Repr

structure QEnv (α : Type) where
  nBallots : Int
  nSeats : Int
  votes : α
  va : α
  tx : α
  quota : α
  candVote : α
  integerQuota : Bool

variable {α : Type}

def IEx.eval (env : QEnv α) : IEx → Int
  | .nBallots => env.nBallots
  | .nSeats => env.nSeats
  | .lit n => n
  | .add a b => a.eval env + b.eval env
  | .floordiv a b => pdiv (a.eval env) (b.eval env)

def VEx.eval (A : Arith α) (env : QEnv α) : VEx → α
  | .ofI i => A.ofInt (i.eval env)
  | .votes => env.votes
  | .va => env.va
  | .tx => env.tx
  | .eps => A.eps
  | .quota => env.quota
  | .candVote => env.candVote
  | .add a b => A.add (a.eval A env) (b.eval A env)
  | .sub a b => A.sub (a.eval A env) (b.eval A env)
  | .div a b => A.divV (a.eval A env) (b.eval A env)
  | .fdiv a b => A.fdivV (a.eval A env) (b.eval A env)

def BEx.eval (A : Arith α) (env : QEnv α) : BEx → Bool
  | .gt a b => A.gt (a.eval A env) (b.eval A env)
  | .ge a b => A.ge (a.eval A env) (b.eval A env)

def Prog.run {β γ : Type} (A : Arith α) (env : QEnv α) (ev : β → γ) : Prog β → γ
  | .ret e => ev e
  | .ifExact t e => if A.exact then t.run A env ev else e.run A env ev
  | .ifIntegerQuota t e => if env.integerQuota then t.run A env ev else e.run A env ev

/-! ## the committed programs (what the translator must reproduce from `/repo/droop/rules/*.py`) -/

/-- `V(E.nBallots) / V(E.nSeats+1)` -/
def droopQ : VEx := .div (.ofI .nBallots) (.ofI (.add .nSeats (.lit 1)))

def wigmQuotaProg : Prog VEx :=
  .ifIntegerQuota (.ret (.ofI (.add (.lit 1) (.floordiv .nBallots (.add .nSeats (.lit 1))))))
    (.ifExact (.ret droopQ) (.ret (.add droopQ .eps)))
def wigmPrfQuotaProg : Prog VEx := .ret (.add droopQ .eps)
def cferQuotaProg : Prog VEx := .ret (.add droopQ .eps)
def scotlandQuotaProg : Prog VEx := .ret (.ofI (.add (.floordiv .nBallots (.add .nSeats (.lit 1))) (.lit 1)))
def mplsQuotaProg : Prog VEx := .ret (.ofI (.add (.floordiv .nBallots (.add .nSeats (.lit 1))) (.lit 1)))
def meekQuotaProg : Prog VEx :=
  .ifExact (.ret (.div .votes (.ofI (.add .nSeats (.lit 1))))) (.ret (.add (.div .votes (.ofI (.add .nSeats (.lit 1)))) .eps))
def qpqQuotaProg : Prog VEx := .ret (.div .va (.sub (.ofI (.add (.lit 1) .nSeats)) .tx))
/-- meek_prf.py: `E.quota = E.votes // V(nSeats+1) + V.epsilon` (B.2.b) and `E.quota = E.votes / V(E.nSeats+1) + V.epsilon` (round 0) -/
def prfIterQuotaProg : Prog VEx := .ret (.add (.fdiv .votes (.ofI (.add .nSeats (.lit 1)))) .eps)
def prfStartQuotaProg : Prog VEx := .ret (.add (.div .votes (.ofI (.add .nSeats (.lit 1)))) .eps)

def hasQuotaXProg : Prog BEx := .ifExact (.ret (.gt .candVote .quota)) (.ret (.ge .candVote .quota))
def hasQuotaGEProg : Prog BEx := .ret (.ge .candVote .quota)

def envOf (A : Arith α) (s : St α) (intq : Bool) (cv : α) : QEnv α :=
  { nBallots := s.nballots, nSeats := s.seats, votes := s.votes, va := A.zero, tx := A.zero, quota := s.quota, candVote := cv,
    integerQuota := intq }

theorem wigm_quota_is_program (A : Arith α) (o : WigmOpts) (hp : o.prf = false) (s : St α) (cv : α) :
    wigmQuota A o s = wigmQuotaProg.run A (envOf A s o.integerQuota cv) (VEx.eval A (envOf A s o.integerQuota cv)) := by
  unfold wigmQuota
  simp only [hp, Bool.false_eq_true, if_false, wigmQuotaProg, Prog.run, envOf, droopQ, VEx.eval, IEx.eval]

theorem wigm_prf_quota_is_program (A : Arith α) (o : WigmOpts) (hp : o.prf = true) (s : St α) (cv : α) :
    wigmQuota A o s = wigmPrfQuotaProg.run A (envOf A s o.integerQuota cv) (VEx.eval A (envOf A s o.integerQuota cv)) := by
  unfold wigmQuota
  simp only [hp, if_true, wigmPrfQuotaProg, Prog.run, envOf, droopQ, VEx.eval, IEx.eval]

theorem meek_quota_is_program (A : Arith α) (s : St α) (cv : α) :
    meekQuota A s = meekQuotaProg.run A (envOf A s false cv) (VEx.eval A (envOf A s false cv)) := by
  unfold meekQuota
  simp only [meekQuotaProg, Prog.run, envOf, VEx.eval, IEx.eval]

theorem prf_iter_quota_is_program [CommRing α] [LinearOrder α] [IsStrictOrderedRing α] (A : Arith α) (s : St α) (cv : α) :
    (prfS4 A s).quota
      = prfIterQuotaProg.run A (envOf A ({ prfS2 A s with votes := activeVotes A (prfS2 A s) } : St α) false cv)
          (VEx.eval A (envOf A ({ prfS2 A s with votes := activeVotes A (prfS2 A s) } : St α) false cv)) := rfl

theorem prf_start_quota_is_program [CommRing α] [LinearOrder α] [IsStrictOrderedRing α] (A : Arith α) (s0 : St α) (cv : α) :
    (prfS3 A s0).quota
      = prfStartQuotaProg.run A (envOf A ({ s0 with votes := A.ofInt s0.nballots } : St α) false cv)
          (VEx.eval A (envOf A ({ s0 with votes := A.ofInt s0.nballots } : St α) false cv)) := by
  unfold prfS3
  rfl

theorem qpq_quota_is_program (A : Arith α) (q : QSt α) (cv : α) :
    (qpqQuota A q).1
      = qpqQuotaProg.run A { envOf A q.s false cv with va := q.va, tx := q.tx }
          (VEx.eval A { envOf A q.s false cv with va := q.va, tx := q.tx }) := by
  unfold qpqQuota
  simp only [qpqQuotaProg, Prog.run, envOf, VEx.eval, IEx.eval]

section
variable [CommRing α] [LinearOrder α] [IsStrictOrderedRing α]

theorem scotland_quota_is_program (A : Arith α) (s0 : St α) (cv : α) :
    (scotInit A s0).quota = scotlandQuotaProg.run A (envOf A s0 false cv) (VEx.eval A (envOf A s0 false cv)) := by
  unfold scotInit
  exact (frame_logAct A _ _ _ _).1.trans (firstCount_frame A _).1

theorem cfer_quota_is_program (A : Arith α) (s0 : St α) (cv : α) :
    (cferInit A s0).quota = cferQuotaProg.run A (envOf A s0 false cv) (VEx.eval A (envOf A s0 false cv)) := by
  unfold cferInit
  exact (frame_logAct A _ _ _ _).1.trans (firstCount_frame A _).1

theorem mpls_quota_is_program (A : Arith α) (s0 : St α) (cv : α) :
    (mplsInit A s0).quota = mplsQuotaProg.run A (envOf A s0 false cv) (VEx.eval A (envOf A s0 false cv)) := by
  unfold mplsInit
  exact (frame_newRound A _).1.trans (firstCount_frame A _).1

end

theorem hasQuotaX_is_program (A : Arith α) (s : St α) (c : Cand α) :
    hasQuotaX A s c = hasQuotaXProg.run A (envOf A s false c.vote) (BEx.eval A (envOf A s false c.vote)) := by
  unfold hasQuotaX
  simp only [hasQuotaXProg, Prog.run, envOf, BEx.eval, VEx.eval]

theorem hasQuotaGE_is_program (A : Arith α) (s : St α) (c : Cand α) :
    hasQuotaGE A s c = hasQuotaGEProg.run A (envOf A s false c.vote) (BEx.eval A (envOf A s false c.vote)) := rfl

/-- meek-prf elects in B.2.c whoever passes the translated test -/
theorem prf_winners_is_program [CommRing α] [LinearOrder α] [IsStrictOrderedRing α] (A : Arith α) (s : St α) :
    prfWinners A s = (prfS4 A s).hopeful.filter (fun c =>
      hasQuotaGEProg.run A (envOf A (prfS4 A s) false c.vote) (BEx.eval A (envOf A (prfS4 A s) false c.vote))) := rfl

/-- ... and meek / warren whoever passes theirs -/
theorem meek_winners_is_program (A : Arith α) (s : St α) :
    meekWinners A s = s.hopeful.filter (fun c =>
      hasQuotaXProg.run A (envOf A s false c.vote) (BEx.eval A (envOf A s false c.vote))) := by
  unfold meekWinners
  congr 1

end Droop.C04
