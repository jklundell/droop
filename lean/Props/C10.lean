import DroopProofs
/-!
# C10 — the count depends on the multiset of ballots, not on the order of the ballot lines

The Gregory machine reads the ballot list in two ways only: the first count and `transferAll` (a fold over the list).
Both credit each candidate with a *sum* of per-ballot contributions and update each ballot pointwise, so permuting
the ballot lines permutes the resulting ballot list and leaves every tally unchanged.
-/
namespace Droop.C10
open Droop
variable {α : Type} [CommRing α] [LinearOrder α] [IsStrictOrderedRing α] (A : Arith α)

/-- the same state with the ballot lines in another order -/
def withBallots (s : St α) (bs : List (Ballot α)) : St α := { s with ballots := bs }

theorem moveBallot_withBallots (s : St α) (bs : List (Ballot α)) (cids : List Nat) (rew : α → α) (b : Ballot α) :
    moveBallot (withBallots s bs) cids rew b = moveBallot s cids rew b := rfl

theorem contrib_withBallots (s : St α) (bs : List (Ballot α)) (cids : List Nat) (rew : α → α) (d : Nat) (b : Ballot α) :
    contrib A (withBallots s bs) cids rew d b = contrib A s cids rew d b := rfl

/-- **every tally after a transfer is independent of the order of the ballot lines** -/
theorem transferAll_votes_perm (hA : LawfulAdd A) (s : St α) (hwf : BallotsWF s) (bs : List (Ballot α))
    (hp : bs.Perm s.ballots) (cids : List Nat) (rew : α → α) (d : Nat) :
    (transferAll A (withBallots s bs) cids rew).voteOf d = (transferAll A s cids rew).voteOf d := by
  have hwf' : BallotsWF (withBallots s bs) := by
    intro b hb cid hc
    exact hwf b (hp.subset hb) cid hc
  rw [transferAll_voteOf A hA _ hwf', transferAll_voteOf A hA s hwf]
  have h1 : (withBallots s bs).voteOf d = s.voteOf d := rfl
  rw [h1]
  congr 1
  have : (withBallots s bs).ballots.map (contrib A (withBallots s bs) cids rew d) = bs.map (contrib A s cids rew d) := rfl
  rw [this]
  exact (hp.map _).sum_eq

/-- ... and the ballots after the transfer are the same multiset of ballots -/
theorem transferAll_ballots_perm (s : St α) (bs : List (Ballot α)) (hp : bs.Perm s.ballots) (cids : List Nat) (rew : α → α) :
    (transferAll A (withBallots s bs) cids rew).ballots.Perm (transferAll A s cids rew).ballots := by
  rw [transferAll_ballots, transferAll_ballots]
  exact hp.map _

/-- candidates' statuses are untouched by a transfer whatever the order -/
theorem transferAll_skel_perm (s : St α) (bs : List (Ballot α)) (cids : List Nat) (rew : α → α) :
    (transferAll A (withBallots s bs) cids rew).skel = (transferAll A s cids rew).skel := by
  rw [transferAll_skel, transferAll_skel]; rfl

/-- splitting a ballot line `(m₁+m₂, r)` into `(m₁, r)` and `(m₂, r)`: the two halves carry the value of the whole,
    for any weight (weight × multiplier is exact) -/
theorem bvote_split (hA : LawfulArith A) (b : Ballot α) (m1 m2 : Nat) (h : b.mult = m1 + m2) :
    bvote A b = bvote A { b with mult := m1 } + bvote A { b with mult := m2 } := by
  unfold bvote
  rw [hA.mulV_ofInt, hA.mulV_ofInt, hA.mulV_ofInt, h]
  push_cast; ring

/-- non-vacuity: the fixed-point arithmetic is lawful, so the theorems apply to the counts the package runs -/
example : LawfulArith (fixedArith 4) := fixed_lawful 4

end Droop.C10
