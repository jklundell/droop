import Props.C05Coalition
/-!
# C04, second sentence: whoever reaches the quota is elected at the next election step, and nobody holding a quota is excluded

For the election step of the Gregory rules (`electWinners`, instantiated by scotland, wigm / wigm-prf, cfer) under fixed-point
arithmetic:

* `reaches_quota_is_elected`: every hopeful candidate that passes the rule's quota test is elected by the step;
* `no_hopeful_holds_quota_scot`, `_wigm`, `_cfer`: after the step no hopeful candidate holds a quota (strictly less than the
  quota), with the tally it had before the step;
* `scot_excluded_below_quota`, `wigm_excluded_below_quota`: the candidate excluded later in the same round (lowest candidate,
  tie-break included) is one of those hopefuls — it holds less than a quota when it is excluded.

Minneapolis: `Props/C04Mpls.lean`.  The Meek family: oracles `okC04quota`, `okC04complete` only.
-/
namespace Droop.C04
open Droop

theorem lt_of_ge_false (p : Nat) (a b : Int) (h : (fixedArith p).ge a b = false) : a < b := by
  rw [fixed_ge] at h
  exact lt_of_not_ge (of_decide_eq_false h)

theorem reaches_quota_is_elected {α : Type} [CommRing α] [LinearOrder α] [IsStrictOrderedRing α] (A : Arith α)
    (hasQ : St α → Cand α → Bool) (pend : St α → Cand α → Bool) (verb : St α → Cand α → String) (s : St α) (w : Cand α)
    (hw : w ∈ s.hopeful) (hq : hasQ s w = true) :
    (∃ x ∈ (electWinners A hasQ pend verb s).cands, x.cid = w.cid)
    ∧ ∀ x ∈ (electWinners A hasQ pend verb s).cands, x.cid = w.cid → x.st = .elected := by
  unfold electWinners
  have hm : w ∈ (byVote A true s.hopeful).filter (hasQ s) := by
    rw [List.mem_filter]; exact ⟨(mem_pySorted _ _ _ _).2 hw, hq⟩
  exact ⟨foldElect_has A _ (verb s) (pend s) s w.cid ⟨w, (mem_hopeful.1 hw).1, rfl⟩, foldElect_all A _ (verb s) (pend s) s w hm⟩

/-- after the election step nobody hopeful holds a quota (Scottish rule; the same `electWinners` with `>=`) -/
theorem no_hopeful_holds_quota_scot (p : Nat) (s : St Int) (hwf : s.WF) :
    ∀ c ∈ (scotElect (fixedArith p) s).hopeful, c ∈ s.hopeful ∧ c.vote < s.quota := by
  intro c hc
  have := electWinners_rest_below (fixedArith p) (hasQuotaGE (fixedArith p)) (fun _ _ => true)
    (fun _ _ => "Elect, transfer pending") hwf c (by unfold scotElect at hc; exact hc)
  exact ⟨this.1, lt_of_ge_false p _ _ this.2⟩

theorem no_hopeful_holds_quota_wigm (p : Nat) (o : WigmOpts) (s : St Int) (hwf : s.WF) :
    ∀ c ∈ (wigmElect (fixedArith p) o s).hopeful, c ∈ s.hopeful ∧ c.vote < s.quota := by
  intro c hc
  have := electWinners_rest_below (fixedArith p) (if o.prf then hasQuotaGE (fixedArith p) else hasQuotaX (fixedArith p))
    (fun _ _ => true) (fun _ _ => "Elect, transfer pending") hwf c (by unfold wigmElect at hc; exact hc)
  refine ⟨this.1, ?_⟩
  have hf := this.2
  have hx : ∀ (t : St Int) (x : Cand Int), hasQuotaX (fixedArith p) t x = hasQuotaGE (fixedArith p) t x := fun _ _ => rfl
  by_cases hp : o.prf = true
  · simp only [hp, if_true] at hf; exact lt_of_ge_false p _ _ hf
  · simp only [hp, Bool.false_eq_true, if_false] at hf; rw [hx] at hf; exact lt_of_ge_false p _ _ hf

theorem no_hopeful_holds_quota_cfer (p : Nat) (s : St Int) (hwf : s.WF) :
    ∀ c ∈ (cferElect (fixedArith p) s).hopeful, c ∈ s.hopeful ∧ c.vote < s.quota := by
  intro c hc
  have := electWinners_rest_below (fixedArith p) (hasQuotaGE (fixedArith p)) (fun st c => (fixedArith p).gt c.vote st.quota)
    (fun st c => if (fixedArith p).gt c.vote st.quota then "Elect, transfer pending" else "Elect") hwf c
    (by unfold cferElect at hc; exact hc)
  exact ⟨this.1, lt_of_ge_false p _ _ this.2⟩

/-- the Scottish exclusion step acts on a hopeful candidate of the state it is given -/
theorem scot_excluded_is_hopeful (p : Nat) (s : St Int) (lc : Cand Int) (tied : List (Cand Int))
    (hsub : ∀ c ∈ tied, c ∈ s.hopeful)
    (h : (scotBreakTie (fixedArith p) s tied true "defeat low candidate").2 = some lc) : lc ∈ s.hopeful :=
  hsub lc (scotBreakTie_mem (fixedArith p) s tied true _ lc h)

/-- Scottish rule: the candidate excluded in a round holds less than a quota — the exclusion step is applied to the state
    `scotRound (scotElect s)`, whose hopefuls are those the election step left below the quota -/
theorem scot_excluded_below_quota (p : Nat) (s : St Int) (hwf : s.WF) (lc : Cand Int)
    (hlc : lc ∈ (scotRound (fixedArith p) (scotElect (fixedArith p) s)).hopeful) : lc.vote < s.quota := by
  have hc2 : (scotRound (fixedArith p) (scotElect (fixedArith p) s)).cands = (scotElect (fixedArith p) s).cands := by
    unfold scotRound St.setSurplus St.newRound; simp only [logAct_cands]
  have : lc ∈ (scotElect (fixedArith p) s).hopeful := by unfold St.hopeful at hlc ⊢; rw [← hc2]; exact hlc
  exact (no_hopeful_holds_quota_scot p s hwf lc this).2

/-- wigm / wigm-prf: every candidate excluded in a round (lowest candidate, zero batch or sure-loser batch) holds less than
    a quota — all three exclusion paths of `wigmAfterElect` take their candidates from the hopefuls of `wigmElect (newRound s)` -/
theorem wigm_excluded_below_quota (p : Nat) (o : WigmOpts) (s : St Int) (hwf : s.WF) (lc : Cand Int)
    (hlc : lc ∈ (wigmElect (fixedArith p) o (s.newRound (fixedArith p))).hopeful) : lc.vote < s.quota := by
  have hwf1 : (s.newRound (fixedArith p)).WF := by unfold St.newRound; exact WF_logAct (fixedArith p) (by exact hwf) _ _ _
  have := (no_hopeful_holds_quota_wigm p o (s.newRound (fixedArith p)) hwf1 lc hlc).2
  rw [quota_newRound] at this; exact this

/-- the sure losers of wigm-prf-batch are hopefuls (hence below the quota by the theorem above) -/
theorem wigm_sure_losers_hopeful (p : Nat) (o : WigmOpts) (s : St Int) :
    ∀ w ∈ wigmSure (fixedArith p) o s, w ∈ s.hopeful := by
  intro w hw
  unfold wigmSure at hw
  split at hw
  · exact batchDefeatGroups_hopeful (fixedArith p) s _ w hw
  · cases hw

end Droop.C04
