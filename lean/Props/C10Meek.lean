import DroopProofs.SplitMeek
import Props.C10Run
/-!
# C10 for the Meek family: splitting a ballot line through its multiplier (and merging identical lines) changes nothing

`meek_split` (meek, warren; cases in the printed domain: strict rankings) and `prf_split` (meek-prf; no hypothesis on the case):
replacing the `i`-th ballot line `(m, r)` by `(min m₁ m, r)` and `(m − min m₁ m, r)` gives the run of the original case with that
ballot duplicated — the same candidates, tallies, keep factors, quota, residual, actions, statuses, winners.  With `splitLine_merge`
this is the merging direction too.  With `gregory_split` and `qpq_split`: all eleven rule names.
-/
namespace Droop.C10
open Droop

theorem meek_split (p : Nat) (c : Case) (hr : c.rule = "meek" ∨ c.rule = "warren") (hok : caseOK c = true) (i m1 : Nat) :
    runRuleSt (fixedArith p) (splitLine i m1 c)
      = (runRuleSt (fixedArith p) c).map (xB (splitBallots i m1) (splitViews i)) := by
  have hk := caseOK_iff c hok
  have hm : methodOf c.rule = .meek := by rcases hr with hr | hr <;> rw [hr] <;> rfl
  have h0 := initState_minit (fixedArith p) (fixed_lawful p) c hm hk
  have h1 : runRuleSt (fixedArith p) (splitLine i m1 c)
      = runRuleSt' (fixedArith p) c (xB (splitBallots i m1) (splitViews i) (initState (fixedArith p) c)) := by
    unfold runRuleSt
    rw [runRuleSt'_splitLine, initState_splitLine (fixedArith p)]
  rw [h1]
  unfold runRuleSt
  have hx := XMeek_split (fixedArith p) (fixed_lawful p) i m1
  rw [runRuleSt'_meek _ c hr, runRuleSt'_meek _ c hr]
  exact meek_xB (fixedArith p) (fixed_lawful p) rfl hx _ _ _ h0

theorem prf_split (p : Nat) (c : Case) (hr : c.rule = "meek-prf") (i m1 : Nat) :
    runRuleSt (fixedArith p) (splitLine i m1 c)
      = (runRuleSt (fixedArith p) c).map (xB (splitBallots i m1) (splitViews i)) := by
  have h1 : runRuleSt (fixedArith p) (splitLine i m1 c)
      = runRuleSt' (fixedArith p) c (xB (splitBallots i m1) (splitViews i) (initState (fixedArith p) c)) := by
    unfold runRuleSt
    rw [runRuleSt'_splitLine, initState_splitLine (fixedArith p)]
  rw [h1]
  unfold runRuleSt
  rw [runRuleSt'_prf _ c hr, runRuleSt'_prf _ c hr]
  exact prf_xB (fixedArith p) (XPrf_split (fixedArith p) (fixed_lawful p) i m1) _ _

end Droop.C10
