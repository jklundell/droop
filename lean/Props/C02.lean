import DroopModel
import DroopProofs
/-!
# C02 / C06 — votes are conserved; tallies equal ballot values (all seven Gregory rule names)

`Inv A s` (DroopProofs/Inv.lean) bundles, for a counting state `s`: distinct candidate ids, ballots that name existing
candidates, non-negative weights, tallies and non-transferable total, a positive quota, **I1** (every hopeful or
transfer-pending candidate's tally is the value of the ballots standing to their credit), pending candidates hold a quota,
**conservation** (Σ tallies + non-transferable ≤ ballots) and `recOK`: every snapshot logged so far satisfies the same
bound with nothing negative. The theorems say the bundle holds at the end of every count — hence in every snapshot of
the record — for every input that `Election.__init__` can hand over (`Init`), for

* `wigm`, `wigm-prf`, `wigm-prf-batch` (any lawful arithmetic; `defeat_batch=zero` excepted: `_partial`),
* `scotland`, `cfer`, `cfer-batch`, `mpls` (their fixed-point arithmetic).

The Boolean form `recUpperB … = true` is the upper half of the predicate `okC02Gregory` that the driver evaluates on the
implementation's record.
-/
namespace Droop.C02
open Droop
variable {α : Type} [CommRing α] [LinearOrder α] [IsStrictOrderedRing α] (A : Arith α)

theorem wigm_family_partial (hA : LawfulArith A) (o : WigmOpts) (hz : o.batchZero = false) (hex : o.prf = true → A.exact = false)
    (s0 t : St α) (h0 : Init A s0) (hq : 0 < wigmQuota A o s0) (h : wigmCount A o s0 = some t) :
    Inv A (t.logAct A "end" "Count Complete" []) :=
  wigm_conservation' A hA o hz hex s0 t h0 hq h

theorem scotland (hA : LawfulArith A) (hex : A.exact = false) (s0 t : St α) (h0 : Init A s0)
    (hq : 0 < A.ofInt (pdiv s0.nballots (s0.seats + 1) + 1)) (h : scotCount A s0 = some t) :
    Inv A (t.logAct A "end" "Count Complete" []) :=
  scot_conservation A hA hex s0 t h0 hq h

theorem cfer (hA : LawfulArith A) (hex : A.exact = false) (batch : Bool) (s0 t : St α) (h0 : Init A s0)
    (hq : 0 < A.add (A.divV (A.ofInt s0.nballots) (A.ofInt (s0.seats + 1))) A.eps) (h : cferCount A batch s0 = some t) :
    Inv A (t.logAct A "end" "Count Complete" []) :=
  cfer_conservation A hA hex batch s0 t h0 hq h

theorem mpls (hA : LawfulArith A) (hex : A.exact = false) (s0 t : St α) (h0 : Init A s0)
    (hq : 0 < A.ofInt (pdiv s0.nballots (s0.seats + 1) + 1)) (h : mplsCount A s0 = some t) :
    Inv A (t.logAct A "end" "Count Complete" []) :=
  mpls_conservation A hA hex s0 t h0 hq h

/-- the executable upper-bound check is `true` on the record of a state that satisfies the bundle -/
theorem upper_check_of_inv (hA : LawfulArith A) (hR : LawfulRaw A) (s : St α) (h : Inv A s) :
    recUpperB A s.nballots s.acts = true :=
  recUpperB_of_recOK A hA hR s h.recOK

/-- the integer Droop quota `⌊n/(s+1)⌋ + 1` is at least one vote -/
theorem integer_quota_ge_one (p n seats : Nat) : pow10 p ≤ (fixedArith p).ofInt (pdiv n (seats + 1) + 1) := by
  have hS := pow10_pos p
  have : 0 ≤ pdiv (n : Int) ((seats : Int) + 1) := pdiv_nonneg _ _ (by positivity) (by positivity)
  show pow10 p ≤ (pdiv (n : Int) ((seats : Int) + 1) + 1) * pow10 p
  nlinarith

theorem integer_quota_pos (p n seats : Nat) : 0 < (fixedArith p).ofInt (pdiv n (seats + 1) + 1) :=
  lt_of_lt_of_le (pow10_pos p) (integer_quota_ge_one p n seats)

/-- under fixed-point arithmetic the bundle gives the executable check on the record -/
theorem inv_and_check (p : Nat) (s : St Int) (h : Inv (fixedArith p) s) :
    Inv (fixedArith p) s ∧ recUpperB (fixedArith p) s.nballots s.acts = true :=
  ⟨h, upper_check_of_inv _ (fixed_lawful p) (fixed_lawfulRaw p) _ h⟩

theorem scotland_fixed (p : Nat) (s0 t : St Int) (h0 : Init (fixedArith p) s0) (h : scotCount (fixedArith p) s0 = some t) :
    Inv (fixedArith p) (t.logAct (fixedArith p) "end" "Count Complete" [])
    ∧ recUpperB (fixedArith p) (t.logAct (fixedArith p) "end" "Count Complete" []).nballots
        (t.logAct (fixedArith p) "end" "Count Complete" []).acts = true := by
  exact inv_and_check p _ (scot_conservation (fixedArith p) (fixed_lawful p) rfl s0 t h0 (integer_quota_pos p _ _) h)

theorem mpls_fixed (p : Nat) (s0 t : St Int) (h0 : Init (fixedArith p) s0) (h : mplsCount (fixedArith p) s0 = some t) :
    Inv (fixedArith p) (t.logAct (fixedArith p) "end" "Count Complete" [])
    ∧ recUpperB (fixedArith p) (t.logAct (fixedArith p) "end" "Count Complete" []).nballots
        (t.logAct (fixedArith p) "end" "Count Complete" []).acts = true := by
  exact inv_and_check p _ (mpls_conservation (fixedArith p) (fixed_lawful p) rfl s0 t h0 (integer_quota_pos p _ _) h)

theorem fixed_quota_pos (p n seats : Nat) :
    0 < (fixedArith p).add ((fixedArith p).divV ((fixedArith p).ofInt n) ((fixedArith p).ofInt (seats + 1))) (fixedArith p).eps := by
  have hS := pow10_pos p
  have hk : (0 : Int) < ((seats : Int) + 1) * pow10 p := by positivity
  have hk0 : ((((seats : Int) + 1) * pow10 p) == 0) = false := by simpa using (ne_of_gt hk)
  show 0 < (if (((seats : Int) + 1) * pow10 p == 0) = true then 0 else pdiv ((n : Int) * pow10 p * pow10 p) (((seats : Int) + 1) * pow10 p)) + 1
  simp only [hk0, Bool.false_eq_true, if_false]
  have : 0 ≤ pdiv ((n : Int) * pow10 p * pow10 p) (((seats : Int) + 1) * pow10 p) := pdiv_nonneg _ _ (by positivity) hk
  omega

theorem cfer_fixed (p : Nat) (batch : Bool) (s0 t : St Int) (h0 : Init (fixedArith p) s0) (h : cferCount (fixedArith p) batch s0 = some t) :
    Inv (fixedArith p) (t.logAct (fixedArith p) "end" "Count Complete" [])
    ∧ recUpperB (fixedArith p) (t.logAct (fixedArith p) "end" "Count Complete" []).nballots
        (t.logAct (fixedArith p) "end" "Count Complete" []).acts = true := by
  exact inv_and_check p _ (cfer_conservation (fixedArith p) (fixed_lawful p) rfl batch s0 t h0 (fixed_quota_pos p _ _) h)

theorem wigm_prf_fixed (p : Nat) (batch : Bool) (s0 t : St Int) (h0 : Init (fixedArith p) s0)
    (h : wigmCount (fixedArith p) { prf := true, prfBatch := batch } s0 = some t) :
    Inv (fixedArith p) (t.logAct (fixedArith p) "end" "Count Complete" [])
    ∧ recUpperB (fixedArith p) (t.logAct (fixedArith p) "end" "Count Complete" []).nballots
        (t.logAct (fixedArith p) "end" "Count Complete" []).acts = true := by
  have hq : 0 < wigmQuota (fixedArith p) { prf := true, prfBatch := batch } s0 := by
    unfold wigmQuota; simp only [if_true]; exact fixed_quota_pos p _ _
  exact inv_and_check p _
    (wigm_conservation' (fixedArith p) (fixed_lawful p) { prf := true, prfBatch := batch } rfl (fun _ => rfl) s0 t h0 hq h)

end Droop.C02

namespace Droop.C02
open Droop

/-- non-vacuity: a concrete state that `Election.__init__` hands over (two candidates, two ballot lines) meets `Init` -/
def tiny : St Int :=
  { method := Method.wigm
    seats := 1
    nballots := 3
    cands := [{ cid := 1, order := 1, tie := 1, undeclared := false, st := .hopeful, pending := false, vote := 0, kf := none, quotient := none, tc := 0 },
              { cid := 2, order := 2, tie := 2, undeclared := false, st := .hopeful, pending := false, vote := 0, kf := none, quotient := none, tc := 0 }]
    ballots := [{ mult := 2, rank := [1, 2], idx := 0, w := 10000, residual := 0 }, { mult := 1, rank := [2], idx := 0, w := 10000, residual := 0 }]
    ballotsEq := []
    quota := 0
    surplus := 0
    votes := 0
    exhausted := 0
    residual := 0
    round := 0
    rounds := []
    acts := []
    crash := none }

theorem tiny_init : Init (fixedArith 4) tiny :=
  { meth := rfl, noActs := rfl
    wf := by unfold St.WF; decide
    bwf := by intro b hb cid hc; simp [tiny] at hb; rcases hb with rfl | rfl <;> simp at hc <;> (try rcases hc with rfl | rfl) <;> decide
    votes0 := by intro c hc; simp [tiny] at hc; rcases hc with rfl | rfl <;> rfl
    noPending := by intro c hc; simp [tiny] at hc; rcases hc with rfl | rfl <;> rfl
    ballots0 := by intro b hb; simp [tiny] at hb; rcases hb with rfl | rfl <;> exact ⟨rfl, rfl, by simp⟩
    nb := by simp [tiny] }

/-- non-vacuity: the Scottish count of `tiny` returns -/
example : (scotCount (fixedArith 4) tiny).isSome = true := by decide

end Droop.C02
