import Props.C18
/-!
# C18 / C11: what is logged when a candidate is added, as read from the source

`harness/gen_addlog.py` reads the `if / elif / else` chain at the end of `Candidates.add` — (test, message format) in order — kernel-checked equal
to `addLogTable` on every C18 run.  `withAddLogs_is_table`: the model's `withAddLogs` puts exactly one `log` line per candidate in front of the
record, in candidate order, with the verb the chain selects (withdrawn first, then undeclared, else eligible), and touches nothing else.
-/
namespace Droop.C18
open Droop

def addLogTable : List (String × String) :=
  [("c.state == 'withdrawn'", "Add withdrawn: %s"), ("c.isUndeclared", "Add undeclared: %s"), ("else", "Add eligible: %s")]

variable {α : Type}

/-- the verb the chain selects for one candidate (the format string without its `: %s` tail, as the model records verb and subject apart) -/
def addVerb (c : Cand α) : String :=
  if c.st == .withdrawn then "Add withdrawn" else if c.undeclared then "Add undeclared" else "Add eligible"

/-- the table's formats are the three verbs followed by the candidate's name -/
theorem addLogTable_verbs : addLogTable.map (·.2) = ["Add withdrawn", "Add undeclared", "Add eligible"].map (· ++ ": %s") := by decide

theorem withAddLogs_is_table (s : St α) :
    withAddLogs s = s.cands.foldl (fun acc c => acc.logMsg (addVerb c) [c.cid]) s := rfl

/-- a run of `log` lines, one per candidate: only the record grows, by one line each -/
theorem foldl_logMsg (verb : Cand α → String) (l : List (Cand α)) (t : St α) :
    (l.foldl (fun acc c => acc.logMsg (verb c) [c.cid]) t).cands = t.cands
    ∧ (l.foldl (fun acc c => acc.logMsg (verb c) [c.cid]) t).ballots = t.ballots
    ∧ (l.foldl (fun acc c => acc.logMsg (verb c) [c.cid]) t).quota = t.quota
    ∧ (l.foldl (fun acc c => acc.logMsg (verb c) [c.cid]) t).round = t.round
    ∧ (l.foldl (fun acc c => acc.logMsg (verb c) [c.cid]) t).acts.length = t.acts.length + l.length := by
  induction l generalizing t with
  | nil => exact ⟨rfl, rfl, rfl, rfl, rfl⟩
  | cons c cs ih =>
    obtain ⟨h1, h2, h3, h4, h5⟩ := ih (t.logMsg (verb c) [c.cid])
    refine ⟨h1, h2, h3, h4, ?_⟩
    rw [List.foldl_cons, h5]
    show (_ :: t.acts).length + cs.length = _
    simp only [List.length_cons]
    omega

/-- only the record grows: candidates, ballots and figures are untouched by the add-log lines -/
theorem withAddLogs_frame (s : St α) :
    (withAddLogs s).cands = s.cands ∧ (withAddLogs s).ballots = s.ballots ∧ (withAddLogs s).quota = s.quota ∧ (withAddLogs s).round = s.round := by
  obtain ⟨h1, h2, h3, h4, -⟩ := foldl_logMsg addVerb s.cands s
  exact ⟨h1, h2, h3, h4⟩

/-- one line per candidate -/
theorem withAddLogs_length (s : St α) : (withAddLogs s).acts.length = s.acts.length + s.cands.length :=
  (foldl_logMsg addVerb s.cands s).2.2.2.2

end Droop.C18
