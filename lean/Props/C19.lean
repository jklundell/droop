import DroopModel
import DroopProofs
/-!
# C19 — an interrupted count can always be reported, as a prefix of the full count

The record is append-only (`wigmCount_appendOnly`), so the action list at the interrupt is a prefix in time of the finished one.
The renderers also need the record *header*, which `ElectionRecord._fill` writes key by key when the first `begin`/`count`/`round`
action is recorded. The state machine below is that header: a count is a sequence of header-key writes and action appends, and an
interrupt may fall after any prefix. `Election._interrupted` completes the header before rendering (repo commit "fix: election: an
interrupted count can be reported ..."), so every key a renderer reads is present after every prefix; `interruptedOld` is the method
before that commit, for which this fails already at the empty prefix (finding F1, kept as an `example`).
-/
namespace Droop.C19
open Droop

/-- the header keys `ElectionRecord._fill` assigns, in program order -/
def headerKeys : List String := headerKeysModel

/-- keys read by report() / dump() / json() -/
def reportNeeds : List String := ["title", "droop_name", "droop_version", "rule_info", "arithmetic_info", "seats", "nballots", "quota", "cids", "cdict"]
def dumpNeeds : List String := ["ecids", "cdict"]

structure Rec where
  keys : List String := []
  filled : Bool := false
  actions : Nat := 0           -- number of actions appended so far
  intrLogged : Bool := false
deriving Repr

inductive Ev | setKey (k : String) | setFilled | append
deriving Repr

def step (r : Rec) : Ev → Rec
  | .setKey k => { r with keys := k :: r.keys }
  | .setFilled => { r with filled := true }
  | .append => { r with actions := r.actions + 1 }

def run (r : Rec) (es : List Ev) : Rec := es.foldl step r

/-- the events of `_fill` -/
def fillEvents : List Ev := headerKeys.map Ev.setKey ++ [Ev.setFilled]

/-- `Election._interrupted()`: complete the header if it is not marked filled, then log the interruption once -/
def interrupted (r : Rec) : Rec :=
  let r1 := if r.filled then r else run r fillEvents
  if r1.intrLogged then r1 else { r1 with actions := r1.actions + 1, intrLogged := true }

/-- `_interrupted()` before the fix commit: only the log line -/
def interruptedOld (r : Rec) : Rec :=
  if r.intrLogged then r else { r with actions := r.actions + 1, intrLogged := true }

def canRender (needs : List String) (r : Rec) : Bool := needs.all (fun k => r.keys.contains k)

theorem run_keys_superset (r : Rec) (es : List Ev) : ∀ k ∈ r.keys, k ∈ (run r es).keys := by
  induction es generalizing r with
  | nil => intro k hk; exact hk
  | cons e es ih =>
    intro k hk
    unfold run; simp only [List.foldl_cons]
    apply ih
    cases e <;> simp [step, hk]

theorem run_append (r : Rec) (a b : List Ev) : run r (a ++ b) = run (run r a) b := by
  unfold run; rw [List.foldl_append]

theorem setKeys_has_keys (ks : List String) (r : Rec) : ∀ k ∈ ks, k ∈ (run r (ks.map Ev.setKey)).keys := by
  induction ks generalizing r with
  | nil => intro k hk; cases hk
  | cons x xs ih =>
    intro k hk
    simp only [List.map_cons, run, List.foldl_cons]
    rcases List.mem_cons.1 hk with rfl | h
    · exact run_keys_superset _ _ _ (by simp [step])
    · exact ih _ k h

theorem fill_has_all_keys (r : Rec) : ∀ k ∈ headerKeys, k ∈ (run r fillEvents).keys := by
  intro k hk
  unfold fillEvents
  rw [run_append]
  exact run_keys_superset _ _ _ (setKeys_has_keys headerKeys r k hk)

/-- only `setFilled` marks the record filled -/
theorem run_filled (l : List Ev) (r : Rec) (hne : ∀ e ∈ l, e ≠ Ev.setFilled) : (run r l).filled = r.filled := by
  induction l generalizing r with
  | nil => rfl
  | cons e l ih =>
    simp only [run, List.foldl_cons]
    rw [show List.foldl step (step r e) l = run (step r e) l from rfl, ih _ (fun e' he' => hne e' (by simp [he']))]
    cases e with
    | setFilled => exact absurd rfl (hne _ (by simp))
    | _ => rfl

/-- the invariant of a count: the record is marked filled only after every header key has been written -/
def FilledMeansComplete (r : Rec) : Prop := r.filled = true → ∀ k ∈ headerKeys, k ∈ r.keys

/-- after any interruption point every header key is present -/
theorem interrupted_has_header (r : Rec) (hinv : FilledMeansComplete r) : ∀ k ∈ headerKeys, k ∈ (interrupted r).keys := by
  intro k hk
  unfold interrupted
  by_cases hf : r.filled = true
  · simp only [hf, if_true]
    split <;> exact hinv hf k hk
  · simp only [hf, if_false, Bool.false_eq_true]
    split <;> exact fill_has_all_keys r k hk

theorem needs_subset : (∀ k ∈ reportNeeds, k ∈ headerKeys) ∧ (∀ k ∈ dumpNeeds, k ∈ headerKeys) := by
  constructor <;> decide

/-- **report(), dump() and json() find every key they read** -/
theorem interrupted_can_render (r : Rec) (hinv : FilledMeansComplete r) :
    canRender reportNeeds (interrupted r) = true ∧ canRender dumpNeeds (interrupted r) = true := by
  have h := interrupted_has_header r hinv
  constructor
  · unfold canRender; rw [List.all_eq_true]
    intro k hk; simpa using h k (needs_subset.1 k hk)
  · unfold canRender; rw [List.all_eq_true]
    intro k hk; simpa using h k (needs_subset.2 k hk)

/-- the invariant holds at every point of every count: `_fill` sets `filled` last -/
theorem prefix_invariant (pre : List Ev) (es : List Ev)
    (hcount : ∃ a b, es = a ++ fillEvents ++ b ∧ (∀ e ∈ a, e = Ev.append) ∧ (∀ e ∈ b, e = Ev.append))
    (hpre : pre <+: es) : FilledMeansComplete (run {} pre) := by
  obtain ⟨a, b, rfl, ha, -⟩ := hcount
  intro hfilled k hk
  -- `pre` and "everything up to the last header key" are prefixes of the same list: one is a prefix of the other
  have hK : a ++ headerKeys.map Ev.setKey <+: a ++ fillEvents ++ b := ⟨Ev.setFilled :: b, by simp [fillEvents]⟩
  rcases List.prefix_or_prefix_of_prefix hpre hK with ⟨u, hu⟩ | ⟨u, rfl⟩
  · -- `pre` stops before `setFilled`: the record is not marked filled
    have hno : ∀ e ∈ pre, e ≠ Ev.setFilled := by
      intro e he
      have : e ∈ a ++ headerKeys.map Ev.setKey := hu ▸ List.mem_append_left u he
      rcases List.mem_append.1 this with h | h
      · rw [ha e h]; exact Ev.noConfusion
      · obtain ⟨k', -, rfl⟩ := List.mem_map.1 h
        exact Ev.noConfusion
    rw [run_filled pre {} hno] at hfilled
    cases hfilled
  · -- `pre` contains every `setKey`
    rw [run_append, run_append]
    exact run_keys_superset _ _ _ (setKeys_has_keys headerKeys _ k hk)

/-- finding F1: interrupted before the first action, `interruptedOld` has no header to render -/
example : canRender reportNeeds (interruptedOld {}) = false := by decide
example : canRender dumpNeeds (interruptedOld (run {} [Ev.setKey "title", Ev.setKey "droop_name"])) = false := by decide
/-- `interrupted` renders at those same points -/
example : canRender reportNeeds (interrupted {}) = true := by decide
example : canRender dumpNeeds (interrupted (run {} [Ev.setKey "title", Ev.setKey "droop_name"])) = true := by decide

/-- the record only grows: the state reached by the whole count extends every earlier state (`Ext` = the earlier action
    list is a suffix of the later one, newest first) -/
theorem record_append_only {α : Type} (A : Arith α) (o : WigmOpts) (s0 t : St α) (h : wigmCount A o s0 = some t) : Ext s0 t :=
  wigmCount_appendOnly A o s0 t h

end Droop.C19
