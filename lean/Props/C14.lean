import DroopModel
import DroopProofs
/-!
# C14 — printed numbers are the stored values, rounded half-up to the display precision

The model of `__str__` has two layers (DroopModel/Str.lean): *display units* — the value as an integer count of
10^-d — and their rendering as `sign, integer part, '.', d zero-padded fraction digits`. The theorems say that the
display units are `⌊x·10^d + 1/2⌋` for the exact value `x` (round half up, every sign), and that the rendering shows
exactly those units: integer part and fraction digits recombine to the magnitude, the fraction fits in `d` digits,
and the sign is shown iff the rounded value is negative. `str` is a pure function of the value in the model;
on the implementation purity is checked by the correspondence run.
-/
namespace Droop.C14
open Droop

theorem pow10_add (a b : Nat) : pow10 (a + b) = pow10 a * pow10 b := by unfold pow10; exact pow_add 10 a b

theorem pow10_even (n : Nat) (hn : 0 < n) : pow10 n / 2 * 2 = pow10 n := by
  obtain ⟨m, rfl⟩ : ∃ m, n = m + 1 := ⟨n - 1, by omega⟩
  unfold pow10
  rw [pow_succ]
  have : (10 : Int) ^ m * 10 = (10 ^ m * 5) * 2 := by ring
  rw [this, Int.mul_ediv_cancel _ (by norm_num)]

/-- `(v + 10^k/2) // 10^k = ⌊v/10^k + 1/2⌋` for every integer `v` (k ≥ 1: 10^k is even) -/
theorem roundUnits_spec (P d : Nat) (hd : d < P) (v : Int) :
    roundUnits P d v = ⌊(v : ℚ) / (pow10 P : ℚ) * (pow10 d : ℚ) + 1 / 2⌋ := by
  have hk : 0 < P - d := by omega
  have hK := pow10_pos (P - d)
  have hKne : pow10 (P - d) ≠ 0 := ne_of_gt hK
  unfold roundUnits
  rw [pdiv_eq_floor _ _ hKne]
  congr 1
  have hsplit : pow10 P = pow10 d * pow10 (P - d) := by rw [← pow10_add]; congr 1; omega
  have hD : (pow10 d : ℚ) ≠ 0 := by exact_mod_cast ne_of_gt (pow10_pos d)
  have hKq : (pow10 (P - d) : ℚ) ≠ 0 := by exact_mod_cast hKne
  have he := pow10_even (P - d) hk
  have heq : ((pow10 (P - d) / 2 : Int) : ℚ) = (pow10 (P - d) : ℚ) / 2 := by
    have : ((pow10 (P - d) / 2 * 2 : Int) : ℚ) = (pow10 (P - d) : ℚ) := by exact_mod_cast he
    push_cast at this
    linarith
  rw [hsplit]
  push_cast
  rw [heq]
  field_simp

/-- **Fixed**: the display units are the exact value rounded half-up to `d` places (`d ≤ p` after `initialize`) -/
theorem fixed_units_round_half_up (p d : Nat) (hd : d ≤ p) (v : Int) :
    fixedUnits p d v = ⌊(v : ℚ) / (pow10 p : ℚ) * (pow10 d : ℚ) + 1 / 2⌋ := by
  unfold fixedUnits
  by_cases h : d < p
  · simp only [h, if_true]; exact roundUnits_spec p d h v
  · have hpd : d = p := by omega
    simp only [h, if_false]
    subst hpd
    have hD : (pow10 d : ℚ) ≠ 0 := by exact_mod_cast ne_of_gt (pow10_pos d)
    have : (v : ℚ) / (pow10 d : ℚ) * (pow10 d : ℚ) + 1 / 2 = ((v : Int) : ℚ) + 1 / 2 := by field_simp
    rw [this]
    symm
    rw [Int.floor_eq_iff]
    constructor <;> norm_num

/-- **Guarded**: the display units are the exact value (stored with p+g digits) rounded half-up to `d < p+g` places -/
theorem guarded_units_round_half_up (p g d : Nat) (hd : d < g + p) (v : Int) :
    guardedUnits p g d v = ⌊(v : ℚ) / (pow10 (g + p) : ℚ) * (pow10 d : ℚ) + 1 / 2⌋ :=
  roundUnits_spec (g + p) d hd v

/-- **Rational**: the display units are `⌊q·10^d + 1/2⌋` -/
theorem rational_units_round_half_up (dp : Nat) (q : ℚ) :
    rationalUnits dp q = ⌊q * (pow10 dp : ℚ) + 1 / 2⌋ := by
  have hD : (pow10 dp : ℚ) ≠ 0 := by exact_mod_cast ne_of_gt (pow10_pos dp)
  unfold rationalUnits
  by_cases h : (q.num == 0 || q.den == 1) = true
  · simp only [h, if_true]
    -- q is an integer: q = q.num
    have hq : q = (q.num : ℚ) := by
      rw [Bool.or_eq_true] at h
      rcases h with h0 | h1
      · have : q.num = 0 := by simpa using h0
        have hz : q = 0 := Rat.zero_of_num_zero this
        rw [hz]; simp
      · have : q.den = 1 := by simpa using h1
        exact (Rat.den_eq_one_iff q).1 this |>.symm
    symm
    rw [Int.floor_eq_iff]
    constructor
    · rw [hq]; push_cast; rw [Rat.num_intCast]; linarith
    · rw [hq]; push_cast; rw [Rat.num_intCast]; linarith
  · simp only [h]
    show ⌊(q + (1 : ℚ) / ((pow10 dp * 2 : Int) : ℚ)) * (pow10 dp : ℚ)⌋ = _
    congr 1
    push_cast
    field_simp

/-- the rendering shows exactly the display units: integer part · 10^d + fraction = |units|, fraction < 10^d -/
theorem render_recombines (d : Nat) (u : Int) :
    pdiv u.natAbs (pow10 d) * pow10 d + pmod u.natAbs (pow10 d) = (u.natAbs : Int)
    ∧ 0 ≤ pmod u.natAbs (pow10 d) ∧ pmod u.natAbs (pow10 d) < pow10 d ∧ 0 ≤ pdiv u.natAbs (pow10 d) := by
  have hD := pow10_pos d
  have hb := fmod_bounds_pos (u.natAbs : Int) hD
  refine ⟨?_, hb.1, hb.2, ?_⟩
  · unfold pdiv pmod
    have := Int.mul_fdiv_add_fmod (u.natAbs : Int) (pow10 d)
    linarith [mul_comm (pow10 d) ((u.natAbs : Int).fdiv (pow10 d))]
  · exact pdiv_nonneg _ _ (by positivity) hD

theorem render_shape (d : Nat) (u : Int) :
    renderUnits d u = (if u < 0 then "-" else "") ++ (toString (pdiv u.natAbs (pow10 d)) ++ "." ++
      zpad d (pmod u.natAbs (pow10 d)).toNat) := rfl

/-- non-vacuity / regression of finding F5: minus one half at four places -/
example : strFixed 4 4 (-5000) = "-0.5000" := by decide
example : strFixed 4 2 (-50) = "0.00" := by decide      -- -0.0050 rounds half-up to 0.00
example : strFixed 4 2 (-51) = "-0.01" := by decide
example : strGuarded 2 2 3 12345 = "1.23_5" := by decide

end Droop.C14
