import Props.C14
/-!
# C14: `Fixed.__str__` and `Guarded.__str__`, obtained from the source by symbolic execution

`harness/gen_str.py` executes the two `__str__` bodies symbolically, forking at every `if`, and emits a decision tree whose tests
compare integer terms over `self._value` and the class attributes and whose leaves are the returned string terms; the kernel checks
the trees equal to the ones committed here on every C14 run.  This file proves that the committed trees, evaluated with the class
attributes `initialize` assigns for a configuration (`fixedEnv p d`, `guardedEnv p g d`), are the model's `strFixed` / `strGuarded`
(DroopModel/Str.lean) — the functions the theorems of Props/C14.lean are about.

`Rational.__str__` has its own executor and file: harness/gen_rstr.py, Props/C14Rat.lean.
The format strings (`"%d.%0<w>d"`, `"%d.%0<p>d_%0<g>d"`) are built by `initialize`; their field widths are compared with the model by
the `SESSION` correspondence of C20; here they are `Env.w1`, `Env.w2`.
-/
namespace Droop.C14
open Droop

inductive At | prec | disp | scaled | scaledd | scaledr | scaledg
deriving DecidableEq, Repr

/-- integer terms over `self._value` (`v`) and the class attributes -/
inductive IE
  | v | cls (a : At) | lit (n : Int)
  | add (x y : IE) | sub (x y : IE) | neg (x : IE) | floordiv (x y : IE) | mod (x y : IE)
deriving DecidableEq, Repr

/-- string terms: `str(e)`, a literal, `+`, `__dfmt % (a, b)`, `__dfmt % (a, b, c)` -/
inductive SE
  | str (e : IE) | lit (s : String) | cat (a b : SE) | fmt2 (a b : IE) | fmt3 (a b c : IE)
deriving DecidableEq, Repr

inductive BE
  | lt (a b : IE) | le (a b : IE) | gt (a b : IE) | ge (a b : IE) | eq (a b : IE) | ne (a b : IE)
deriving DecidableEq, Repr

inductive SP
  | ret (s : SE) | ite (c : BE) (t e : SP)
deriving DecidableEq, Repr

/-- the class attributes as `initialize` leaves them, and the field widths of `__dfmt` -/
structure Env where
  attr : At → Int
  w1 : Nat
  w2 : Nat

def IE.eval (E : Env) (v : Int) : IE → Int
  | .v => v | .cls a => E.attr a | .lit n => n
  | .add x y => x.eval E v + y.eval E v
  | .sub x y => x.eval E v - y.eval E v
  | .neg x => - x.eval E v
  | .floordiv x y => pdiv (x.eval E v) (y.eval E v)
  | .mod x y => pmod (x.eval E v) (y.eval E v)

/-- Python `"%d.%0Pd_%0Gd" % (a, b, c)` -/
def fmt3 (w1 w2 : Nat) (a b c : Int) : String :=
  toString a ++ "." ++ zpad w1 b.toNat ++ "_" ++ zpad w2 c.toNat

def SE.eval (E : Env) (v : Int) : SE → String
  | .str e => toString (e.eval E v)
  | .lit s => s
  | .cat a b => a.eval E v ++ b.eval E v
  | .fmt2 a b => Droop.fmt2 E.w1 (a.eval E v) (b.eval E v)
  | .fmt3 a b c => Droop.C14.fmt3 E.w1 E.w2 (a.eval E v) (b.eval E v) (c.eval E v)

def BE.eval (E : Env) (v : Int) : BE → Bool
  | .lt a b => decide (a.eval E v < b.eval E v)
  | .le a b => decide (a.eval E v ≤ b.eval E v)
  | .gt a b => decide (a.eval E v > b.eval E v)
  | .ge a b => decide (a.eval E v ≥ b.eval E v)
  | .eq a b => decide (a.eval E v = b.eval E v)
  | .ne a b => decide (a.eval E v ≠ b.eval E v)

def SP.eval (E : Env) (v : Int) : SP → String
  | .ret s => s.eval E v
  | .ite c t e => if c.eval E v then t.eval E v else e.eval E v

/-! ## the committed trees (the generated ones are compared with these) -/

/-- `(v + __scaledr) // __scaledd` -/
def U : IE := .floordiv (.add .v (.cls .scaledr)) (.cls .scaledd)

def two (u : IE) : SE := .fmt2 (.floordiv u (.cls .scaled)) (.mod u (.cls .scaled))
def three (u : IE) : SE :=
  .fmt3 (.floordiv u (.cls .scaled)) (.floordiv (.mod u (.cls .scaled)) (.cls .scaledg)) (.mod (.mod u (.cls .scaled)) (.cls .scaledg))

def fixedStrProg : SP :=
  .ite (.eq (.cls .prec) (.lit 0)) (.ret (.str .v))
    (.ite (.lt (.cls .disp) (.cls .prec))
      (.ite (.lt U (.lit 0)) (.ret (.cat (.lit "-") (two (.neg U)))) (.ret (two U)))
      (.ite (.lt .v (.lit 0)) (.ret (.cat (.lit "-") (two (.neg .v)))) (.ret (two .v))))

def guardedStrProg : SP :=
  .ite (.lt U (.lit 0))
    (.ite (.le (.cls .disp) (.cls .prec)) (.ret (.cat (.lit "-") (two (.neg U)))) (.ret (.cat (.lit "-") (three (.neg U)))))
    (.ite (.le (.cls .disp) (.cls .prec)) (.ret (.cat (.lit "") (two U))) (.ret (.cat (.lit "") (three U))))

/-- Fixed with `precision = p`, `display = d ≤ p` (DroopModel/Session.lean `fixedTrace`: `__scaled = 10^d`, `__scaledd = 10^(p-d)`,
    `__scaledr = __scaledd // 2`, `__dfmt = "%d.%0<d>d"`) -/
def fixedEnv (p d : Nat) : Env where
  attr := fun
    | .prec => p | .disp => d | .scaled => pow10 d | .scaledd => pow10 (p - d) | .scaledr => pow10 (p - d) / 2 | .scaledg => 0
  w1 := d
  w2 := 0

/-- Guarded with `precision = p`, `guard = g`, `display = d ≤ p + g` (`guardedTail`) -/
def guardedEnv (p g d : Nat) : Env where
  attr := fun
    | .prec => p | .disp => d | .scaled => pow10 d | .scaledd => pow10 (g + p - d) | .scaledr => pow10 (g + p - d) / 2
    | .scaledg => pow10 (d - p)
  w1 := if d ≤ p then d else p
  w2 := d - p

theorem natAbs_neg' (u : Int) (h : u < 0) : ((u.natAbs : Nat) : Int) = -u := by omega
theorem natAbs_nonneg' (u : Int) (h : ¬ u < 0) : ((u.natAbs : Nat) : Int) = u := by omega

theorem renderUnits_neg (d : Nat) (u : Int) (h : u < 0) :
    renderUnits d u = "-" ++ fmt2 d (pdiv (-u) (pow10 d)) (pmod (-u) (pow10 d)) := by
  unfold renderUnits signStr
  rw [if_pos h, natAbs_neg' u h]

theorem renderUnits_nonneg (d : Nat) (u : Int) (h : ¬ u < 0) :
    renderUnits d u = fmt2 d (pdiv u (pow10 d)) (pmod u (pow10 d)) := by
  unfold renderUnits signStr
  rw [if_neg h, natAbs_nonneg' u h]
  exact String.empty_append

/-- **Fixed.__str__** as read from the source is the model's `strFixed`, for every configuration `initialize` can leave and every value -/
theorem fixed_str_is_program (p d : Nat) (v : Int) : fixedStrProg.eval (fixedEnv p d) v = strFixed p d v := by
  unfold strFixed
  by_cases hp : p = 0
  · subst hp
    simp [fixedStrProg, SP.eval, BE.eval, IE.eval, SE.eval, fixedEnv]
  · have hp' : ¬ ((p : Int) = 0) := by exact_mod_cast hp
    have hpb : (p == 0) = false := by simpa using hp
    simp only [fixedStrProg, SP.eval, BE.eval, IE.eval, fixedEnv, hp', decide_false, Bool.false_eq_true, if_false, hpb]
    unfold fixedUnits roundUnits
    by_cases hd : d < p
    · have hd' : (d : Int) < p := by exact_mod_cast hd
      simp only [hd', decide_true, if_true, hd, U, IE.eval]
      by_cases hu : pdiv (v + pow10 (p - d) / 2) (pow10 (p - d)) < 0
      · simp only [hu, decide_true, if_true, SE.eval, two, IE.eval]
        rw [renderUnits_neg _ _ hu]
      · simp only [hu, decide_false, Bool.false_eq_true, if_false, SE.eval, two, IE.eval]
        rw [renderUnits_nonneg _ _ hu]
    · have hd' : ¬ ((d : Int) < p) := by exact_mod_cast hd
      simp only [hd', decide_false, Bool.false_eq_true, if_false, hd]
      by_cases hu : v < 0
      · simp only [hu, decide_true, if_true, SE.eval, two, IE.eval]
        rw [renderUnits_neg _ _ hu]
      · simp only [hu, decide_false, Bool.false_eq_true, if_false, SE.eval, two, IE.eval]
        rw [renderUnits_nonneg _ _ hu]

/-- **Guarded.__str__** as read from the source is the model's `strGuarded` -/
theorem guarded_str_is_program (p g d : Nat) (v : Int) : guardedStrProg.eval (guardedEnv p g d) v = strGuarded p g d v := by
  unfold strGuarded guardedUnits roundUnits
  simp only [guardedStrProg, SP.eval, BE.eval, IE.eval, guardedEnv, U]
  by_cases hu : pdiv (v + pow10 (g + p - d) / 2) (pow10 (g + p - d)) < 0
  · simp only [hu, decide_true, if_true]
    by_cases hd : d ≤ p
    · have hd' : (d : Int) ≤ p := by exact_mod_cast hd
      simp only [hd', decide_true, if_true, hd, SE.eval, two, IE.eval]
      rw [renderUnits_neg _ _ hu]
    · have hd' : ¬ ((d : Int) ≤ p) := by exact_mod_cast hd
      simp only [hd', decide_false, Bool.false_eq_true, if_false, hd, SE.eval, three, IE.eval, fmt3, signStr, if_pos hu, natAbs_neg' _ hu,
        String.append_assoc]
  · simp only [hu, decide_false, Bool.false_eq_true, if_false]
    by_cases hd : d ≤ p
    · have hd' : (d : Int) ≤ p := by exact_mod_cast hd
      simp only [hd', decide_true, if_true, hd, SE.eval, two, IE.eval]
      rw [renderUnits_nonneg _ _ hu]
      exact String.empty_append
    · have hd' : ¬ ((d : Int) ≤ p) := by exact_mod_cast hd
      simp only [hd', decide_false, Bool.false_eq_true, if_false, hd, SE.eval, three, IE.eval, fmt3, signStr, if_neg hu, natAbs_nonneg' _ hu,
        String.append_assoc]

/-- the trees on a concrete value (a test, not the claim): -1.2345678 at 5+2 digits displayed with 6 -/
example : guardedStrProg.eval (guardedEnv 5 2 6) (-12345678) = "-1.23456_8" := by decide +kernel
example : fixedStrProg.eval (fixedEnv 4 2) (-12345) = "-1.23" := by decide +kernel

end Droop.C14
